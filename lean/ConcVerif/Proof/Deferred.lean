import ConcVerif.Model.Deferred
/-! The `deferred_guarded` model as a relation, and the first group of its invariants.

`Step s t p e s'` has one constructor per accepted edge of `step` and is equivalent to it
(`Step.of_step`, `Step.to_step`); every fact about one step is proved by `cases` on it.  The pc `p` of
the stepping thread is an index, so a known pc or a known event leaves only the matching edges.
The invariants talk about program counters only through the classifiers below; `Kind s t s'` groups the
edges accordingly (all pc-only moves that keep the classifiers are one case) and is what the invariant
groups are proved by `cases` on.  Their frame lemmas are about an arbitrary pc `p` with `s.pc t = p`:
with the concrete pcs of an edge put in, the side conditions on classifiers hold by computation.

In all files of the component `s s'` are the states before and after a step of thread `t` (`u` any other thread),
`p p'` the pcs of `t`, `e` the event, `es` an accepted trace; helper lemmas take them as implicit section variables. -/
namespace ConcVerif.Deferred

variable {s s' : St} {t u : Tid} {p p' : Pc} {e : Ev} {spur : Bool} {es : List (Tid × Ev)}

def Ctx.task : Ctx → Option TaskId
  | .mod k _ => some k
  | .sh _ => none

/-- holds `m` exclusively -/
def Pc.holdsX : Pc → Bool
  | .dLoad _ | .dClear _ | .dQLock _ | .dSwap _ | .dRun _ | .dIn _ _ | .aIn _ _ | .mUnl _ _ _ => true
  | _ => false

/-- holds `m` shared -/
def Pc.holdsS : Pc → Bool
  | .idle true | .sGot true | .ldHold _ => true
  | _ => false

/-- holds the queue mutex -/
def Pc.holdsQ : Pc → Bool
  | .qPush _ _ | .dSwap _ => true
  | _ => false

/-- the task of the `modify_*` call the thread is inside -/
def Pc.task : Pc → Option TaskId
  | .mTry k _ | .qLock k _ | .qPush k _ | .qFlag k _ | .mRet k _ _ | .aIn k _ | .mUnl k _ _ => some k
  | .dLoad c | .dClear c | .dQLock c | .dSwap c | .dRun c | .dIn c _ => c.task
  | _ => none

/-- … and that task is still in its submitter's hands (neither queued nor applied) -/
def Pc.prePub : Pc → Option TaskId
  | .mTry k _ | .qLock k _ | .qPush k _ => some k
  | .dLoad c | .dClear c | .dQLock c | .dSwap c | .dRun c | .dIn c _ => c.task
  | _ => none

/-- a drainer that has cleared the flag and not yet swapped the queue out -/
def Pc.between : Pc → Bool
  | .dQLock _ | .dSwap _ => true
  | _ => false

/-- a submitter that has pushed its task and not yet raised the flag -/
def Pc.atFlag : Pc → Option TaskId
  | .qFlag k _ => some k
  | _ => none

/-- in the batch loop (may own a non-empty batch) -/
def Pc.runs : Pc → Bool
  | .dRun _ | .dIn _ _ => true
  | _ => false

/-- inside the function of a task -/
def Pc.running : Pc → Option TaskId
  | .dIn _ j => some j
  | .aIn k _ => some k
  | _ => none

/-- direct path after the drain check: everything that had returned before the call is applied or in
the batch -/
def Pc.promise : Pc → Option TaskId
  | .dRun c | .dIn c _ => c.task
  | _ => none

/-- about to perform the shared acquisition (the drain attempt is over or was skipped) -/
def Pc.atAcq : Pc → Bool
  | .sAcq _ => true
  | _ => false

/-- phase of a drain: 1 = holds `m`, flag not yet cleared; 2 = cleared, queue not yet swapped; 3 = batch loop -/
def Pc.drPhase : Pc → Nat
  | .dLoad _ | .dClear _ => 1
  | .dQLock _ | .dSwap _ => 2
  | .dRun _ | .dIn _ _ => 3
  | _ => 0

structure SameClass (p p' : Pc) : Prop where
  hX : p'.holdsX = p.holdsX
  hS : p'.holdsS = p.holdsS
  hQ : p'.holdsQ = p.holdsQ
  task : p'.task = p.task
  prePub : p'.prePub = p.prePub
  between : p'.between = p.between
  atFlag : p'.atFlag = p.atFlag
  runs : p'.runs = p.runs
  running : p'.running = p.running
  promise : p'.promise = p.promise
  atAcq : p'.atAcq = true → p.atAcq = true
  drPhase : p'.drPhase = p.drPhase

theorem Pc.prePub_task {k : TaskId} (h : p.prePub = some k) : p.task = some k := by
  cases p <;> first | exact h | cases h

theorem Pc.promise_prePub {k : TaskId} (h : p.promise = some k) : p.prePub = some k := by
  cases p <;> first | exact h | cases h

theorem Pc.promise_runs {k : TaskId} (h : p.promise = some k) : p.runs = true := by
  cases p <;> first | rfl | cases h

theorem Pc.runs_holdsX (h : p.runs = true) : p.holdsX = true := by
  cases p <;> first | rfl | cases h

theorem Pc.between_holdsX {p : Pc} (h : p.between = true) : p.holdsX = true := by
  cases p <;> first | rfl | cases h

theorem Pc.running_holdsX {k : TaskId} (h : p.running = some k) : p.holdsX = true := by
  cases p <;> first | rfl | cases h

theorem Pc.atFlag_task {k : TaskId} (h : p.atFlag = some k) : p.task = some k := by
  cases p <;> first | exact h | cases h

/-- `Step s t p e s'`: thread `t`, at pc `p` in state `s`, performs `e` and the model moves to `s'`.
One constructor per accepted edge of `step`, the guards as hypotheses.  Suffixes: `M` the `modify_*`
call, `S` the reader-side `do_pending_writes`, `D` `do_pending_writes_internal`, `I` inside a queued
function, `A` inside the caller's own function, `H` with a handle, `L` inside `load()`. -/
inductive Step (s : St) (t : Tid) : Pc → Ev → St → Prop
  | callMod {k a} (hsub : s.sub k = none) : Step s t (.idle false) (.callMod k a)
      ({ s with sub := upd s.sub k (some t), before := upd s.before k s.done }.setPc t (.mTry k a))
  | callSh {h} : Step s t (.idle false) (.callSh h) (s.setPc t (.sFlag (.acq h)))
  | callLoad : Step s t (.idle false) .callLoad (s.setPc t (.sFlag .load))
  | prdH : Step s t (.idle true) (.prd s.val) s
  | sulH (hin : t ∈ s.sh) : Step s t (.idle true) .sul ({ s with sh := s.sh.erase t }.setPc t (.idle false))
  | fpoll {h k} : Step s t (.idle h) (.fpoll k (s.out k).isSome) s
  | fget {h k o} (ho : s.out k = some o) : Step s t (.idle h) (.fget k o) s
  | mtlM {k a} (hm : s.mx = none) (hs : s.sh = []) :
      Step s t (.mTry k a) (.mtl true) ({ s with mx := some t }.setPc t (.dLoad (.mod k a)))
  | mtlMF {k a} (hf : s.spur = true ∨ s.mx ≠ none ∨ s.sh ≠ []) :
      Step s t (.mTry k a) (.mtl false) (s.setPc t (.qLock k a))
  | qlkM {k a} (hq : s.qm = none) : Step s t (.qLock k a) .qlk ({ s with qm := some t }.setPc t (.qPush k a))
  | qulM {k a} (hq : s.qm = some t) :
      Step s t (.qPush k a) .qul ({ s with qm := none, queue := s.queue ++ [k] }.setPc t (.qFlag k a))
  | fstM {k a} : Step s t (.qFlag k a) (.fst true) ({ s with flag := true }.setPc t (.mRet k a false))
  | ret {k a} : Step s t (.mRet k a false) .ret ({ s with done := k :: s.done }.setPc t (.idle false))
  | exc {k a} : Step s t (.mRet k a true) .exc ({ s with done := k :: s.done }.setPc t (.idle false))
  | fldS {c} (hf : s.flag = true) : Step s t (.sFlag c) (.fld true) (s.setPc t (.sTry c))
  | fldSF {c} (hf : s.flag = false) : Step s t (.sFlag c) (.fld false) (s.setPc t (.sAcq c))
  | mtlS {c} (hm : s.mx = none) (hs : s.sh = []) :
      Step s t (.sTry c) (.mtl true) ({ s with mx := some t }.setPc t (.dLoad (.sh c)))
  | mtlSF {c} (hf : s.spur = true ∨ s.mx ≠ none ∨ s.sh ≠ []) : Step s t (.sTry c) (.mtl false) (s.setPc t (.sAcq c))
  | fldD {c} (hf : s.flag = true) : Step s t (.dLoad c) (.fld true) (s.setPc t (.dClear c))
  | fldDF {c} (hf : s.flag = false) : Step s t (.dLoad c) (.fld false) (s.setPc t (.dRun c))
  | fstD {c} : Step s t (.dClear c) (.fst false) ({ s with flag := false }.setPc t (.dQLock c))
  | qlkD {c} (hq : s.qm = none) : Step s t (.dQLock c) .qlk ({ s with qm := some t }.setPc t (.dSwap c))
  | qulD {c} (hq : s.qm = some t) (hb : s.batch = []) :
      Step s t (.dSwap c) .qul ({ s with qm := none, batch := s.queue, queue := [] }.setPc t (.dRun c))
  | ucbD {c j rest} (hb : s.batch = j :: rest) :
      Step s t (.dRun c) (.ucb j) ({ s with batch := rest, applied := s.applied ++ [j] }.setPc t (.dIn c j))
  | ucbA {k a} (hb : s.batch = []) :
      Step s t (.dRun (.mod k a)) (.ucb k) ({ s with applied := s.applied ++ [k] }.setPc t (.aIn k a))
  | mulS {c} (hb : s.batch = []) (hm : s.mx = some t) :
      Step s t (.dRun (.sh c)) .mul ({ s with mx := none }.setPc t (.sAcq c))
  | prdI {c j} : Step s t (.dIn c j) (.prd s.val) s
  | pwrI {c j v} : Step s t (.dIn c j) (.pwr v) { s with val := v }
  | uceI {c j r} : Step s t (.dIn c j) (.uce j r) ({ s with out := upd s.out j (some (.val r)) }.setPc t (.dRun c))
  | uthI {c j} : Step s t (.dIn c j) (.uth j) ({ s with out := upd s.out j (some .exc) }.setPc t (.dRun c))
  | prdA {k a} : Step s t (.aIn k a) (.prd s.val) s
  | pwrA {k a v} : Step s t (.aIn k a) (.pwr v) { s with val := v }
  | uceA {k a r} :
      Step s t (.aIn k a) (.uce k r) ({ s with out := upd s.out k (some (.val r)) }.setPc t (.mUnl k a false))
  -- `modify_async` (`a = true`) captures the exception in the future, only `modify_detach` lets it reach the caller
  | uthA {k a} : Step s t (.aIn k a) (.uth k) ({ s with out := upd s.out k (some .exc) }.setPc t (.mUnl k a (!a)))
  | mulM {k a thr} (hm : s.mx = some t) : Step s t (.mUnl k a thr) .mul ({ s with mx := none }.setPc t (.mRet k a thr))
  | slkL (hm : s.mx = none) : Step s t (.sAcq .load) .slk ({ s with sh := t :: s.sh }.setPc t (.ldHold false))
  | slk (hm : s.mx = none) : Step s t (.sAcq (.acq .block)) .slk ({ s with sh := t :: s.sh }.setPc t (.sGot true))
  | stl (hm : s.mx = none) : Step s t (.sAcq (.acq .try_)) (.stl true) ({ s with sh := t :: s.sh }.setPc t (.sGot true))
  | stlF : Step s t (.sAcq (.acq .try_)) (.stl false) (s.setPc t (.sGot false))
  | stf {h} (hh : h = .for_ ∨ h = .until_) (hm : s.mx = none) :
      Step s t (.sAcq (.acq h)) (.stf true) ({ s with sh := t :: s.sh }.setPc t (.sGot true))
  | stfF {h} (hh : h = .for_ ∨ h = .until_) : Step s t (.sAcq (.acq h)) (.stf false) (s.setPc t (.sGot false))
  | got {ok} : Step s t (.sGot ok) (.got ok) (s.setPc t (.idle ok))
  | prdL {thr} : Step s t (.ldHold thr) (.prd s.val) s
  -- the copy made by `load()` throws: the model re-uses the event `uth`, the task id is not looked at
  | uthL {k} : Step s t (.ldHold false) (.uth k) (s.setPc t (.ldHold true))
  | sulL {thr} (hin : t ∈ s.sh) : Step s t (.ldHold thr) .sul ({ s with sh := s.sh.erase t }.setPc t (.ldRet thr))
  | retL : Step s t (.ldRet false) .ret (s.setPc t (.idle false))
  | excL : Step s t (.ldRet true) .exc (s.setPc t (.idle false))

theorem tryX_true : s.tryX true = true ↔ s.mx = none ∧ s.sh = [] := by
  simp [St.tryX]

theorem tryX_false : s.tryX false = true ↔ s.spur = true ∨ s.mx ≠ none ∨ s.sh ≠ [] := by
  simp [St.tryX, or_assoc]

/-- Inversion of `step`.  `p` is a variable so that `split` substitutes the pc of each arm into the goal; the bullets
follow the arms of the `match` in `step`, in that order. -/
theorem Step.of_step (hp : s.pc t = p) (hs : step s t e = some s') :
    Step s t p e s' := by
  unfold step at hs
  rw [hp] at hs
  split at hs
  · obtain ⟨hsub, rfl⟩ := ite_some hs; exact .callMod hsub
  · cases hs; exact .callSh
  · cases hs; exact .callLoad
  · obtain ⟨rfl, rfl⟩ := ite_some hs; exact .prdH
  · obtain ⟨hin, rfl⟩ := ite_some hs; exact .sulH hin
  · obtain ⟨rfl, rfl⟩ := ite_some hs; exact .fpoll
  · obtain ⟨ho, rfl⟩ := ite_some hs; exact .fget ho
  · split at hs
    · rename_i ok hg; cases ok
      · cases hs; exact .mtlMF (tryX_false.1 hg)
      · cases hs; exact .mtlM (tryX_true.1 hg).1 (tryX_true.1 hg).2
    · cases hs
  · obtain ⟨hq, rfl⟩ := ite_some hs; exact .qlkM hq
  · obtain ⟨hq, rfl⟩ := ite_some hs; exact .qulM hq
  · obtain ⟨rfl, rfl⟩ := ite_some hs; exact .fstM
  · obtain ⟨rfl, rfl⟩ := ite_some hs; exact .ret
  · obtain ⟨rfl, rfl⟩ := ite_some hs; exact .exc
  · split at hs
    · rename_i v hv; cases hs; cases v
      · exact .fldSF hv.symm
      · exact .fldS hv.symm
    · cases hs
  · split at hs
    · rename_i ok hg; cases ok
      · cases hs; exact .mtlSF (tryX_false.1 hg)
      · cases hs; exact .mtlS (tryX_true.1 hg).1 (tryX_true.1 hg).2
    · cases hs
  · split at hs
    · rename_i v hv; cases hs; cases v
      · exact .fldDF hv.symm
      · exact .fldD hv.symm
    · cases hs
  · obtain ⟨rfl, rfl⟩ := ite_some hs; exact .fstD
  · obtain ⟨hq, rfl⟩ := ite_some hs; exact .qlkD hq
  · obtain ⟨hq, rfl⟩ := ite_some hs; exact .qulD hq.1 hq.2
  · split at hs
    · rename_i hb; split at hs
      · rename_i hj; cases hs; cases hj; exact .ucbD hb
      · cases hs
    · rename_i hb; split at hs
      · split at hs
        · rename_i hj; cases hs; cases hj; exact .ucbA hb
        · cases hs
      · cases hs
  · obtain ⟨hq, rfl⟩ := ite_some hs; exact .mulS hq.1 hq.2
  · obtain ⟨rfl, rfl⟩ := ite_some hs; exact .prdI
  · cases hs; exact .pwrI
  · obtain ⟨rfl, rfl⟩ := ite_some hs; exact .uceI
  · obtain ⟨rfl, rfl⟩ := ite_some hs; exact .uthI
  · obtain ⟨rfl, rfl⟩ := ite_some hs; exact .prdA
  · cases hs; exact .pwrA
  · obtain ⟨rfl, rfl⟩ := ite_some hs; exact .uceA
  · obtain ⟨rfl, rfl⟩ := ite_some hs; exact .uthA
  · obtain ⟨hm, rfl⟩ := ite_some hs; exact .mulM hm
  · split at hs
    · rename_i hg; cases hs
      rcases hg with ⟨hc | hc, hm⟩ <;> cases hc
      · exact .slkL hm
      · exact .slk hm
    · cases hs
  · rename_i ok; cases ok
    · cases hs; exact .stlF
    · rw [if_pos rfl] at hs; split at hs
      · rename_i hm; cases hs; exact .stl hm
      · cases hs
  · split at hs
    · rename_i ok hh; cases ok
      · cases hs; exact .stfF hh
      · rw [if_pos rfl] at hs; split at hs
        · rename_i hm; cases hs; exact .stf hh hm
        · cases hs
    · cases hs
  · obtain ⟨rfl, rfl⟩ := ite_some hs; exact .got
  · obtain ⟨rfl, rfl⟩ := ite_some hs; exact .prdL
  · obtain ⟨rfl, rfl⟩ := ite_some hs; exact .uthL
  · obtain ⟨hin, rfl⟩ := ite_some hs; exact .sulL hin
  · obtain ⟨rfl, rfl⟩ := ite_some hs; exact .retL
  · obtain ⟨rfl, rfl⟩ := ite_some hs; exact .excL
  · cases hs

theorem Step.to_step (hp : s.pc t = p) (h : Step s t p e s') :
    step s t e = some s' := by
  unfold step
  rw [hp]
  cases h with
  | callSh | callLoad | pwrI | pwrA | stlF => rfl
  | prdH | prdI | prdA | prdL | fstM | fstD | ret | exc | uceI | uthI | uceA | uthA | got | uthL | retL | excL =>
    exact if_pos rfl
  | @fpoll h k => cases h <;> exact if_pos rfl
  | @fget h k o ho => cases h <;> exact if_pos ho
  | callMod hg | sulH hg | sulL hg | qlkM hg | qlkD hg | qulM hg | mulM hg | stl hg | stfF hg => exact if_pos hg
  | qulD hq hb => exact if_pos ⟨hq, hb⟩
  | mulS hb hm => exact if_pos ⟨hb, hm⟩
  | fldS hf | fldSF hf | fldD hf | fldDF hf => exact if_pos hf.symm
  | mtlM hm hs | mtlS hm hs => exact if_pos (tryX_true.2 ⟨hm, hs⟩)
  | mtlMF hf | mtlSF hf => exact if_pos (tryX_false.2 hf)
  | ucbD hb | ucbA hb => rw [hb]; exact if_pos rfl
  | slkL hm => exact if_pos ⟨.inl rfl, hm⟩
  | slk hm => exact if_pos ⟨.inr rfl, hm⟩
  | stf hh hm => exact (if_pos hh).trans (if_pos hm)

theorem Step.enabled (hp : s.pc t = p) (h : Step s t p e s') :
    (step s t e).isSome = true := by
  rw [h.to_step hp]; rfl

/-! `Kind s t s'` forgets the event and groups the edges the invariants cannot tell apart: they talk about program
counters only through the classifiers above, so all pc-only moves that keep the classifiers are one case (`Kind.move`),
as are the reads, the two writes, and the ends of a function.  Every other constructor is one edge with its guard.
`move`: the calls of the reader side, a failed try-lock in `modify_*`, a flag load that sees `true`, a failed shared
try, `got`, the throw of `load()`'s copy and its two returns (`Step.kind` is the table). -/

inductive Kind (s : St) (t : Tid) : St → Prop
  | stutter : Kind s t s
  | wr (v : Int) (hrun : ∃ k, (s.pc t).running = some k) :
      Kind s t { s with val := v }
  | move (p p' : Pc) (hp : s.pc t = p) (hc : SameClass p p') : Kind s t (s.setPc t p')
  | skipDrain (c : Ctx) (hp : s.pc t = .dLoad c) (hf : s.flag = false) : Kind s t (s.setPc t (.dRun c))
  | skipShared (c : SCtx) (hp : s.pc t = .sFlag c) (hf : s.flag = false) : Kind s t (s.setPc t (.sAcq c))
  | failTry (c : SCtx) (hp : s.pc t = .sTry c) (hfail : s.spur = true ∨ s.mx ≠ none ∨ s.sh ≠ []) :
      Kind s t (s.setPc t (.sAcq c))
  | call (k : TaskId) (a : Bool) (hp : s.pc t = .idle false) (hsub : s.sub k = none) :
      Kind s t ({ s with sub := upd s.sub k (some t), before := upd s.before k s.done }.setPc t (.mTry k a))
  | lockXm (k : TaskId) (a : Bool) (hp : s.pc t = .mTry k a) (hm : s.mx = none) (hs : s.sh = []) :
      Kind s t ({ s with mx := some t }.setPc t (.dLoad (.mod k a)))
  | lockXs (c : SCtx) (hp : s.pc t = .sTry c) (hm : s.mx = none) (hs : s.sh = []) :
      Kind s t ({ s with mx := some t }.setPc t (.dLoad (.sh c)))
  | unlockXm (k : TaskId) (a thr : Bool) (hp : s.pc t = .mUnl k a thr) (hm : s.mx = some t) :
      Kind s t ({ s with mx := none }.setPc t (.mRet k a thr))
  | unlockXs (c : SCtx) (hp : s.pc t = .dRun (.sh c)) (hb : s.batch = []) (hm : s.mx = some t) :
      Kind s t ({ s with mx := none }.setPc t (.sAcq c))
  | lockSg (c : SCtx) (hp : s.pc t = .sAcq c) (hm : s.mx = none) :
      Kind s t ({ s with sh := t :: s.sh }.setPc t (.sGot true))
  | lockSl (hp : s.pc t = .sAcq .load) (hm : s.mx = none) :
      Kind s t ({ s with sh := t :: s.sh }.setPc t (.ldHold false))
  | unlockSh (hp : s.pc t = .idle true) (hin : t ∈ s.sh) :
      Kind s t ({ s with sh := s.sh.erase t }.setPc t (.idle false))
  | unlockSl (thr : Bool) (hp : s.pc t = .ldHold thr) (hin : t ∈ s.sh) :
      Kind s t ({ s with sh := s.sh.erase t }.setPc t (.ldRet thr))
  | lockQm (k : TaskId) (a : Bool) (hp : s.pc t = .qLock k a) (hq : s.qm = none) :
      Kind s t ({ s with qm := some t }.setPc t (.qPush k a))
  | lockQd (c : Ctx) (hp : s.pc t = .dQLock c) (hq : s.qm = none) :
      Kind s t ({ s with qm := some t }.setPc t (.dSwap c))
  | push (k : TaskId) (a : Bool) (hp : s.pc t = .qPush k a) (hq : s.qm = some t) :
      Kind s t ({ s with qm := none, queue := s.queue ++ [k] }.setPc t (.qFlag k a))
  | raise (k : TaskId) (a : Bool) (hp : s.pc t = .qFlag k a) :
      Kind s t ({ s with flag := true }.setPc t (.mRet k a false))
  | clear (c : Ctx) (hp : s.pc t = .dClear c) : Kind s t ({ s with flag := false }.setPc t (.dQLock c))
  | swap (c : Ctx) (hp : s.pc t = .dSwap c) (hq : s.qm = some t) (hb : s.batch = []) :
      Kind s t ({ s with qm := none, batch := s.queue, queue := [] }.setPc t (.dRun c))
  | applyHead (c : Ctx) (j : TaskId) (rest : List TaskId) (hp : s.pc t = .dRun c) (hb : s.batch = j :: rest) :
      Kind s t ({ s with batch := rest, applied := s.applied ++ [j] }.setPc t (.dIn c j))
  | applyOwn (k : TaskId) (a : Bool) (hp : s.pc t = .dRun (.mod k a)) (hb : s.batch = []) :
      Kind s t ({ s with applied := s.applied ++ [k] }.setPc t (.aIn k a))
  | endHead (c : Ctx) (j : TaskId) (o : Outcome) (hp : s.pc t = .dIn c j) :
      Kind s t ({ s with out := upd s.out j (some o) }.setPc t (.dRun c))
  | endOwn (k : TaskId) (a thr : Bool) (o : Outcome) (hp : s.pc t = .aIn k a) :
      Kind s t ({ s with out := upd s.out k (some o) }.setPc t (.mUnl k a thr))
  | done (k : TaskId) (a thr : Bool) (hp : s.pc t = .mRet k a thr) :
      Kind s t ({ s with done := k :: s.done }.setPc t (.idle false))

theorem Step.kind (hp : s.pc t = p) (h : Step s t p e s') : Kind s t s' := by
  cases h with
  | prdH | fpoll | fget | prdI | prdA | prdL => exact .stutter
  | pwrI | pwrA => exact .wr _ ⟨_, by rw [hp]; rfl⟩
  | callMod hsub => exact .call _ _ hp hsub
  | mtlM hm hs => exact .lockXm _ _ hp hm hs
  | mtlS hm hs => exact .lockXs _ hp hm hs
  | mtlSF hf => exact .failTry _ hp hf
  | qlkM hq => exact .lockQm _ _ hp hq
  | qlkD hq => exact .lockQd _ hp hq
  | qulM hq => exact .push _ _ hp hq
  | qulD hq hb => exact .swap _ hp hq hb
  | fstM => exact .raise _ _ hp
  | fstD => exact .clear _ hp
  | ret | exc => exact .done _ _ _ hp
  | fldSF hf => exact .skipShared _ hp hf
  | fldDF hf => exact .skipDrain _ hp hf
  | ucbD hb => exact .applyHead _ _ _ hp hb
  | ucbA hb => exact .applyOwn _ _ hp hb
  | uceI | uthI => exact .endHead _ _ _ hp
  | uceA | uthA => exact .endOwn _ _ _ _ hp
  | mulS hb hm => exact .unlockXs _ hp hb hm
  | mulM hm => exact .unlockXm _ _ _ hp hm
  | slkL hm => exact .lockSl hp hm
  | slk hm | stl hm | stf _ hm => exact .lockSg _ hp hm
  | sulH hin => exact .unlockSh hp hin
  | sulL hin => exact .unlockSl _ hp hin
  | @got ok => cases ok <;> exact .move _ _ hp ⟨rfl, rfl, rfl, rfl, rfl, rfl, rfl, rfl, rfl, rfl, nofun, rfl⟩
  | callSh | callLoad | mtlMF | fldS | fldD | stlF | stfF | uthL | retL | excL =>
    exact .move _ _ hp ⟨rfl, rfl, rfl, rfl, rfl, rfl, rfl, rfl, rfl, rfl, nofun, rfl⟩

theorem Kind.of_step (hs : step s t e = some s') : Kind s t s' :=
  (Step.of_step rfl hs).kind rfl

theorem Kind.pc_other (hs : Kind s t s') (hu : u ≠ t) : s'.pc u = s.pc u := by
  cases hs with
  | stutter | wr => rfl
  | _ => exact upd_other _ _ _ _ hu

theorem Kind.applied_mono (hs : Kind s t s') : ∃ l, s'.applied = s.applied ++ l := by
  cases hs with
  | applyHead c j | applyOwn j => exact ⟨[j], rfl⟩
  | _ => exact ⟨[], (List.append_nil _).symm⟩

theorem Kind.done_mono (hs : Kind s t s') {a : TaskId} (ha : a ∈ s.done) : a ∈ s'.done := by
  cases hs with
  | done => exact List.mem_cons_of_mem _ ha
  | _ => exact ha

theorem Kind.sub_mono (hs : Kind s t s') {k : TaskId} {u : Tid} (hk : s.sub k = some u) :
    s'.sub k = some u := by
  cases hs with
  | call k' a hp hsub => exact (upd_other _ _ _ _ fun he => by rw [he, hsub] at hk; cases hk).trans hk
  | _ => exact hk

theorem Kind.before_frozen (hs : Kind s t s') {b : TaskId} (hb : s.sub b ≠ none) :
    s'.before b = s.before b := by
  cases hs with
  | call k' a hp hsub => exact upd_other _ _ _ _ fun he => hb (he ▸ hsub)
  | _ => rfl

/-- the batch is only ever consumed from its head, and refilled (by the swap) only when empty -/
theorem Kind.batch (hs : Kind s t s') :
    s'.batch = s.batch ∨ (∃ j, s.batch = j :: s'.batch) ∨ (s.batch = [] ∧ s'.batch = s.queue) := by
  cases hs with
  | swap c hp hq hb => exact .inr (.inr ⟨hb, rfl⟩)
  | applyHead c j rest hp hb => exact .inr (.inl ⟨j, hb⟩)
  | _ => exact .inl rfl

theorem Kind.spur_same (hs : Kind s t s') : s'.spur = s.spur := by
  cases hs <;> rfl

@[simp] theorem setPc_pc (s : St) (t : Tid) (p : Pc) : (s.setPc t p).pc = upd s.pc t p := rfl

/-- `a` occurs strictly before `b` in `l` -/
def Prec (l : List TaskId) (a b : TaskId) : Prop := ∃ l1 l2, l = l1 ++ b :: l2 ∧ a ∈ l1

theorem Prec.mem_right {l : List TaskId} {a b : TaskId} (h : Prec l a b) : b ∈ l := by
  obtain ⟨l1, l2, hl, _⟩ := h
  subst hl; simp

structure InvL (s : St) : Prop where
  xs : s.mx ≠ none → s.sh = []
  shN : s.sh.Nodup
  shP : ∀ u, u ∈ s.sh ↔ (s.pc u).holdsS = true
  mxP : ∀ u, s.mx = some u ↔ (s.pc u).holdsX = true
  qmP : ∀ u, s.qm = some u ↔ (s.pc u).holdsQ = true

theorem invL_init (spur : Bool) : InvL (init spur) := by
  constructor <;> simp [init, Pc.holdsS, Pc.holdsX, Pc.holdsQ]

/-! A mutex field `m` and the classifier `f` of the pcs that hold it, under a move of `t` to `p'`. -/

theorem holder_keep {f : Pc → Bool} {pc : Tid → Pc} {P : Tid → Prop}
    (h : ∀ u, P u ↔ f (pc u) = true) (hf : f p' = f (pc t)) (u : Tid) : P u ↔ f (upd pc t p' u) = true := by
  rw [upd_proj f pc t p' hf u]; exact h u

theorem holder_acq {f : Pc → Bool} {pc : Tid → Pc}
    (h : ∀ u, none = some u ↔ f (pc u) = true) (hf : f p' = true) (u : Tid) :
    some t = some u ↔ f (upd pc t p' u) = true := by
  by_cases hu : u = t
  · subst hu; rw [upd_same, hf]; exact ⟨fun _ => rfl, fun _ => rfl⟩
  · rw [upd_other _ _ _ _ hu]
    exact ⟨fun h' => absurd (Option.some.inj h').symm hu, fun h' => nomatch (h u).2 h'⟩

theorem holder_rel {f : Pc → Bool} {pc : Tid → Pc}
    (h : ∀ u, some t = some u ↔ f (pc u) = true) (hf : f p' = false) (u : Tid) :
    none = some u ↔ f (upd pc t p' u) = true := by
  by_cases hu : u = t
  · subst hu; rw [upd_same, hf]; exact ⟨nofun, nofun⟩
  · rw [upd_other _ _ _ _ hu]
    exact ⟨nofun, fun h' => absurd (Option.some.inj ((h u).2 h')).symm hu⟩

theorem invL_move (h : InvL s) (hp : s.pc t = p)
    (hpc : s'.pc = upd s.pc t p')
    (hX : p'.holdsX = p.holdsX) (hS : p'.holdsS = p.holdsS) (hQ : p'.holdsQ = p.holdsQ)
    (hmx : s'.mx = s.mx) (hsh : s'.sh = s.sh) (hqm : s'.qm = s.qm) : InvL s' := by
  subst hp
  obtain ⟨h1, h2, h3, h4, h5⟩ := h
  refine ⟨by rw [hmx, hsh]; exact h1, hsh ▸ h2, ?_, ?_, ?_⟩ <;> rw [hpc]
  · rw [hsh]; exact holder_keep h3 hS
  · rw [hmx]; exact holder_keep h4 hX
  · rw [hqm]; exact holder_keep h5 hQ

theorem invL_lockX (h : InvL s) (hp : s.pc t = p)
    (hpc : s'.pc = upd s.pc t p')
    (hm : s.mx = none) (hs : s.sh = []) (hX : p'.holdsX = true)
    (hS : p'.holdsS = p.holdsS) (hQ : p'.holdsQ = p.holdsQ)
    (hmx : s'.mx = some t) (hsh : s'.sh = s.sh) (hqm : s'.qm = s.qm) : InvL s' := by
  subst hp
  obtain ⟨h1, h2, h3, h4, h5⟩ := h
  rw [hm] at h4
  refine ⟨fun _ => hsh.trans hs, hsh ▸ h2, ?_, ?_, ?_⟩ <;> rw [hpc]
  · rw [hsh]; exact holder_keep h3 hS
  · rw [hmx]; exact holder_acq h4 hX
  · rw [hqm]; exact holder_keep h5 hQ

theorem invL_unlockX (h : InvL s) (hp : s.pc t = p)
    (hpc : s'.pc = upd s.pc t p')
    (hm : s.mx = some t) (hX : p'.holdsX = false)
    (hS : p'.holdsS = p.holdsS) (hQ : p'.holdsQ = p.holdsQ)
    (hmx : s'.mx = none) (hsh : s'.sh = s.sh) (hqm : s'.qm = s.qm) : InvL s' := by
  subst hp
  obtain ⟨h1, h2, h3, h4, h5⟩ := h
  rw [hm] at h4
  refine ⟨fun h' => absurd hmx h', hsh ▸ h2, ?_, ?_, ?_⟩ <;> rw [hpc]
  · rw [hsh]; exact holder_keep h3 hS
  · rw [hmx]; exact holder_rel h4 hX
  · rw [hqm]; exact holder_keep h5 hQ

theorem invL_lockS (h : InvL s) (hp : s.pc t = p)
    (hpc : s'.pc = upd s.pc t p')
    (hm : s.mx = none) (hnS : p.holdsS = false) (hS : p'.holdsS = true)
    (hX : p'.holdsX = p.holdsX) (hQ : p'.holdsQ = p.holdsQ)
    (hmx : s'.mx = s.mx) (hsh : s'.sh = t :: s.sh) (hqm : s'.qm = s.qm) : InvL s' := by
  subst hp
  obtain ⟨h1, h2, h3, h4, h5⟩ := h
  have hnin : t ∉ s.sh := by intro hin; have := (h3 t).1 hin; rw [hnS] at this; cases this
  refine ⟨?_, ?_, ?_, ?_, ?_⟩
  · intro h'; rw [hmx, hm] at h'; exact absurd rfl h'
  · rw [hsh]; exact List.nodup_cons.2 ⟨hnin, h2⟩
  · intro u; rw [hsh, hpc]
    by_cases hu : u = t
    · subst hu; simp [hS]
    · simp only [upd_other _ _ _ _ hu, List.mem_cons, hu, false_or]; exact h3 u
  · intro u; rw [hmx, hpc, upd_proj Pc.holdsX s.pc t p' hX u]; exact h4 u
  · intro u; rw [hqm, hpc, upd_proj Pc.holdsQ s.pc t p' hQ u]; exact h5 u

theorem invL_unlockS (h : InvL s) (hp : s.pc t = p)
    (hpc : s'.pc = upd s.pc t p')
    (hS : p'.holdsS = false)
    (hX : p'.holdsX = p.holdsX) (hQ : p'.holdsQ = p.holdsQ)
    (hmx : s'.mx = s.mx) (hsh : s'.sh = s.sh.erase t) (hqm : s'.qm = s.qm) : InvL s' := by
  subst hp
  obtain ⟨h1, h2, h3, h4, h5⟩ := h
  refine ⟨?_, ?_, ?_, ?_, ?_⟩
  · intro h'; rw [hmx] at h'; rw [hsh, h1 h']; rfl
  · rw [hsh]; exact h2.erase t
  · intro u; rw [hsh, hpc]
    by_cases hu : u = t
    · subst hu; simp [hS, h2.mem_erase_iff]
    · simp only [upd_other _ _ _ _ hu, h2.mem_erase_iff, ne_eq, hu, not_false_eq_true, true_and]; exact h3 u
  · intro u; rw [hmx, hpc, upd_proj Pc.holdsX s.pc t p' hX u]; exact h4 u
  · intro u; rw [hqm, hpc, upd_proj Pc.holdsQ s.pc t p' hQ u]; exact h5 u

theorem invL_lockQ (h : InvL s) (hp : s.pc t = p)
    (hpc : s'.pc = upd s.pc t p')
    (hq : s.qm = none) (hQ : p'.holdsQ = true)
    (hX : p'.holdsX = p.holdsX) (hS : p'.holdsS = p.holdsS)
    (hmx : s'.mx = s.mx) (hsh : s'.sh = s.sh) (hqm : s'.qm = some t) : InvL s' := by
  subst hp
  obtain ⟨h1, h2, h3, h4, h5⟩ := h
  rw [hq] at h5
  refine ⟨by rw [hmx, hsh]; exact h1, hsh ▸ h2, ?_, ?_, ?_⟩ <;> rw [hpc]
  · rw [hsh]; exact holder_keep h3 hS
  · rw [hmx]; exact holder_keep h4 hX
  · rw [hqm]; exact holder_acq h5 hQ

theorem invL_unlockQ (h : InvL s) (hp : s.pc t = p)
    (hpc : s'.pc = upd s.pc t p')
    (hq : s.qm = some t) (hQ : p'.holdsQ = false)
    (hX : p'.holdsX = p.holdsX) (hS : p'.holdsS = p.holdsS)
    (hmx : s'.mx = s.mx) (hsh : s'.sh = s.sh) (hqm : s'.qm = none) : InvL s' := by
  subst hp
  obtain ⟨h1, h2, h3, h4, h5⟩ := h
  rw [hq] at h5
  refine ⟨by rw [hmx, hsh]; exact h1, hsh ▸ h2, ?_, ?_, ?_⟩ <;> rw [hpc]
  · rw [hsh]; exact holder_keep h3 hS
  · rw [hmx]; exact holder_keep h4 hX
  · rw [hqm]; exact holder_rel h5 hQ

theorem invL_step (h : InvL s) (hs : Kind s t s') : InvL s' := by
  cases hs with
  | stutter => exact h
  | wr v _ => exact invL_move h rfl (upd_self _ t).symm rfl rfl rfl rfl rfl rfl
  | move p p' hp hc => exact invL_move h hp rfl hc.hX hc.hS hc.hQ rfl rfl rfl
  | lockXm k a hp hm hs | lockXs c hp hm hs => exact invL_lockX h hp rfl hm hs rfl rfl rfl rfl rfl rfl
  | unlockXm k a thr hp hm | unlockXs c hp _ hm => exact invL_unlockX h hp rfl hm rfl rfl rfl rfl rfl rfl
  | lockSg c hp hm | lockSl hp hm => exact invL_lockS h hp rfl hm rfl rfl rfl rfl rfl rfl rfl
  | unlockSh hp | unlockSl thr hp => exact invL_unlockS h hp rfl rfl rfl rfl rfl rfl rfl
  | lockQm k a hp hq | lockQd c hp hq => exact invL_lockQ h hp rfl hq rfl rfl rfl rfl rfl rfl
  | push k a hp hq | swap c hp hq => exact invL_unlockQ h hp rfl hq rfl rfl rfl rfl rfl rfl
  | _ =>
    have hp := ‹s.pc t = _›
    exact invL_move h hp rfl rfl rfl rfl rfl rfl rfl

theorem InvL.holder_eq (h : InvL s) {t u : Tid} (ht : (s.pc t).holdsX = true) (hu : (s.pc u).holdsX = true) :
    u = t := by
  have a := (h.mxP t).2 ht
  have b := (h.mxP u).2 hu
  rw [a] at b; injection b with b; exact b.symm

end ConcVerif.Deferred
