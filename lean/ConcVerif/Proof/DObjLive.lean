import ConcVerif.Proof.DObjConc
import ConcVerif.Base.Live
/-! Two-level ranking for `DelayedObjects` (instance of the lexicographic form in `Base/Live.lean`).

Environment events: `call`, the tap observation `acc` (a stutter step of the model) and a consumer's
observation `got` of a ready future.  Library steps: `mlk`, every `set_value` (`pset`) of the critical
section, `mul`, `ret`.  The number of `set_value` calls of a critical section is fixed when the lock is
taken (`fulfillAllPromises` and the destructor walk the pending map as it is then, and other threads may
still add to it before), hence the two levels: first "has not taken the lock yet", then `todo.length + 2`.
The `+ 2` are the `mul` and the `ret` that follow the last `set_value`: `locked` with `todo` left has `todo.length`
`pset` steps, then `mul` (to `unlocked`, rank 1), then `ret` (to `idle`, rank 0).

After the ranking: enabledness of library steps (`LibEnabled`): the lock holder always has one (`holder_lib`), and a
thread inside a call has one or waits for a holder that has one (`lib_enabled_or_waits`) — the form of deadlock-freedom
that does not count the stutter `acc`. -/
namespace ConcVerif.DObj

def isEnv : Ev → Bool
  | .call _ | .acc | .got _ _ => true
  | _ => false

def Pc.alpha : Pc → Nat
  | .called _ => 1
  | _ => 0

def Pc.rank : Pc → Nat
  | .idle => 0
  | .called _ => 0
  | .locked _ _ todo => todo.length + 2
  | .unlocked _ _ => 1

def α (s : St) (t : Tid) : Nat := (s.pc t).alpha
def μ (s : St) (t : Tid) : Nat := (s.pc t).rank

theorem step_dec {s s' : St} {t : Tid} {e : Ev} (hs : step s t e = some s') (he : isEnv e = false) :
    (s'.pc t).alpha < (s.pc t).alpha ∨ ((s'.pc t).alpha = (s.pc t).alpha ∧ (s'.pc t).rank < (s.pc t).rank) := by
  induction step_tr hs with
  | mlk o σ r l hpc => left; simp [hpc, Pc.alpha]
  | pset o r todo v hpc hv =>
    have := List.length_erase_of_mem hv
    have := List.length_pos_of_mem hv
    right; simp [hpc, Pc.alpha, Pc.rank]; omega
  | mul o r hpc | ret o r hpc => right; simp [hpc, Pc.alpha, Pc.rank]
  | _ => cases he

theorem rankedLex : Live.RankedLex step (fun _ => True) isEnv α μ where
  good := fun _ _ _ _ _ _ _ => trivial
  dec := by
    intro s t e s' _ hs he
    rcases step_dec hs he with h | ⟨h1, h2⟩
    · exact Or.inl h
    · exact Or.inr ⟨h1, h2, fun u hu => by simp [μ, tr_pc_other (step_tr hs) hu]⟩
  frame := by
    intro s t e s' u _ hs _ hu
    simp [α, tr_pc_other (step_tr hs) hu]

def LibEnabled (s : St) (t : Tid) : Prop := ∃ e, isEnv e = false ∧ (step s t e).isSome = true

theorem LibEnabled.step {s : St} {t : Tid} (h : LibEnabled s t) : ∃ e s', step s t e = some s' :=
  h.imp fun _ he => Option.isSome_iff_exists.1 he.2

/-- the lock holder is never blocked: its next `set_value`, or the unlock, is enabled -/
theorem holder_lib {s : St} {t : Tid} (hi : Inv s) (hl : s.lock = some t) : LibEnabled s t := by
  obtain ⟨o, r, td, hp⟩ := (hi.lockPc t).1 hl
  cases td with
  | nil => exact ⟨.mul, rfl, by simp [step, hp, hl]⟩
  | cons v vs => exact ⟨.pset v, rfl, by simp [step, hp]⟩

theorem lib_enabled_or_waits {s : St} {t : Tid} (hi : Inv s) (hpc : s.pc t ≠ .idle) :
    LibEnabled s t ∨ ∃ u, u ≠ t ∧ s.lock = some u ∧ LibEnabled s u := by
  cases hp : s.pc t with
  | idle => exact absurd hp hpc
  | called o =>
    cases hl : s.lock with
    | none =>
      obtain ⟨s', hs⟩ := mlk_defined hi hp hl
      exact .inl ⟨.mlk, rfl, by simp [hs]⟩
    | some u =>
      refine .inr ⟨u, fun hh => ?_, rfl, holder_lib hi hl⟩
      subst hh
      obtain ⟨_, _, _, hq⟩ := (hi.lockPc u).1 hl
      rw [hp] at hq; cases hq
  | locked o r td => exact .inl (holder_lib hi ((hi.lockPc t).2 ⟨o, r, td, hp⟩))
  | unlocked o r => exact .inl ⟨.ret o r, rfl, by simp [step, hp]⟩

end ConcVerif.DObj
