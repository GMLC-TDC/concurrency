import ConcVerif.Proof.Trigger
import ConcVerif.Proof.HBUtil
/-! Connection of the TriggerVariable model to the happens-before layer: both flags are only ever
stored with seq_cst (the event grammar of the model has no other store) and loaded with acquire or
seq_cst, so every store of a flag synchronises with every later load that reads from it; and in every
accepted trace a load that returns a value different from the initial one reads from a store of that
value.  Client data written before `trigger()` / `activate()` and read after a `wait()` /
`waitActivation()` / `isTriggered()` … that saw the flag is therefore ordered. -/
namespace ConcVerif.Trigger
open HB (lq_lt lq_mono lq_snoc)

/-- mutex `triggerLock` / `activeLock` = 0 / 1; atomic `triggered` / `activated` = 0 / 1 -/
def sideLoc : Side → HB.Loc
  | .trig => 0
  | .act => 1

theorem sideLoc_inj {a b : Side} (h : sideLoc a = sideLoc b) : a = b := by
  cases a <;> cases b <;> simp [sideLoc] at h <;> rfl

def cvt : Ord → HB.Ord
  | .acq => .acq
  | .sc => .sc

theorem cvt_acq (o : Ord) : (cvt o).isAcq = true := by cases o <;> rfl

/-- happens-before content of a model event (a cv wait is a release followed by a re-acquisition) -/
def toHB : Ev → HB.Ev
  | .mlk m => .acq (sideLoc m) .X
  | .mul m => .rel (sideLoc m) .X
  | .cwt m => .rel (sideLoc m) .X
  | .cwk m _ => .acq (sideLoc m) .X
  | .ld a o _ => .ld (sideLoc a) (cvt o)
  | .st a _ => .st (sideLoc a) .sc
  | _ => .nop

def hbTrace (es : List (Tid × Ev)) : HB.Trace := es.map (fun p => (p.1, toHB p.2))

theorem hbTrace_get {es : List (Tid × Ev)} {i : Nat} {t : Tid} {e : Ev} (h : es[i]? = some (t, e)) :
    (hbTrace es)[i]? = some (t, toHB e) := by simp [hbTrace, h]

theorem hbTrace_st_inv {es : List (Tid × Ev)} {k : Nat} {w : Tid} {a : Side} {o : HB.Ord}
    (h : (hbTrace es)[k]? = some (w, .st (sideLoc a) o)) : ∃ v, es[k]? = some (w, Ev.st a v) := by
  simp only [hbTrace, List.getElem?_map] at h
  cases hk : es[k]? with
  | none => simp [hk] at h
  | some p =>
    obtain ⟨u, e⟩ := p
    simp [hk] at h
    cases e <;> simp [toHB] at h
    obtain ⟨h1, h2, _⟩ := h
    subst h1; rw [sideLoc_inj h2]; exact ⟨_, rfl⟩

/-- **every store of a flag synchronises with every later load that reads from it** (any event list) -/
theorem st_sw_ld (es : List (Tid × Ev)) {k l : Nat} {t r : Tid} {a : Side} {v v' : Bool} {o : Ord} (hkl : k < l)
    (hk : es[k]? = some (t, .st a v)) (hl : es[l]? = some (r, .ld a o v'))
    (hno : ∀ m w v'', k < m → m < l → es[m]? ≠ some (w, Ev.st a v'')) : HB.Sw (hbTrace es) k l := by
  refine .atomic (a := sideLoc a) hkl (hbTrace_get hk) (hbTrace_get hl) ⟨.sc, rfl, .inl rfl⟩
    ⟨cvt o, cvt_acq o, .inl rfl⟩ ?_
  intro m u od h1 h2 hc
  obtain ⟨v'', hm⟩ := hbTrace_st_inv hc
  exact hno m u v'' h1 h2 hm

/-! ### the value of a flag is the value of its latest store -/

theorem hb_step_flag {s s' : St} {t : Tid} {e : Ev} (hs : step s t e = some s') :
    (∀ a v, e = .st a v → s'.flag = updS s.flag a v) ∧ ((∀ a v, e ≠ .st a v) → s'.flag = s.flag) := by
  obtain ⟨p', s₁, h, rfl⟩ := Step.of_step hs
  refine ⟨fun a v he => ?_, fun hne => ?_⟩ <;> rw [setPc_flag, h.flag]
  · subst he; rfl
  · cases e <;> first | rfl | exact absurd rfl (hne _ _)

/-- the current value `val` of flag `a` is the value of its latest store in `es`, or the initial value
when `es` contains no store of `a` -/
def LastSt (es : List (Tid × Ev)) (a : Side) (val ini : Bool) : Prop :=
  (∃ (q : Nat) (w : Tid), es[q]? = some (w, Ev.st a val) ∧ ∀ (k : Nat) (w' : Tid) (v : Bool), q < k → es[k]? ≠ some (w', Ev.st a v)) ∨
  ((∀ (k : Nat) (w : Tid) (v : Bool), es[k]? ≠ some (w, Ev.st a v)) ∧ val = ini)

theorem LastSt.snoc {es : List (Tid × Ev)} {a : Side} {val ini : Bool} (x : Tid × Ev) (h : LastSt es a val ini)
    (hx : ∀ v, x.2 ≠ .st a v) : LastSt (es ++ [x]) a val ini := by
  rcases h with ⟨q, w, h1, h2⟩ | ⟨h1, h2⟩
  · refine Or.inl ⟨q, w, lq_mono _ h1, ?_⟩
    intro k w' v hk hc
    rcases lq_snoc hc with ⟨_, hc'⟩ | ⟨_, hp⟩
    · exact h2 k w' v hk hc'
    · rw [← hp] at hx; exact hx v rfl
  · refine Or.inr ⟨?_, h2⟩
    intro k w v hc
    rcases lq_snoc hc with ⟨_, hc'⟩ | ⟨_, hp⟩
    · exact h1 k w v hc'
    · rw [← hp] at hx; exact hx v rfl

theorem lastSt_run {active : Bool} {es : List (Tid × Ev)} {s : St} (h : run active es = some s) (a : Side) :
    LastSt es a (s.flag a) ((init active).flag a) := by
  refine runFrom_trace_inv (P := fun es s => LastSt es a (s.flag a) ((init active).flag a))
    (.inr ⟨fun k w v hc => by simp at hc, rfl⟩) (fun es s1 t e s2 _ ih h2 => ?_) h
  obtain ⟨f1, f2⟩ := hb_step_flag h2
  by_cases hst : ∃ a' v, e = .st a' v
  · obtain ⟨a', v, rfl⟩ := hst
    rw [f1 a' v rfl]
    by_cases ha : a = a'
    · subst ha
      refine Or.inl ⟨es.length, t, ?_, ?_⟩
      · simp [updS]
      · intro k w' v' hk hc
        have := lq_lt hc
        simp at this; omega
    · have : updS s1.flag a' v a = s1.flag a := by simp [updS, ha]
      rw [this]
      exact ih.snoc _ (by intro v' hc; injection hc with hc _; exact ha hc.symm)
  · have hne : ∀ a' v, e ≠ .st a' v := fun a' v hc => hst ⟨a', v, hc⟩
    rw [f2 hne]
    exact ih.snoc _ (fun v => hne a v)

/-- **a load that returns a value other than the initial one reads from a store of that value, which
happens-before it** (every accepted trace) -/
theorem ld_reads_store {active : Bool} {es : List (Tid × Ev)} {s : St} (h : run active es = some s) {l : Nat} {r : Tid}
    {a : Side} {o : Ord} {v : Bool} (hl : es[l]? = some (r, .ld a o v)) (hv : v ≠ (init active).flag a) :
    ∃ k w, k < l ∧ es[k]? = some (w, Ev.st a v) ∧ (∀ m w' v', k < m → m < l → es[m]? ≠ some (w', Ev.st a v')) ∧
      HB.HB (hbTrace es) k l := by
  obtain ⟨s1, s2, h1, h2⟩ := runFrom_at h hl
  obtain ⟨_, _, hst, -⟩ := Step.of_step h2
  have hval := hst.ld_flag
  rcases lastSt_run (show run active (es.take l) = some s1 from h1) a with ⟨q, w, g1, g2⟩ | ⟨_, g2⟩
  · have hql : q < l := by
      have := lq_lt g1
      simp at this; omega
    have g1' : es[q]? = some (w, Ev.st a v) := by
      rw [List.getElem?_take] at g1
      rw [hval]; simpa [hql] using g1
    have g2' : ∀ m w' v', q < m → m < l → es[m]? ≠ some (w', Ev.st a v') := by
      intro m w' v' hm1 hm2 hc
      refine g2 m w' v' hm1 ?_
      rw [List.getElem?_take]; simpa [hm2] using hc
    exact ⟨q, w, hql, g1', g2', .sw (st_sw_ld es hql g1' hl g2')⟩
  · exact absurd (hval.trans g2) hv

end ConcVerif.Trigger
