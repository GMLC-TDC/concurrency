import ConcVerif.Proof.HB
/-! "Thread `t` knows position `i`": `i` happens-before-or-is an event of `t`.  Generic over every
mapped trace (used by the lr_guarded and rcu_list happens-before proofs, `Proof/HBLR*.lean`, `Proof/HBRcu*.lean`). -/
namespace ConcVerif.HB

def Kn (tr : Trace) (t : Tid) (i : Nat) : Prop := ∃ j e, tr[j]? = some (t, e) ∧ HBeq tr i j

theorem Kn.mono {tr : Trace} {t : Tid} {i : Nat} (ext : Trace) (h : Kn tr t i) : Kn (tr ++ ext) t i := by
  obtain ⟨j, e, h1, h2⟩ := h
  exact ⟨j, e, lq_mono ext h1, h2.mono ext⟩

theorem Kn.self {tr : Trace} {t : Tid} {i : Nat} {e : Ev} (h : tr[i]? = some (t, e)) : Kn tr t i :=
  ⟨i, e, h, .inl rfl⟩

/-- what `t` knows is ordered before (or is) the event `t` has just performed -/
theorem Kn.hb_last {tr : Trace} {t : Tid} {e : Ev} {i : Nat} (h : Kn (tr ++ [(t, e)]) t i) :
    HBeq (tr ++ [(t, e)]) i tr.length := by
  obtain ⟨j, e', hj, hb⟩ := h
  rcases lq_snoc hj with ⟨hl, hj'⟩ | ⟨hl, _⟩
  · exact hb.trans (.inr (.po hl (lq_mono _ hj') (lq_last tr _)))
  · subst hl; exact hb

theorem Kn.of_last {tr : Trace} {t : Tid} {e : Ev} {i : Nat} (h : HBeq (tr ++ [(t, e)]) i tr.length) :
    Kn (tr ++ [(t, e)]) t i :=
  ⟨tr.length, e, lq_last tr _, h⟩

/-- knowledge acquired through a synchronises-with edge into the new event -/
theorem Kn.of_sw {tr : Trace} {t : Tid} {e : Ev} {i k : Nat} (hk : HBeq tr i k)
    (hsw : Sw (tr ++ [(t, e)]) k tr.length) : Kn (tr ++ [(t, e)]) t i :=
  .of_last ((hk.mono _).trans (.inr (.sw hsw)))

/-- what `u` knew is ordered before (or is) the next event of `u` -/
theorem Kn.hbeq_of_own {tr : Trace} {u : Tid} {e : Ev} {i : Nat} (h : Kn tr u i) :
    HBeq (tr ++ [(u, e)]) i tr.length :=
  (h.mono [(u, e)]).hb_last

/-- an earlier position known to `t` strictly happens-before the event `t` has just performed -/
theorem Kn.hb_new {tr : Trace} {t : Tid} {e : Ev} {i : Nat} (hi : i < tr.length) (h : Kn tr t i) :
    HB (tr ++ [(t, e)]) i tr.length := by
  rcases h.hbeq_of_own (e := e) with h | h
  · omega
  · exact h

theorem Kn.of_hbeq {tr : Trace} {t : Tid} {i k : Nat} (hik : HBeq tr i k) (h : Kn tr t k) : Kn tr t i := by
  obtain ⟨j, e, h1, h2⟩ := h
  exact ⟨j, e, h1, hik.trans h2⟩

end ConcVerif.HB
