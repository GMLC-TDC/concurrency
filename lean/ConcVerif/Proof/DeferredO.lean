import ConcVerif.Proof.DeferredC
/-! Groups F (the pending flag), O (order of application) and U (outcomes / futures) of the
`deferred_guarded` invariants, the combined invariant and its preservation. -/
namespace ConcVerif.Deferred

variable {s s' : St} {t u : Tid} {p p' : Pc} {e : Ev} {spur : Bool} {es : List (Tid × Ev)}

/-- queued task `k` of submitter `u` is announced: the flag is up, or `u` is about to raise it, or a
drainer that has cleared the flag has not yet swapped the queue out (it will take `k` along) -/
def FlagOK (s : St) (k : TaskId) (u : Tid) : Prop :=
  s.flag = true ∨ (s.pc u).atFlag = some k ∨ ∃ d, s.mx = some d ∧ (s.pc d).between = true

structure InvF (s : St) : Prop where
  flagI : ∀ k, k ∈ s.queue → ∀ u, s.sub k = some u → FlagOK s k u

theorem invF_init (spur : Bool) : InvF (init spur) := by
  constructor; simp [init]

theorem invF_move (h : InvF s) (hp : s.pc t = p) (hpc : s'.pc = upd s.pc t p')
    (hat : ∀ k, p.atFlag = some k → p'.atFlag = some k) (hbt : p.between = true → p'.between = true)
    (hq : s'.queue = s.queue) (hsub : ∀ k u, k ∈ s.queue → s'.sub k = some u → s.sub k = some u)
    (hflag : s'.flag = s.flag) (hmx : s'.mx = s.mx) : InvF s' := by
  subst hp
  constructor
  intro k hk u hs
  rw [hq] at hk
  rcases h.flagI k hk u (hsub k u hk hs) with hf | ha | ⟨d, hd, hb⟩
  · exact Or.inl (by rw [hflag]; exact hf)
  · right; left; rw [hpc]
    by_cases hu : u = t
    · subst hu; simp [hat k ha]
    · simp [hu, ha]
  · right; right; refine ⟨d, by rw [hmx]; exact hd, ?_⟩
    rw [hpc]
    by_cases hdt : d = t
    · subst hdt; simp [hbt hb]
    · simp [hdt, hb]

/-- `m` changes hands while nobody is between clearing the flag and swapping the queue -/
theorem invF_mx (h : InvF s) (hp : s.pc t = p) (hpc : s'.pc = upd s.pc t p')
    (hat : ∀ k, p.atFlag = some k → p'.atFlag = some k)
    (hnb : ∀ d, s.mx = some d → (s.pc d).between = false)
    (hq : s'.queue = s.queue) (hsub : s'.sub = s.sub) (hflag : s'.flag = s.flag) : InvF s' := by
  subst hp
  constructor
  intro k hk u hs
  rw [hq] at hk; rw [hsub] at hs
  rcases h.flagI k hk u hs with hf | ha | ⟨d, hd, hb⟩
  · exact Or.inl (by rw [hflag]; exact hf)
  · right; left; rw [hpc]
    by_cases hu : u = t
    · subst hu; simp [hat k ha]
    · simp [hu, ha]
  · rw [hnb d hd] at hb; cases hb

theorem invF_step (hL : InvL s) (hC : InvC s) (h : InvF s) (hs : Kind s t s') : InvF s' := by
  have same {s' : St} {p p' : Pc} (hp : s.pc t = p) (hpc : s'.pc = upd s.pc t p')
      (hat : ∀ k, p.atFlag = some k → p'.atFlag = some k) (hbt : p.between = true → p'.between = true)
      (hq : s'.queue = s.queue) (hsub : s'.sub = s.sub) : s'.flag = s.flag → s'.mx = s.mx → InvF s' :=
    invF_move h hp hpc hat hbt hq (fun _ _ _ hs => hsub ▸ hs)
  cases hs with
  | stutter => exact h
  | wr v _ => exact same rfl (upd_self _ t).symm (fun _ h => h) id rfl rfl rfl rfl
  | move p p' hp hc => exact same hp rfl (by intro k hk; rw [hc.atFlag]; exact hk) (by rw [hc.between]; exact id) rfl rfl rfl rfl
  | call k a hp hsub =>
    refine invF_move h hp rfl nofun nofun rfl ?_ rfl rfl
    intro k' u hk' hs'
    have hne : k' ≠ k := by
      intro he; subst he; exact hC.seqSub k' (Or.inr (Or.inr hk')) hsub
    simpa [St.setPc, upd, hne] using hs'
  | lockXm k a hp hm | lockXs c hp hm =>
    exact invF_mx h hp rfl nofun (by intro d hd; rw [hm] at hd; cases hd) rfl rfl rfl
  | unlockXm k a thr hp hm | unlockXs c hp _ hm =>
    exact invF_mx h hp rfl nofun (by intro d hd; rw [hm] at hd; cases hd; rw [hp]; rfl) rfl rfl rfl
  | lockQd c hp => exact same hp rfl nofun (fun _ => rfl) rfl rfl rfl rfl
  | push k a hp hq =>
    constructor
    intro k' hk' u hs'
    simp only [St.setPc, List.mem_append, List.mem_singleton] at hk' hs'
    simp only [FlagOK, St.setPc]
    rcases hk' with hk' | hk'
    · rcases h.flagI k' hk' u hs' with hf | ha | ⟨d, hd, hb⟩
      · exact Or.inl hf
      · right; left
        by_cases hu : u = t
        · subst hu; rw [hp] at ha; cases ha
        · simp [hu, ha]
      · right; right; refine ⟨d, hd, ?_⟩
        by_cases hdt : d = t
        · subst hdt; rw [hp] at hb; cases hb
        · simp [hdt, hb]
    · subst hk'
      have : s.sub k' = some t := hC.own t k' (by rw [hp]; rfl)
      rw [this] at hs'; injection hs' with hs'; subst hs'
      right; left; simp [Pc.atFlag]
  | raise k a hp =>
    constructor
    intro k' _ u _
    exact Or.inl rfl
  | clear c hp =>
    constructor
    intro k' _ u _
    right; right
    exact ⟨t, (hL.mxP t).2 (by rw [hp]; rfl), by simp [St.setPc, Pc.between]⟩
  | swap c hp hq hb =>
    constructor
    intro k' hk'
    simp [St.setPc] at hk'
  | _ =>
    have hp := ‹s.pc t = _›
    exact same hp rfl nofun nofun rfl rfl rfl rfl

/-- A task whose submitting call has returned is applied, in the drainer's batch, or queued; and if
it is still queued the flag is up, unless a drainer that already cleared it is about to swap. -/
theorem returned_where (hC : InvC s) (hF : InvF s) {a : TaskId} (hd : a ∈ s.done) :
    a ∈ s.applied ∨ a ∈ s.batch ∨
      (a ∈ s.queue ∧ (s.flag = true ∨ ∃ d, s.mx = some d ∧ (s.pc d).between = true)) := by
  have hsub := hC.doneSub a hd
  cases hu : s.sub a with
  | none => exact absurd hu hsub
  | some u =>
    rcases hC.cons a u hu with hin | hpre
    · rcases hin with h1 | h1 | h1
      · exact Or.inl h1
      · exact Or.inr (Or.inl h1)
      · right; right; refine ⟨h1, ?_⟩
        rcases hF.flagI a h1 u hu with hf | ha | hb
        · exact Or.inl hf
        · exact absurd hd (hC.notDone u a (Pc.atFlag_task ha))
        · exact Or.inr hb
    · exact absurd hd (hC.notDone u a (Pc.prePub_task hpre))

theorem Prec.append_right {l : List TaskId} {a b : TaskId} (h : Prec l a b) (r : List TaskId) : Prec (l ++ r) a b := by
  obtain ⟨l1, l2, hl, ha⟩ := h
  exact ⟨l1, l2 ++ r, by simp [hl], ha⟩

theorem Prec.snoc {l : List TaskId} {a : TaskId} (h : a ∈ l) (b : TaskId) : Prec (l ++ [b]) a b :=
  ⟨l, [], rfl, h⟩

theorem Prec.of_cons {x : TaskId} {l : List TaskId} {a b : TaskId} (h : Prec (x :: l) a b) : a = x ∨ Prec l a b := by
  obtain ⟨l1, l2, hl, ha⟩ := h
  cases l1 with
  | nil => simp at ha
  | cons y ys =>
    simp only [List.cons_append, List.cons.injEq] at hl
    obtain ⟨hxy, hl⟩ := hl
    subst hxy
    simp only [List.mem_cons] at ha
    rcases ha with ha | ha
    · exact Or.inl ha
    · exact Or.inr ⟨ys, l2, hl, ha⟩

theorem Prec.mem_left {l : List TaskId} {a b : TaskId} (h : Prec l a b) : a ∈ l := by
  obtain ⟨l1, l2, hl, ha⟩ := h
  subst hl; simp [ha]

theorem Prec.head_mem {x : TaskId} {l : List TaskId} {a : TaskId} (h : Prec (x :: l) a x) : x ∈ l := by
  obtain ⟨l1, l2, hl, ha⟩ := h
  cases l1 with
  | nil => simp at ha
  | cons y ys =>
    simp only [List.cons_append, List.cons.injEq] at hl
    rw [hl.2]; simp

structure InvO (s : St) : Prop where
  p1 : ∀ b, b ∈ s.applied → ∀ a, a ∈ s.before b → Prec s.applied a b
  p2 : ∀ b, b ∈ s.batch → ∀ a, a ∈ s.before b → a ∈ s.applied ∨ Prec s.batch a b
  p3 : ∀ b, b ∈ s.queue → ∀ a, a ∈ s.before b → a ∈ s.applied ∨ a ∈ s.batch ∨ Prec s.queue a b
  prom : ∀ u k, (s.pc u).promise = some k → ∀ a, a ∈ s.before k → a ∈ s.applied ∨ a ∈ s.batch

theorem invO_init (spur : Bool) : InvO (init spur) := by
  constructor <;> simp [init, Pc.promise]

theorem invO_move (hC : InvC s) (h : InvO s) (hp : s.pc t = p)
    (hpc : s'.pc = upd s.pc t p')
    (hprom : ∀ k, p'.promise = some k → p.promise = some k ∨ ∀ a, a ∈ s'.before k → a ∈ s.applied ∨ a ∈ s.batch)
    (ha : s'.applied = s.applied) (hb : s'.batch = s.batch) (hq : s'.queue = s.queue)
    (hbf : ∀ b, s.sub b ≠ none → s'.before b = s.before b) : InvO s' := by
  subst hp
  obtain ⟨h1, h2, h3, h4⟩ := h
  have bf (b : TaskId) (hin : s.inSeq b) : s'.before b = s.before b := hbf b (hC.seqSub b hin)
  refine ⟨?_, ?_, ?_, ?_⟩
  · rw [ha]; intro b hin; rw [bf b (.inl hin)]; exact h1 b hin
  · rw [ha, hb]; intro b hin; rw [bf b (.inr (.inl hin))]; exact h2 b hin
  · rw [ha, hb, hq]; intro b hin; rw [bf b (.inr (.inr hin))]; exact h3 b hin
  · rw [ha, hb, hpc]
    intro u k hk
    by_cases hu : u = t
    · subst hu
      rw [upd_same] at hk
      rcases hprom k hk with hold | hnew
      · rw [hbf k (by rw [hC.own u k (Pc.prePub_task (Pc.promise_prePub hold))]; exact nofun)]; exact h4 u k hold
      · exact hnew
    · rw [upd_other _ _ _ _ hu] at hk
      rw [hbf k (by rw [hC.own u k (Pc.prePub_task (Pc.promise_prePub hk))]; exact nofun)]; exact h4 u k hk

/-- the function of `j` is entered: `j` goes to the end of `applied`, all of `before j` being applied already; what was
applied or in the batch still is, the queue and the other promises stay -/
theorem invO_start {j : TaskId} (h : InvO s) (hp : s.pc t = p) (hpc : s'.pc = upd s.pc t p')
    (hprom : ∀ k, p'.promise = some k → p.promise = some k)
    (ha : s'.applied = s.applied ++ [j]) (hq : s'.queue = s.queue) (hbf : s'.before = s.before)
    (hj : ∀ a, a ∈ s.before j → a ∈ s.applied)
    (hab : ∀ a, a ∈ s.applied ∨ a ∈ s.batch → a ∈ s'.applied ∨ a ∈ s'.batch)
    (h2 : ∀ b, b ∈ s'.batch → ∀ a, a ∈ s.before b → a ∈ s'.applied ∨ Prec s'.batch a b) : InvO s' := by
  subst hp
  refine ⟨?_, by rw [hbf]; exact h2, ?_, ?_⟩
  · rw [ha, hbf]
    intro b hb a hab'
    rcases List.mem_append.1 hb with hb | hb
    · exact (h.p1 b hb a hab').append_right _
    · cases List.mem_singleton.1 hb; exact Prec.snoc (hj a hab') _
  · rw [hq, hbf]
    intro b hb a hab'
    rcases h.p3 b hb a hab' with h' | h' | h'
    · exact (hab a (.inl h')).imp_right .inl
    · exact (hab a (.inr h')).imp_right .inl
    · exact .inr (.inr h')
  · rw [hbf, hpc]
    intro u k hk a hab'
    refine hab a (h.prom u k ?_ a hab')
    by_cases hu : u = t
    · subst hu; rw [upd_same] at hk; exact hprom k hk
    · rwa [upd_other _ _ _ _ hu] at hk

theorem invO_step (hL : InvL s) (hC : InvC s) (hF : InvF s) (h : InvO s) (hs : Kind s t s') :
    InvO s' := by
  cases hs with
  | stutter => exact h
  | wr v _ => exact invO_move hC h rfl (upd_self _ t).symm (fun _ hk => .inl hk) rfl rfl rfl fun _ _ => rfl
  | move p p' hp hc =>
    exact invO_move hC h hp rfl (by intro k hk; rw [hc.promise] at hk; exact Or.inl hk) rfl rfl rfl fun _ _ => rfl
  | skipDrain c hp hf =>
    refine invO_move hC h hp rfl ?_ rfl rfl rfl fun _ _ => rfl
    intro k hk
    right
    intro a ha
    rcases returned_where hC hF (hC.bef k a ha) with h1 | h1 | ⟨_, h1 | ⟨d, hd, hb⟩⟩
    · exact Or.inl h1
    · exact Or.inr h1
    · rw [hf] at h1; cases h1
    · have hdt : d = t := by
        have := (hL.mxP t).2 (by rw [hp]; rfl); rw [this] at hd; injection hd with hd; exact hd.symm
      subst hdt; rw [hp] at hb; cases hb
  | call k a hp hsub =>
    exact invO_move hC h hp rfl nofun rfl rfl rfl fun b hb => upd_other _ _ _ _ fun he => hb (he ▸ hsub)
  | push k a hp hq =>
    have hbefk : ∀ a', a' ∈ s.before k → a' ∈ s.applied ∨ a' ∈ s.batch ∨ a' ∈ s.queue := by
      intro a' ha'
      rcases returned_where hC hF (hC.bef k a' ha') with h1 | h1 | ⟨h1, _⟩
      · exact Or.inl h1
      · exact Or.inr (Or.inl h1)
      · exact Or.inr (Or.inr h1)
    obtain ⟨h1, h2, h3, h4⟩ := h
    refine ⟨h1, h2, ?_, ?_⟩
    · intro b hb a' ha'
      simp only [St.setPc, List.mem_append, List.mem_singleton] at hb ha' ⊢
      rcases hb with hb | hb
      · rcases h3 b hb a' ha' with h | h | h
        · exact Or.inl h
        · exact Or.inr (Or.inl h)
        · exact Or.inr (Or.inr (h.append_right _))
      · subst hb
        rcases hbefk a' ha' with h | h | h
        · exact Or.inl h
        · exact Or.inr (Or.inl h)
        · exact Or.inr (Or.inr (Prec.snoc h b))
    · intro u k' hk' a' ha'
      simp only [St.setPc] at hk' ha' ⊢
      by_cases hu : u = t
      · subst hu; simp [Pc.promise] at hk'
      · simp only [upd_other _ _ _ _ hu] at hk'; exact h4 u k' hk' a' ha'
  | swap c hp hq hb =>
    have htX : (s.pc t).holdsX = true := by rw [hp]; rfl
    obtain ⟨h1, h2, h3, h4⟩ := h
    refine ⟨h1, ?_, ?_, ?_⟩
    · intro b hb' a' ha'
      simp only [St.setPc] at hb' ha' ⊢
      rcases h3 b hb' a' ha' with h | h | h
      · exact Or.inl h
      · rw [hb] at h; simp at h
      · exact Or.inr h
    · intro b hb'
      simp [St.setPc] at hb'
    · intro u k' hk' a' ha'
      simp only [St.setPc] at hk' ha' ⊢
      by_cases hu : u = t
      · subst hu
        rcases returned_where hC hF (hC.bef k' a' ha') with h | h | ⟨h, _⟩
        · exact Or.inl h
        · rw [hb] at h; simp at h
        · exact Or.inr h
      · simp only [upd_other _ _ _ _ hu] at hk'
        exact absurd (hL.holder_eq htX (Pc.runs_holdsX (Pc.promise_runs hk'))) hu
  | applyHead c j rest hp hb =>
    have hjr : j ∉ rest := by
      have hnd := hC.nodup
      rw [hb] at hnd
      exact (List.nodup_cons.1 (List.nodup_append.1 (List.nodup_append.1 hnd).1).2.1).1
    refine invO_start h hp rfl (fun _ hk => hk) rfl rfl rfl ?_ ?_ ?_
    · intro a ha
      rcases h.p2 j (by rw [hb]; exact List.mem_cons_self) a ha with h' | h'
      · exact h'
      · rw [hb] at h'; exact absurd h'.head_mem hjr
    · rintro a (h' | h')
      · exact .inl (List.mem_append_left _ h')
      · rw [hb] at h'
        rcases List.mem_cons.1 h' with rfl | h'
        · exact .inl (List.mem_append_right _ List.mem_cons_self)
        · exact .inr h'
    · intro b hb' a ha
      rcases h.p2 b (by rw [hb]; exact List.mem_cons_of_mem _ hb') a ha with h' | h'
      · exact .inl (List.mem_append_left _ h')
      · rw [hb] at h'
        rcases h'.of_cons with rfl | h'
        · exact .inl (List.mem_append_right _ List.mem_cons_self)
        · exact .inr h'
  | applyOwn k a hp hb =>
    refine invO_start h hp rfl nofun rfl rfl rfl ?_ (fun _ h' => h'.imp_left (List.mem_append_left _)) ?_
    · intro a' ha
      rcases h.prom t k (by rw [hp]; rfl) a' ha with h' | h'
      · exact h'
      · rw [hb] at h'; cases h'
    · intro b hb'
      rw [show s.batch = [] from hb] at hb'; cases hb'
  | endHead c j o hp =>
    exact invO_move hC h hp rfl (fun k hk => Or.inl hk) rfl rfl rfl fun _ _ => rfl
  | _ =>
    have hp := ‹s.pc t = _›
    exact invO_move hC h hp rfl nofun rfl rfl rfl fun _ _ => rfl

structure InvU (s : St) : Prop where
  outA : ∀ k, s.out k ≠ none → k ∈ s.applied
  outR : ∀ u k, (s.pc u).running = some k → s.out k = none
  runA : ∀ u k, (s.pc u).running = some k → k ∈ s.applied
  outD : ∀ k, k ∈ s.applied → s.out k = none → ∃ d, (s.pc d).running = some k

theorem invU_init (spur : Bool) : InvU (init spur) := by
  constructor <;> simp [init, Pc.running]

theorem invU_move (h : InvU s) (hp : s.pc t = p) (hpc : s'.pc = upd s.pc t p')
    (hrun : ∀ k, p'.running = some k → p.running = some k) (hrun2 : ∀ k, p.running = some k → p'.running = some k)
    (ha : s'.applied = s.applied) (ho : s'.out = s.out) : InvU s' := by
  subst hp
  obtain ⟨h1, h2, h3, h4⟩ := h
  have hold : ∀ u k, (s'.pc u).running = some k → (s.pc u).running = some k := by
    intro u k hk
    rw [hpc] at hk
    by_cases hu : u = t
    · subst hu; simp only [upd_same] at hk; exact hrun k hk
    · simpa [hu] using hk
  refine ⟨?_, ?_, ?_, ?_⟩
  · rw [ho, ha]; exact h1
  · intro u k hk; rw [ho]; exact h2 u k (hold u k hk)
  · intro u k hk; rw [ha]; exact h3 u k (hold u k hk)
  · intro k hk hok
    rw [ha] at hk; rw [ho] at hok
    obtain ⟨d, hd⟩ := h4 k hk hok
    refine ⟨d, ?_⟩
    rw [hpc]
    by_cases hdt : d = t
    · subst hdt; simp [hrun2 k hd]
    · simp [hdt, hd]

theorem invU_begin {j : TaskId} (h : InvU s) (hp : s.pc t = p)
    (hpc : s'.pc = upd s.pc t p') (hj : p'.running = some j) (hnot : j ∉ s.applied) (hold0 : p.running = none)
    (ha : s'.applied = s.applied ++ [j]) (ho : s'.out = s.out) : InvU s' := by
  subst hp
  obtain ⟨h1, h2, h3, h4⟩ := h
  refine ⟨?_, ?_, ?_, ?_⟩
  · intro k hk; rw [ho] at hk; rw [ha]; exact List.mem_append_left _ (h1 k hk)
  · intro u k hk
    rw [ho]; rw [hpc] at hk
    by_cases hu : u = t
    · subst hu; simp only [upd_same] at hk; rw [hj] at hk; injection hk with hk; subst hk
      cases ho' : s.out j with
      | none => rfl
      | some o => exact absurd (h1 j (by rw [ho']; simp)) hnot
    · simp only [upd_other _ _ _ _ hu] at hk; exact h2 u k hk
  · intro u k hk
    rw [ha]; rw [hpc] at hk
    by_cases hu : u = t
    · subst hu; simp only [upd_same] at hk; rw [hj] at hk; injection hk with hk; subst hk; simp
    · simp only [upd_other _ _ _ _ hu] at hk; exact List.mem_append_left _ (h3 u k hk)
  · intro k hk hok
    rw [ha] at hk; rw [ho] at hok
    simp only [List.mem_append, List.mem_singleton] at hk
    rcases hk with hk | hk
    · obtain ⟨d, hd⟩ := h4 k hk hok
      refine ⟨d, ?_⟩
      rw [hpc]
      by_cases hdt : d = t
      · subst hdt; rw [hold0] at hd; cases hd
      · simp [hdt, hd]
    · subst hk; exact ⟨t, by rw [hpc]; simp [hj]⟩

theorem invU_end {j : TaskId} {o : Outcome} (hL : InvL s) (h : InvU s)
    (hp : s.pc t = p) (hpc : s'.pc = upd s.pc t p') (hold : p.running = some j) (hnew : p'.running = none)
    (ha : s'.applied = s.applied) (ho : s'.out = upd s.out j (some o)) : InvU s' := by
  subst hp
  obtain ⟨h1, h2, h3, h4⟩ := h
  have others : ∀ u k, u ≠ t → (s.pc u).running = some k → False := by
    intro u k hu hk
    exact hu (hL.holder_eq (Pc.running_holdsX hold) (Pc.running_holdsX hk))
  -- `t` was the only thread inside a function (it holds `m` exclusively): now nobody is
  have idle : ∀ u, (s'.pc u).running = none := by
    rw [hpc]
    exact upd_forall (P := fun _ (q : Pc) => q.running = none) hnew fun u hu =>
      Option.eq_none_iff_forall_ne_some.2 fun k hk => others u k hu hk
  refine ⟨?_, ?_, ?_, ?_⟩
  · intro k hk
    rw [ha]; rw [ho] at hk
    by_cases hkj : k = j
    · subst hkj; exact h3 t k hold
    · simp only [upd, hkj, if_false] at hk; exact h1 k hk
  · intro u k hk; rw [idle u] at hk; cases hk
  · intro u k hk; rw [idle u] at hk; cases hk
  · intro k hk hok
    rw [ha] at hk; rw [ho] at hok
    by_cases hkj : k = j
    · subst hkj; simp [upd] at hok
    · simp only [upd, hkj, if_false] at hok
      obtain ⟨d, hd⟩ := h4 k hk hok
      by_cases hdt : d = t
      · subst hdt; rw [hold] at hd; injection hd with hd; exact absurd hd.symm hkj
      · exact (others d k hdt hd).elim

theorem invU_step (hL : InvL s) (hC : InvC s) (h : InvU s) (hs : Kind s t s') : InvU s' := by
  cases hs with
  | stutter => exact h
  | wr v _ => exact invU_move h rfl (upd_self _ t).symm (fun _ h => h) (fun _ h => h) rfl rfl
  | move p p' hp hc =>
    exact invU_move h hp rfl (by intro k hk; rw [hc.running] at hk; exact hk) (by intro k hk; rw [hc.running]; exact hk) rfl rfl
  | applyHead c j rest hp hb =>
    refine invU_begin (j := j) h hp rfl rfl ?_ rfl rfl rfl
    have hnd := hC.nodup
    rw [hb] at hnd
    intro hin
    exact (List.nodup_append.1 ((List.nodup_append.1 hnd).1)).2.2 j hin j (by simp) rfl
  | applyOwn k a hp hb =>
    exact invU_begin (j := k) h hp rfl rfl (fun hin => hC.pre t k (by rw [hp]; rfl) (Or.inl hin)) rfl rfl rfl
  | endHead c j o hp | endOwn k a thr o hp => exact invU_end hL h hp rfl rfl rfl rfl rfl
  | _ =>
    have hp := ‹s.pc t = _›
    exact invU_move h hp rfl nofun nofun rfl rfl

theorem Kind.out_stable (hU : InvU s) (hs : Kind s t s') {k : TaskId} {o : Outcome}
    (hk : s.out k = some o) : s'.out k = some o := by
  have other {j : TaskId} (o' : Outcome) (hr : (s.pc t).running = some j) : upd s.out j (some o') k = some o :=
    (upd_other _ _ _ _ fun he => by rw [he, hU.outR t j hr] at hk; cases hk).trans hk
  cases hs with
  | endHead c j o' hp | endOwn j a thr o' hp => exact other o' (by rw [hp]; rfl)
  | _ => exact hk

structure Inv (s : St) : Prop where
  L : InvL s
  C : InvC s
  F : InvF s
  O : InvO s
  U : InvU s

theorem inv_init (spur : Bool) : Inv (init spur) :=
  ⟨invL_init spur, invC_init spur, invF_init spur, invO_init spur, invU_init spur⟩

theorem inv_step (s : St) (t : Tid) (e : Ev) (s' : St) (h : Inv s) (hs : step s t e = some s') : Inv s' := by
  have hS := Kind.of_step hs
  exact ⟨invL_step h.L hS, invC_step h.L h.C hS, invF_step h.L h.C h.F hS, invO_step h.L h.C h.F h.O hS,
    invU_step h.L h.C h.U hS⟩

theorem inv_reachable (h : Reachable spur s) : Inv s := by
  obtain ⟨es, hes⟩ := h
  exact runFrom_inv inv_step (inv_init spur) hes

end ConcVerif.Deferred
