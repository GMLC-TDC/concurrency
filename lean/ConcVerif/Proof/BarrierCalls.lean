import ConcVerif.Proof.Barrier
/-! Ties the ghost arrival counter `St.arr t` of the Barrier model to the *calls in the trace*: the
arrivals a thread has made are exactly the `wait` / `wait_and_drop` calls it has started, minus the
one it is still in front of (pc `called` / `locked`).  Any participants, any trace. -/
namespace ConcVerif.Barrier

variable {s s' : St} {c : Tid → Nat} {t : Tid} {e : Ev}

/-- 1 while the thread is inside a call whose arrival is not yet counted -/
def Pc.pre : Pc → Nat
  | .called _ | .locked _ => 1
  | _ => 0

def cN : Ev → Nat
  | .call _ => 1
  | _ => 0

/-- number of `wait` / `wait_and_drop` calls thread `t` has started in a trace -/
def callsOf (t : Tid) : List (Tid × Ev) → Nat
  | [] => 0
  | (u, e) :: es => (if u = t then cN e else 0) + callsOf t es

def K (s : St) (c : Tid → Nat) : Prop := ∀ t, s.arr t + (s.pc t).pre = c t

/-- only the stepping thread's account changes: a call opens an arrival (`pre` 0 → 1), the arrival itself
moves it from `pre` to `arr` -/
theorem K_step (h : K s c) (hs : Step s t e s') :
    K s' (upd c t (c t + cN e)) := by
  intro u
  by_cases hu : u = t
  · subst hu
    have := h u
    rw [upd_same]
    cases hs <;> simp [*, Pc.pre, cN, St.arriveRelease, St.arriveWait] at this ⊢ <;> exact this
  · obtain ⟨hpc, _, ha⟩ := hs.frame hu
    rw [upd_other _ _ _ _ hu, hpc, ha]; exact h u

theorem K_run (es : List (Tid × Ev)) (h : K s c)
    (hr : runFrom step s es = some s') : K s' (fun t => c t + callsOf t es) := by
  induction es generalizing s c with
  | nil => cases hr; exact h
  | cons te es ih =>
    obtain ⟨t, e⟩ := te
    obtain ⟨s1, hst, hr⟩ := runFrom_cons_eq_some.1 hr
    intro u
    refine (ih (K_step h (.of_step hst)) hr u).trans ?_
    show upd c t (c t + cN e) u + callsOf u es = c u + ((if t = u then cN e else 0) + callsOf u es)
    by_cases hu : u = t
    · subst hu; rw [upd_same, if_pos rfl, Nat.add_assoc]
    · rw [upd_other _ _ _ _ hu, if_neg (Ne.symm hu), Nat.zero_add]

theorem K_init (P : List Tid) : K (init P) (fun _ => 0) := fun _ => rfl

end ConcVerif.Barrier
