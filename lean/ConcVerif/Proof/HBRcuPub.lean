import ConcVerif.Proof.HBRcuSafe
/-! rcu_list and happens-before, part 4: publication — the trace invariants.

* `SCD` the stores to links and to `owner` and the successful CASes are written `seq_cst`; `m_zombie_head` is never stored to;
* `NP`  every initialisation event of a node is published through the write mutex (`Pub`);
* `FV`  whatever node `m_head` / the `next` of a linked (or about to be linked) node points to: its initialisation is
        ordered before the latest store to that link;
* `RN`  a thread whose iterator points to node `c` knows the initialisation of `c`;
* `TR1`, `IP`, `RP`, `RK` the same for log records: a record is initialised by the thread that pushes it, before the
        push; a thread knows the initialisation of the record it holds privately, of its own record and of every older
        record on the log.

Every step outside the list destructor keeps them (`hinv_step`); the access a step performs to a node / a log
record happens-after its initialisation (`node_last`, `rec_last`). -/
namespace ConcVerif.Rcu
open HB (HBeq Kn)

variable {w : Ords} {sel : Bool} {es : List (Tid × Ev)} {s s' : St} {t : Tid} {e : Ev}

/-- position `i` is known to the holder of the write mutex, or — while nobody holds it — ordered
before an unlock (so that the next locker will know it) -/
def Pub (w : Ords) (sel : Bool) (es : List (Tid × Ev)) : Option Tid → Nat → Prop
  | some t, i => Kn (hbTrace w sel es) t i
  | none, i => ∃ k v, es[k]? = some (v, Ev.mul) ∧ HBeq (hbTrace w sel es) i k

theorem Pub.mono {m : Option Tid} {i : Nat} (ext : List (Tid × Ev))
    (h : Pub w sel es m i) : Pub w sel (es ++ ext) m i := by
  cases m with
  | some t => simp only [Pub, hbTrace_append] at *; exact h.mono _
  | none =>
    obtain ⟨k, v, h1, h2⟩ := h
    exact ⟨k, v, HB.lq_mono ext h1, hbeq_app ext h2⟩

theorem Pub.lock {i : Nat} (t : Tid) (h : Pub w sel es none i) :
    Pub w sel (es ++ [(t, .mlk)]) (some t) i := by
  obtain ⟨k, v, h1, h2⟩ := h
  simp only [Pub, hbTrace_snoc]
  exact .of_sw h2 (sw_mutex h1)

theorem Pub.unlock {w : Ords} {sel : Bool} {es : List (Tid × Ev)} {i : Nat} {t : Tid} (h : Pub w sel es (some t) i) :
    Pub w sel (es ++ [(t, .mul)]) none i := by
  refine ⟨es.length, t, HB.lq_last _ _, ?_⟩
  exact hbeq_own .mul h

theorem Pub.self (es : List (Tid × Ev)) (t : Tid) (e : Ev) :
    Pub w sel (es ++ [(t, e)]) (some t) es.length := by
  simp only [Pub]
  exact .self (hbTrace_get (HB.lq_last _ _))

def SCD (es : List (Tid × Ev)) : Prop :=
  (∀ (q : Nat) (u : Tid) (f : Fld) (o : Ord) (v : Option Nat), es[q]? = some (u, Ev.ast f o v) →
      (f.isLink = true ∨ ∃ r, f = .rowner r) → o.isSc = true) ∧
  NoZhSt es ∧
  (∀ (p : Nat) (u : Tid) (o : Ord) (a b c : Option Nat), es[p]? = some (u, Ev.cas o a b true c) → o.isSc = true)

def NP (w : Ords) (sel : Bool) (es : List (Tid × Ev)) (mtx : Option Tid) : Prop :=
  ∀ (i : Nat) (u : Tid) (e : Ev) (n : Nat), es[i]? = some (u, e) → e.initN = some n → Pub w sel es mtx i

/-- nodes whose `next` a reader may come to load: linked once, or about to be linked -/
def Trk (s : St) (m : Nat) : Prop := m ∈ s.order ∨ ∃ t, pendN (s.pc t) = some m

/-- the initialisation of node `n` is ordered before the latest store to field `f` -/
def PubBy (w : Ords) (sel : Bool) (es : List (Tid × Ev)) (f : Fld) (n : Nat) : Prop :=
  ∀ (i : Nat) (u : Tid) (e : Ev), es[i]? = some (u, e) → e.initN = some n →
    ∃ (q : Nat) (x : Tid) (o : Ord) (v : Option Nat), es[q]? = some (x, Ev.ast f o v) ∧ LatestSt es f q ∧
      HBeq (hbTrace w sel es) i q

def FV (w : Ords) (sel : Bool) (es : List (Tid × Ev)) (s : St) : Prop :=
  (∀ n, s.head = some n → PubBy w sel es .head n) ∧
  (∀ m n, Trk s m → (s.nodes m).next = some n → PubBy w sel es (.nnext m) n)

def RN (w : Ords) (sel : Bool) (es : List (Tid × Ev)) (s : St) : Prop :=
  ∀ (t : Tid) (c : Nat), s.it t = some (some c) → ∀ (i : Nat) (u : Tid) (e : Ev), es[i]? = some (u, e) →
    e.initN = some c → Kn (hbTrace w sel es) t i

theorem SCD_step (h : SCD es) (hS : Step s t e s') :
    SCD (es ++ [(t, e)]) := by
  obtain ⟨h1, h2, h3⟩ := h
  refine ⟨?_, ?_, ?_⟩
  · intro q u f o v hq hf
    rcases HB.lq_snoc hq with ⟨_, hq'⟩ | ⟨_, hp⟩
    · exact h1 q u f o v hq' hf
    · injection hp with _ hp; subst hp; exact ast_sc hS hf
  · intro k u o v hk
    rcases HB.lq_snoc hk with ⟨_, hk'⟩ | ⟨_, hp⟩
    · exact h2 k u o v hk'
    · injection hp with _ hp; subst hp; exact ast_not_zh hS
  · intro p u o a b c hp
    rcases HB.lq_snoc hp with ⟨_, hp'⟩ | ⟨_, hq⟩
    · exact h3 p u o a b c hp'
    · injection hq with _ hq; subst hq; exact cas_sc hS

theorem NP_snoc {m : Option Tid} (h : NP w sel es m)
    (he : ∀ n, e.initN = some n → m = some t) : NP w sel (es ++ [(t, e)]) m := by
  intro i u e' n hi hn
  rcases HB.lq_snoc hi with ⟨_, hi'⟩ | ⟨hl, hp⟩
  · exact (h i u e' n hi' hn).mono _
  · injection hp with h1 h2; subst h1; subst h2; subst hl
    rw [he n hn]; exact Pub.self es u e'

theorem NP_lock (t : Tid) (h : NP w sel es none) :
    NP w sel (es ++ [(t, .mlk)]) (some t) := by
  intro i u e' n hi hn
  rcases HB.lq_snoc hi with ⟨_, hi'⟩ | ⟨_, hp⟩
  · exact (h i u e' n hi' hn).lock t
  · injection hp with _ h2; subst h2; simp [Ev.initN] at hn

theorem NP_unlock {t : Tid} (h : NP w sel es (some t)) :
    NP w sel (es ++ [(t, .mul)]) none := by
  intro i u e' n hi hn
  rcases HB.lq_snoc hi with ⟨_, hi'⟩ | ⟨_, hp⟩
  · exact (h i u e' n hi' hn).unlock
  · injection hp with _ h2; subst h2; simp [Ev.initN] at hn

theorem NP_step (hi : Inv s) (h : NP w sel es s.wmtx) (hS : Step s t e s') : NP w sel (es ++ [(t, e)]) s'.wmtx := by
  rcases wmtx_cases hS with h0 | ⟨he, h1, h2⟩ | ⟨he, h1, h2⟩
  · rw [h0]; exact NP_snoc h (fun n hn => (init_facts hi hS hn).1)
  · rw [he, h2]; exact NP_lock t (h1 ▸ h)
  · rw [he, h2]; exact NP_unlock (h1 ▸ h)

theorem PubBy.snoc {f : Fld} {n : Nat} {t : Tid} {e : Ev}
    (h : PubBy w sel es f n) (he : ∀ o v, e ≠ .ast f o v) (hn : e.initN ≠ some n) : PubBy w sel (es ++ [(t, e)]) f n := by
  intro i u e' hi hi'
  rcases HB.lq_snoc hi with ⟨_, hi''⟩ | ⟨_, hp⟩
  · obtain ⟨q, x, o, v, h1, h2, h3⟩ := h i u e' hi'' hi'
    exact ⟨q, x, o, v, HB.lq_mono _ h1, h2.snoc he, hbeq_app _ h3⟩
  · injection hp with _ h2; subst h2; exact absurd hi' hn

theorem PubBy.store {t : Tid} (f : Fld) (o : Ord) (v : Option Nat) (n : Nat)
    (h : NP w sel es (some t)) : PubBy w sel (es ++ [(t, .ast f o v)]) f n := by
  intro i u e' hi hi'
  rcases HB.lq_snoc hi with ⟨_, hi''⟩ | ⟨_, hp⟩
  · refine ⟨es.length, t, o, v, HB.lq_last _ _, LatestSt.last _ _ _, ?_⟩
    have hk : Kn (hbTrace w sel es) t i := h i u e' n hi'' hi'
    exact hbeq_own _ hk
  · injection hp with _ h2; subst h2; simp [Ev.initN] at hi'

/-- a store to a link by the holder of the write mutex: the entry of the stored link is re-established,
every other entry is inherited -/
theorem FV_store {w : Ords} {sel : Bool} {es : List (Tid × Ev)} {s s' : St} {t : Tid} {f : Fld} {o : Ord} {v : Option Nat}
    (h : FV w sel es s) (hNP : NP w sel es (some t))
    (hh : ∀ n, s'.head = some n → f = .head ∨ s.head = some n)
    (hn : ∀ m n, Trk s' m → (s'.nodes m).next = some n → f = .nnext m ∨ (Trk s m ∧ (s.nodes m).next = some n)) :
    FV w sel (es ++ [(t, .ast f o v)]) s' := by
  refine ⟨?_, ?_⟩
  · intro n hn'
    by_cases hf : f = .head
    · subst hf; exact PubBy.store _ o v n hNP
    · rcases hh n hn' with h1 | h1
      · exact absurd h1 hf
      · exact (h.1 n h1).snoc (by intro o' v' hc; injection hc with hc; exact hf hc) (by simp [Ev.initN])
  · intro m n hm hn'
    by_cases hf : f = .nnext m
    · subst hf; exact PubBy.store _ o v n hNP
    · rcases hn m n hm hn' with h1 | ⟨h1, h2⟩
      · exact absurd h1 hf
      · exact (h.2 m n h1 h2).snoc (by intro o' v' hc; injection hc with hc; exact hf hc) (by simp [Ev.initN])

theorem FV_snoc {t : Tid} {e : Ev}
    (h : FV w sel es s) (he : ∀ f o v, e ≠ .ast f o v)
    (hi : ∀ n, e.initN = some n → s.head ≠ some n ∧ ∀ m, Trk s m → (s.nodes m).next ≠ some n)
    (hh : ∀ n, s'.head = some n → s.head = some n)
    (hn : ∀ m n, Trk s' m → (s'.nodes m).next = some n → Trk s m ∧ (s.nodes m).next = some n) :
    FV w sel (es ++ [(t, e)]) s' := by
  refine ⟨?_, ?_⟩
  · intro n hn'
    have h1 := hh n hn'
    exact (h.1 n h1).snoc (he _) (fun hc => (hi n hc).1 h1)
  · intro m n hm hn'
    obtain ⟨h1, h2⟩ := hn m n hm hn'
    exact (h.2 m n h1 h2).snoc (he _) (fun hc => (hi n hc).2 m h1 h2)

theorem Trk_frame (hS : Step s t e s') (h1 : ∀ f o v, e ≠ .ast f o v)
    (hnd : inDtor (s.pc t) = false) {m : Nat} (h : Trk s' m) : Trk s m := by
  have ho := (link_frame hS hnd h1).2.1
  have hp := pend_frame hS hnd h1
  rcases h with h | ⟨u, h⟩
  · exact .inl (ho ▸ h)
  · refine .inr ⟨u, ?_⟩
    by_cases hu : u = t
    · rw [hu] at h ⊢; exact hp ▸ h
    · rw [hS.pc_other hu] at h; exact h

theorem pointed_order {s : St} (hi : Inv s) (hdt : s.dt = false) :
    (∀ n, s.head = some n → n ∈ s.order) ∧ ∀ m n, Trk s m → (s.nodes m).next = some n → n ∈ s.order := by
  refine ⟨?_, ?_⟩
  · intro n hn
    have := hi.c.hd hdt
    simp only [cview_head, cview_lst] at this
    rw [hn] at this
    exact hi.c.sub n (mem_of_head? this.symm)
  · intro m n hm hn
    rcases hm with hm | ⟨u, hu⟩
    · exact hi.c.val m hm n hn
    · have hw := hi.c.wr u
      simp only [cview_vpc] at hw
      cases hp : s.pc u with
      | pF2 k a h =>
        rw [hp] at hu hw; simp only [pendN] at hu; injection hu with hu; subst hu
        simp only [CView, WriterP, FreshN, cview_nodes, cview_lst] at hw
        rw [hw.1.2.2.1] at hn; injection hn with hn; subst hn
        exact hi.c.sub _ (mem_of_head? hw.2)
      | pF3 k a =>
        rw [hp] at hu hw; simp only [pendN] at hu; injection hu with hu; subst hu
        simp only [CView, WriterP, FreshN, cview_nodes, cview_lst] at hw
        obtain ⟨h, hf, hl, _⟩ := hw
        rw [hf.2.2.1] at hn; injection hn with hn; subst hn
        exact hi.c.sub _ (mem_of_head? hl)
      | _ => rw [hp] at hu; simp [pendN] at hu

theorem FV_ast {t : Tid} {f : Fld} {o : Ord} {v : Option Nat}
    (h : FV w sel es s) (hNP : (f = .head ∨ ∃ m, f = .nnext m) → NP w sel es (some t))
    (hpc : ∀ u, u ≠ t → s'.pc u = s.pc u)
    (hhd : f = .head ∨ s'.head = s.head)
    (hord : ∀ m, m ∈ s'.order → m ∈ s.order ∨ pendN (s.pc t) = some m ∨ (f ≠ .nnext m ∧ (s.nodes m).next = none))
    (hpend : ∀ m, pendN (s'.pc t) = some m → pendN (s.pc t) = some m ∨ f = .nnext m)
    (hnx : ∀ m, f = .nnext m ∨ (s'.nodes m).next = (s.nodes m).next) :
    FV w sel (es ++ [(t, .ast f o v)]) s' := by
  refine ⟨?_, ?_⟩
  · intro n hn'
    by_cases hf : f = .head
    · subst hf; exact PubBy.store _ o v n (hNP (.inl rfl))
    · rcases hhd with h1 | h1
      · exact absurd h1 hf
      · rw [h1] at hn'
        exact (h.1 n hn').snoc (by intro o' v' hc; injection hc with hc; exact hf hc) (by simp [Ev.initN])
  · intro m n hm hn'
    by_cases hf : f = .nnext m
    · subst hf; exact PubBy.store _ o v n (hNP (.inr ⟨m, rfl⟩))
    · have hx : (s.nodes m).next = some n := by
        rcases hnx m with h1 | h1
        · exact absurd h1 hf
        · rw [← h1]; exact hn'
      have hT : Trk s m := by
        rcases hm with hm | ⟨u, hu⟩
        · rcases hord m hm with h1 | h1 | ⟨_, h1⟩
          · exact .inl h1
          · exact .inr ⟨t, h1⟩
          · rw [h1] at hx; cases hx
        · by_cases hut : u = t
          · subst hut
            rcases hpend m hu with h1 | h1
            · exact .inr ⟨u, h1⟩
            · exact absurd h1 hf
          · rw [hpc u hut] at hu; exact .inr ⟨u, hu⟩
      exact (h.2 m n hT hx).snoc (by intro o' v' hc; injection hc with hc; exact hf hc) (by simp [Ev.initN])

theorem next_setNext (s : St) (h : Nat) (v : Option Nat) (m : Nat) :
    Fld.nnext h = .nnext m ∨ ((upd s.nodes h { s.nodes h with next := v }) m).next = (s.nodes m).next := by
  by_cases hm : m = h
  · exact .inl (hm ▸ rfl)
  · exact .inr (by simp [hm])

theorem ast_link_holdsW {t : Tid} {f : Fld} {o : Ord} {v : Option Nat} (hS : Step s t (.ast f o v) s')
    (hf : f = .head ∨ ∃ m, f = .nnext m) : holdsW (s.pc t) = true := by
  cases hS <;> first | (rw [‹St.pc _ _ = _›]; rfl) | (rcases hf with hf | ⟨_, hf⟩ <;> cases hf)

theorem pend_ast {t : Tid} {f : Fld} {o : Ord} {v : Option Nat} {m : Nat} (hS : Step s t (.ast f o v) s')
    (h : pendN (s'.pc t) = some m) : pendN (s.pc t) = some m ∨ f = .nnext m := by
  cases hS <;> rw [setPc_pc, upd_same] at h
  case pF1 hpc _ => cases h; exact .inr rfl
  case pF2 hpc _ => exact .inl (by rw [hpc]; exact h)
  all_goals cases h

theorem FV_step_ast {t : Tid} {f : Fld} {o : Ord} {v : Option Nat}
    (hi : Inv s) (hNP : NP w sel es s.wmtx) (h : FV w sel es s)
    (hS : Step s t (.ast f o v) s') : FV w sel (es ++ [(t, .ast f o v)]) s' := by
  have hpc : ∀ u, u ≠ t → s'.pc u = s.pc u := fun u hu => hS.pc_other hu
  have hwr := hi.c.wr t
  rw [cview_vpc] at hwr
  have np : (f = .head ∨ ∃ m, f = .nnext m) → NP w sel es (some t) := fun hf => by
    rw [← (hi.a.wm t).1 (ast_link_holdsW hS hf)]; exact hNP
  have hpend : ∀ m, pendN (s'.pc t) = some m → pendN (s.pc t) = some m ∨ f = .nnext m := fun m => pend_ast hS
  by_cases hE : Edge s t (.ast f o v) s'
  · cases hE with
    | uClear => exact FV_ast h np hpc (.inr rfl) (fun m hm => .inl hm) hpend (fun m => .inr rfl)
    | eUnlHead => exact FV_ast h np hpc (.inl rfl) (fun m hm => .inl hm) hpend (fun m => .inr rfl)
    | pE1 k n _ hpc0 =>
      rw [hpc0] at hwr
      refine FV_ast h np hpc (.inl rfl) (fun m hm => ?_) hpend (fun m => .inr rfl)
      rcases List.mem_cons.1 hm with hm | hm
      · exact .inr (.inr ⟨hm ▸ Fld.noConfusion, hm ▸ hwr.1.2.2.1⟩)
      · exact .inl hm
    | pF3 k n _ hpc0 =>
      refine FV_ast h np hpc (.inl rfl) (fun m hm => ?_) hpend (fun m => .inr rfl)
      rcases List.mem_cons.1 hm with hm | hm
      · exact .inr (.inl (by rw [hpc0, hm]; rfl))
      · exact .inl hm
    | pF1 | eUnlPrev => exact FV_ast h np hpc (.inr rfl) (fun m hm => .inl hm) hpend (next_setNext s _ _)
    | pB2 k n h0 _ hpc0 =>
      rw [hpc0] at hwr
      have hne : n ≠ h0 := fun hc => hwr.1.1 (hi.c.sub _ (hc ▸ hwr.2.1.1))
      refine FV_ast h np hpc (.inr rfl) (fun m hm => ?_) hpend (next_setNext s _ _)
      rcases List.mem_append.1 hm with hm | hm
      · exact .inl hm
      · obtain rfl := List.mem_singleton.1 hm
        exact .inr (.inr ⟨fun hc => hne (Fld.nnext.inj hc).symm, hwr.1.2.2.1⟩)
  · have q := hS.quiet hE
    exact FV_ast h np hpc (.inr q.head) (fun m hm => .inl (q.order ▸ hm)) hpend (fun m => .inr (q.next m))

theorem FV_step {t : Tid} {e : Ev}
    (hi : Inv s) (hdt : s.dt = false) (hnd : inDtor (s.pc t) = false) (hNP : NP w sel es s.wmtx) (h : FV w sel es s)
    (hS : Step s t e s') : FV w sel (es ++ [(t, e)]) s' := by
  by_cases hast : ∃ f o v, e = .ast f o v
  · obtain ⟨f, o, v, rfl⟩ := hast
    exact FV_step_ast hi hNP h hS
  have he : ∀ f o v, e ≠ .ast f o v := fun f o v hc => hast ⟨f, o, v, hc⟩
  have hpo := pointed_order hi hdt
  obtain ⟨hh, _, hn⟩ := link_frame hS hnd he
  refine FV_snoc h he ?_ (fun n hn' => hh ▸ hn') (fun m n' hm hn' => ⟨Trk_frame hS he hnd hm, hn m n' hn'⟩)
  intro n hn
  have hno := (init_facts hi hS hn).2.1
  exact ⟨fun hc => hno (hpo.1 n hc), fun m hm hc => hno (hpo.2 m n hm hc)⟩

theorem RN_gen (h : RN w sel es s)
    (hin : ∀ n, e.initN = some n → ∀ u, s'.it u ≠ some (some n))
    (hit : ∀ u c, s'.it u = some (some c) → s.it u = some (some c) ∨
      (u = t ∧ ∀ (i : Nat) (x : Tid) (ei : Ev), es[i]? = some (x, ei) → ei.initN = some c →
        Kn (hbTrace w sel (es ++ [(t, e)])) t i)) :
    RN w sel (es ++ [(t, e)]) s' := by
  intro u c hc i x ei hi hinit
  rcases HB.lq_snoc hi with ⟨_, hi'⟩ | ⟨_, hp⟩
  · rcases hit u c hc with h1 | ⟨h1, h2⟩
    · exact kn_app _ (h u c h1 i x ei hi' hinit)
    · subst h1; exact h2 i x ei hi' hinit
  · injection hp with _ h2; subst h2
    exact absurd hc (hin c hinit u)

theorem kn_of_load (hw : w.OK) (hscd : SCD es) {f : Fld} (hf : f.isLink = true)
    {c : Nat} (hp : PubBy w sel es f c) {t : Tid} {o : Ord} (ho : o.isSc = true) (v : Option Nat)
    {i : Nat} {x : Tid} {ei : Ev} (hi : es[i]? = some (x, ei)) (hinit : ei.initN = some c) :
    Kn (hbTrace w sel (es ++ [(t, .ald f o v)])) t i := by
  obtain ⟨q, y, o2, v2, hq, hl, hb⟩ := hp i x ei hi hinit
  rw [hbTrace_snoc]
  refine .of_sw hb (sw_st_ld ?_ ?_ hq (hscd.1 q y f o2 v2 hq (.inl hf)) ho hl)
  · cases f <;> simp [Fld.isLink] at hf <;> exact hw.stLink
  · cases f <;> simp [Fld.isLink] at hf <;> exact hw.ldLink

theorem RN_step (hw : w.OK) {t : Tid} {e : Ev}
    (hi : Inv s) (hi' : Inv s') (hnd : inDtor (s.pc t) = false) (hscd : SCD es) (hNP : NP w sel es s.wmtx)
    (hFV : FV w sel es s) (h : RN w sel es s) (hS : Step s t e s') : RN w sel (es ++ [(t, e)]) s' := by
  have hin : ∀ n, e.initN = some n → ∀ u, s'.it u ≠ some (some n) := by
    intro n hn u hc
    have h1 := hi'.c.itv u n
    simp only [cview_it, cview_order] at h1
    have h2 := (init_facts hi hS hn).2.1
    have h3 : s'.order = s.order := (link_frame hS hnd (by intro f o v hc'; subst hc'; cases hn)).2.1
    rw [h3] at h1
    exact h2 (h1 hc)
  refine RN_gen h hin ?_
  intro u c hc
  by_cases hu : u = t
  case neg => exact .inl (it_other hS hu ▸ hc)
  subst hu
  rcases it_cases hS with h1 | ⟨o, he, ho, h1⟩ | ⟨n, o, he, ho, hn, h1⟩ | ⟨orig, he, hm, h1⟩ | ⟨h1, _⟩ <;> rw [h1] at hc
  · exact .inl hc
  all_goals rw [upd_same] at hc
  · injection hc with hc
    refine .inr ⟨rfl, fun i x ei hi2 hinit => ?_⟩
    rw [he]; exact kn_of_load hw hscd rfl (hFV.1 c hc) ho _ hi2 hinit
  · injection hc with hc
    refine .inr ⟨rfl, fun i x ei hi2 hinit => ?_⟩
    rw [he]; exact kn_of_load hw hscd rfl (hFV.2 n c (.inl (hi.c.itv u n hn)) hc) ho _ hi2 hinit
  · refine .inr ⟨rfl, fun i x ei hi2 hinit => ?_⟩
    rw [hm] at hNP
    exact kn_app _ (hNP i x ei c hi2 hinit)
  · cases hc

/-- `TR1` a record that has been initialised has been allocated -/
def TR1 (es : List (Tid × Ev)) (nR : Nat) : Prop :=
  ∀ (i : Nat) (u : Tid) (e : Ev) (m : Nat), es[i]? = some (u, e) → e.initR = some m → m < nR

/-- `IP` the initialisation of a record is done by the thread that pushes it, before the push -/
def IP (es : List (Tid × Ev)) (s : St) : Prop :=
  ∀ (i : Nat) (u : Tid) (e : Ev) (m : Nat), es[i]? = some (u, e) → e.initR = some m →
    buildRec (s.pc u) = some m ∨
      ∃ (p : Nat) (o : Ord) (a c : Option Nat), i ≤ p ∧ es[p]? = some (u, Ev.cas o a (some m) true c)

/-- `RP` a thread that holds a record privately (constructing it, or having taken it off the log) knows its initialisation -/
def RP (w : Ords) (sel : Bool) (es : List (Tid × Ev)) (s : St) : Prop :=
  ∀ (t : Tid) (m : Nat), privRec (BView (s.pc t)) = some m → ∀ (i : Nat) (u : Tid) (e : Ev), es[i]? = some (u, e) →
    e.initR = some m → Kn (hbTrace w sel es) t i

/-- `RK` a registered thread knows the initialisation of its own record and of every older record on the log -/
def RK (w : Ords) (sel : Bool) (es : List (Tid × Ev)) (s : St) : Prop :=
  ∀ (t : Tid) (b : Bool) (a : Nat), s.hnd t = .reg b a → ∀ m, (m = a ∨ m ∈ Below s.log a) →
    ∀ (i : Nat) (u : Tid) (e : Ev), es[i]? = some (u, e) → e.initR = some m → Kn (hbTrace w sel es) t i


theorem TR1_step (hiv : Inv s) (hnd : inDtor (s.pc t) = false)
    (h : TR1 es s.nR) (hS : Step s t e s') : TR1 (es ++ [(t, e)]) s'.nR := by
  intro i u e' m hi hm
  rcases HB.lq_snoc hi with ⟨_, hi''⟩ | ⟨_, hp⟩
  · exact Nat.lt_of_lt_of_le (h i u e' m hi'' hm) (nR_mono hS hnd)
  · injection hp with h1 h2; subst h1; subst h2
    exact Nat.lt_of_lt_of_le (priv_lt hiv (buildRec_priv (initR_facts hS hm))) (nR_mono hS hnd)

theorem IP_step (hnd : inDtor (s.pc t) = false)
    (h : IP es s) (hS : Step s t e s') : IP (es ++ [(t, e)]) s' := by
  intro i u e' m hi hm
  rcases HB.lq_snoc hi with ⟨hil, hi''⟩ | ⟨hl, hp⟩
  · rcases h i u e' m hi'' hm with h1 | ⟨p, o, a, c, h1, h2⟩
    · by_cases hu : u = t
      · subst hu
        rcases build_step hS h1 with h3 | ⟨o, a, c, h3, _⟩
        · exact .inl h3
        · subst h3; exact .inr ⟨es.length, o, a, c, Nat.le_of_lt hil, HB.lq_last _ _⟩
      · left; rw [hS.pc_other hu]; exact h1
    · exact .inr ⟨p, o, a, c, h1, HB.lq_mono _ h2⟩
  · injection hp with h1 h2; subst h1; subst h2; subst hl
    rcases build_step hS (initR_facts hS hm) with h3 | ⟨o, a, c, h3, _⟩
    · exact .inl h3
    · subst h3; exact .inr ⟨es.length, o, a, c, Nat.le_refl _, HB.lq_last _ _⟩

theorem RP_gen (h : RP w sel es s)
    (hnew : ∀ m, e.initR = some m → ∀ u, privRec (BView (s'.pc u)) = some m → u = t)
    (hpriv : ∀ u m, privRec (BView (s'.pc u)) = some m → privRec (BView (s.pc u)) = some m ∨
      (u = t ∧ ∀ (i : Nat) (x : Tid) (ei : Ev), es[i]? = some (x, ei) → ei.initR = some m →
        Kn (hbTrace w sel (es ++ [(t, e)])) t i)) :
    RP w sel (es ++ [(t, e)]) s' := by
  intro u m hp i x ei hi hinit
  rcases HB.lq_snoc hi with ⟨_, hi'⟩ | ⟨hl, hq⟩
  · rcases hpriv u m hp with h1 | ⟨h1, h2⟩
    · exact kn_app _ (h u m h1 i x ei hi' hinit)
    · subst h1; exact h2 i x ei hi' hinit
  · injection hq with h1 h2; subst h1; subst h2; subst hl
    have := hnew m hinit u hp
    subst this
    exact .self (hbTrace_get (HB.lq_last _ _))

theorem RP_step {t : Tid} {e : Ev}
    (hi : Inv s) (hi' : Inv s') (hnd : inDtor (s.pc t) = false) (hT : TR1 es s.nR) (hK : RK w sel es s)
    (h : RP w sel es s) (hS : Step s t e s') : RP w sel (es ++ [(t, e)]) s' := by
  refine RP_gen h ?_ ?_
  · intro m hm u hu
    rcases build_step hS (initR_facts hS hm) with h3 | ⟨o, a, c, _, h3⟩
    · have := hi'.b.privUq u t m
      simp only [bview_vpc] at this
      exact this hu (buildRec_priv h3)
    · exfalso
      have : m ∉ s'.log := (hi'.b.privOk u m hu).1
      rw [h3] at this; simp at this
  · intro u m hp
    by_cases hu : u = t
    · subst hu
      rcases priv_cases hi hS hnd hp with h1 | ⟨_, h1⟩ | ⟨a, h1, h2⟩
      · exact .inl h1
      · right; refine ⟨rfl, ?_⟩
        intro i x ei hi2 hinit
        have := hT i x ei m hi2 hinit
        omega
      · right; refine ⟨rfl, ?_⟩
        intro i x ei hi2 hinit
        obtain ⟨b, hb⟩ := hi.a.myr u a h1
        exact kn_app _ (hK u b a hb m (.inr (head_mem_below h2)) i x ei hi2 hinit)
    · left; rw [hS.pc_other hu] at hp; exact hp

theorem RK_step (hw : w.OK) {t : Tid} {e : Ev}
    (hi : Inv s) (hi' : Inv s') (hnd : inDtor (s.pc t) = false) (hscd : SCD es) (hIP : IP es s) (hP : RP w sel es s)
    (h : RK w sel es s) (hS : Step s t e s') : RK w sel (es ++ [(t, e)]) s' := by
  intro u b a hreg m hm i x ei hi2 hinit
  rcases HB.lq_snoc hi2 with ⟨_, hi3⟩ | ⟨hlen, hq⟩
  · rcases reg_cases hS hreg with h1 | ⟨h1, o, y, c, h2, h3, h4, h5⟩
    · -- registered before: the set of older records has not grown
      have ho := hi.b.own1 u b a h1
      have hm' : m = a ∨ m ∈ Below s.log a := by
        rcases hm with hm | hm
        · exact .inl hm
        · exact .inr (below_step_active hi hS hnd ho.1 ho.2 hm)
      exact kn_app _ (h u b a h1 m hm' i x ei hi3 hinit)
    · -- registered by this very CAS
      subst h1; subst h2
      rw [h5, below_cons_self] at hm
      rcases hm with hm | hm
      · subst hm
        exact kn_app _ (hP u m h4 i x ei hi3 hinit)
      · rcases hIP i x ei m hi3 hinit with h6 | ⟨p, o2, a2, c2, h6, h7⟩
        · have := (hi.b.privOk x m (buildRec_priv h6)).1
          exact absurd hm this
        · rw [hbTrace_snoc]
          have hb : HBeq (hbTrace w sel es) i p := by
            rcases Nat.lt_or_eq_of_le h6 with h8 | h8
            · exact .inr (po_hb h8 hi3 h7)
            · exact .inl h8
          exact .of_sw hb (sw_cas hw hscd.2.1 h7 (hscd.2.2 p x o2 a2 (some m) c2 h7) h3)
  · -- the new event initialises a record that is still private, or publishes it
    injection hq with h1 h2; subst h1; subst h2; subst hlen
    have hb1 := initR_facts hS hinit
    have h4 := (hi'.b.own1 u b a hreg).1
    rcases build_step hS hb1 with hb2 | ⟨o, y, c, _, hl⟩
    · exfalso
      have hp := buildRec_priv hb2
      have h3 := (hi'.b.privOk x m hp).1
      rcases hm with hm | hm
      · subst hm; exact h3 h4
      · exact h3 (mem_of_mem_below hm)
    · by_cases hux : u = x
      · subst hux; exact .self (hbTrace_get (HB.lq_last _ _))
      · exfalso
        have h3 := (hi.b.privOk x m (buildRec_priv hb1)).1
        rcases reg_cases hS hreg with h5 | ⟨h5, _⟩
        · have h6 := (hi.b.own1 u b a h5).1
          have hma : m ≠ a := fun hc => h3 (hc ▸ h6)
          rcases hm with hm | hm
          · exact hma hm
          · rw [hl, below_cons_ne _ hma] at hm
            exact h3 (mem_of_mem_below hm)
        · exact hux h5

structure HInv (w : Ords) (sel : Bool) (es : List (Tid × Ev)) (s : St) : Prop where
  scd : SCD es
  np : NP w sel es s.wmtx
  fv : FV w sel es s
  rn : RN w sel es s
  tr1 : TR1 es s.nR
  ip : IP es s
  rp : RP w sel es s
  rk : RK w sel es s

theorem hinv_init (w : Ords) (sel : Bool) : HInv w sel [] init := by
  refine ⟨⟨?_, ?_, ?_⟩, ?_, ⟨?_, ?_⟩, ?_, ?_, ?_, ?_, ?_⟩
  · intro q u f o v hq; simp at hq
  · intro k u o v hk; simp at hk
  · intro p u o a b c hp; simp at hp
  · intro i u e n hi; simp at hi
  · intro n hn; simp [init] at hn
  · intro m n _ hn; simp [init, node0] at hn
  · intro t c hc; simp [init] at hc
  · intro i u e m hi; simp at hi
  · intro i u e m hi; simp at hi
  · intro t m hp; simp [init, BView, privRec] at hp
  · intro t b a hr; simp [init] at hr

theorem hinv_step (hw : w.OK) {t : Tid} {e : Ev}
    (hi : Inv s) (hi' : Inv s') (hdt : s.dt = false) (h : HInv w sel es s) (hS : Step s t e s') :
    HInv w sel (es ++ [(t, e)]) s' := by
  have hnd := hi.a.not_inDtor hdt t
  exact ⟨SCD_step h.scd hS, NP_step hi h.np hS, FV_step hi hdt hnd h.np h.fv hS,
    RN_step hw hi hi' hnd h.scd h.np h.fv h.rn hS, TR1_step hi hnd h.tr1 hS, IP_step hnd h.ip hS,
    RP_step hi hi' hnd h.tr1 h.rk h.rp hS, RK_step hw hi hi' hnd h.scd h.ip h.rp h.rk hS⟩

theorem hb_last {t : Tid} {i : Nat} (e : Ev) (hk : Kn (hbTrace w sel es) t i)
    (hil : i < es.length) : HB.HB (hbTrace w sel (es ++ [(t, e)])) i es.length := by
  rw [hbTrace_snoc]
  have := hk.hb_new (e := toHB w sel e) (by simpa using hil)
  simpa using this

theorem node_last {t u : Tid} {e ei : Ev} {n i : Nat}
    (hi : Inv s) (hdt : s.dt = false) (h : HInv w sel es s) (hS : Step s t e s') (hn : e.nodeAcc = some n)
    (hq : es[i]? = some (u, ei)) (hinit : ei.initN = some n) : HB.HB (hbTrace w sel (es ++ [(t, e)])) i es.length := by
  have hil := HB.lq_lt hq
  have hk : Kn (hbTrace w sel es) t i := by
    rcases nodeAcc_cases hi hS (hi.a.not_inDtor hdt t) hn with h1 | h1
    · have := h.np i u ei n hq hinit
      rw [h1] at this; exact this
    · exact h.rn t n h1 i u ei hq hinit
  exact hb_last e hk hil

theorem rec_last {t u : Tid} {e ei : Ev} {m i : Nat}
    (hi : Inv s) (hdt : s.dt = false) (h : HInv w sel es s) (hS : Step s t e s') (hm : e.recAcc = some m)
    (hq : es[i]? = some (u, ei)) (hinit : ei.initR = some m) : HB.HB (hbTrace w sel (es ++ [(t, e)])) i es.length := by
  have hil := HB.lq_lt hq
  have hk : Kn (hbTrace w sel es) t i := by
    rcases recAcc_cases hi hS (hi.a.not_inDtor hdt t) hm with h1 | ⟨b, h1⟩ | ⟨b, a, h1, _, h2⟩
    · exact h.rp t m h1 i u ei hq hinit
    · exact h.rk t b m h1 m (.inl rfl) i u ei hq hinit
    · exact h.rk t b a h1 m (.inr h2) i u ei hq hinit
  exact hb_last e hk hil

end ConcVerif.Rcu
