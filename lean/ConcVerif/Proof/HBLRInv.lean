import ConcVerif.Proof.HBLR
/-! Left-right and happens-before, part 2: the five trace invariants and how each kind of step keeps
them.  `es` is the model trace so far, positions are positions of `es` (= positions of the mapped trace).

* `I1` every write / copy access of a writer is published through the write mutex (`Pub`);
* `I2` every write to the side `m_readingLeft` points to is ordered before the latest store of that flag;
* `I3` a reader whose handle points to side `x` knows every write to `x`;
* `I4` a read through a handle is either still covered by its handle or followed by a decrement of its reader;
* `I5` every read of the side the flag points AWAY from is published to the mutex holder, except — while
  the holder is waiting — reads whose reader was registered in a counter `c` not yet observed at zero; such a read is
  still covered by its handle or followed by a decrement of that same `c`, which is what lets the holder's load of `c`
  returning zero synchronise with it (`I5_zero`, through `sw_cnt`). -/
namespace ConcVerif.LR
open HB (HBeq)

variable {t : Tid} {e : Ev} {p' : Pc} {o : Ords} {es : List (Tid × Ev)} {c l rl : Side} {op : OpId}
  {zL zR : Bool} {pc pc' : Tid → Pc} {m : Option Tid}

/-- the side a writer event writes (both ends of an application / copy window) -/
def Ev.wrS : Ev → Option Side
  | .fBegin x | .fEnd x _ | .cpBegin x | .cpEnd x _ => some x
  | _ => none

/-- counter `c` has not been observed at zero since the flip (the holder is waiting) -/
def zPend (k : PK) (c : Side) : Prop := ∃ l zL zR, k = .wait l zL zR ∧ zOf c zL zR = false

def I1 (o : Ords) (es : List (Tid × Ev)) (mtx : Option Tid) : Prop :=
  ∀ i u e x, es[i]? = some (u, e) → e.wrS = some x → Pub o es mtx i

def I2 (o : Ords) (es : List (Tid × Ev)) (rl : Side) : Prop :=
  ∀ i u e, es[i]? = some (u, e) → e.wrS = some rl →
    ∃ q w, es[q]? = some (w, .stRL rl) ∧ (∀ k w' v, q < k → es[k]? ≠ some (w', .stRL v)) ∧ HBeq (hbTrace o es) i q

def I3 (o : Ords) (es : List (Tid × Ev)) (pc : Tid → Pc) : Prop :=
  ∀ r x, (pc r).held = some x → ∀ i u e, es[i]? = some (u, e) → e.wrS = some x → Kn (hbTrace o es) r i

def I4 (es : List (Tid × Ev)) (pc : Tid → Pc) : Prop :=
  ∀ i r x v, es[i]? = some (r, Ev.rd x v) → (pc r).held = some x ∨ ∃ (d : Nat) (c : Side) (old : Nat), i < d ∧ es[d]? = some (r, Ev.dec c old)

def I5 (o : Ords) (es : List (Tid × Ev)) (mtx : Option Tid) (rl : Side) (pc : Tid → Pc) : Prop :=
  ∀ i r v, es[i]? = some (r, Ev.rd rl.flip v) → Pub o es mtx i ∨
    ∃ t c, mtx = some t ∧ zPend (pc t).pk c ∧
      (((pc r).held = some rl.flip ∧ (pc r).regIn = some c) ∨ ∃ (d : Nat) (old : Nat), i < d ∧ es[d]? = some (r, Ev.dec c old))

theorem I1_snoc (h : I1 o es m)
    (he : ∀ x, e.wrS = some x → m = some t) : I1 o (es ++ [(t, e)]) m := by
  intro i u e' x hi hx
  rcases HB.lq_snoc hi with ⟨_, hi'⟩ | ⟨hl, hp⟩
  · exact (h i u e' x hi' hx).mono _
  · cases hp; subst hl
    rw [he x hx]; exact Pub.self es t e

theorem I1_lock (t : Tid) (h : I1 o es none) :
    I1 o (es ++ [(t, .lock)]) (some t) := by
  intro i u e' x hi hx
  rcases HB.lq_snoc hi with ⟨_, hi'⟩ | ⟨_, hp⟩
  · exact (h i u e' x hi' hx).lock t
  · cases hp; cases hx

theorem I1_unlock (h : I1 o es (some t)) :
    I1 o (es ++ [(t, .unlock)]) none := by
  intro i u e' x hi hx
  rcases HB.lq_snoc hi with ⟨_, hi'⟩ | ⟨_, hp⟩
  · exact (h i u e' x hi' hx).unlock
  · cases hp; cases hx

theorem I2_snoc (h : I2 o es rl)
    (he : e.wrS ≠ some rl) (he3 : ∀ v, e ≠ .stRL v) : I2 o (es ++ [(t, e)]) rl := by
  intro i u e' hi hx
  rcases HB.lq_snoc hi with ⟨_, hi'⟩ | ⟨_, hp⟩
  · obtain ⟨q, w, h1, h2, h3⟩ := h i u e' hi' hx
    refine ⟨q, w, HB.lq_mono _ h1, ?_, by rw [hbTrace_append]; exact h3.mono _⟩
    intro k w' v hqk hk
    rcases HB.lq_snoc hk with ⟨_, hk'⟩ | ⟨_, hp⟩
    · exact h2 k w' v hqk hk'
    · injection hp with _ h2; exact he3 v h2.symm
  · cases hp; exact absurd hx he

/-- the flip: the holder knows every write so far, so each of them is ordered before the new store -/
theorem I2_flip (v : Side) (h : I1 o es (some t)) :
    I2 o (es ++ [(t, .stRL v)]) v := by
  intro i u e' hi hx
  rcases HB.lq_snoc hi with ⟨_, hi'⟩ | ⟨_, hp⟩
  · refine ⟨es.length, t, HB.lq_last _ _, ?_, ?_⟩
    · intro k w' v' hk hc
      have := HB.lq_lt hc
      simp at this; omega
    · have hk : Kn (hbTrace o es) t i := h i u e' v hi' hx
      rw [hbTrace_snoc]
      have := hk.hbeq_of_own (e := toHB o (.stRL v))
      simpa using this
  · cases hp; cases hx

theorem I3_snoc (h : I3 o es pc)
    (hh : ∀ r x, (pc' r).held = some x → (pc r).held = some x)
    (he : ∀ x, e.wrS = some x → ∀ r, (pc' r).held ≠ some x) : I3 o (es ++ [(t, e)]) pc' := by
  intro r x hr i u e' hi hx
  rcases HB.lq_snoc hi with ⟨_, hi'⟩ | ⟨_, hp⟩
  · rw [hbTrace_append]; exact (h r x (hh r x hr) i u e' hi' hx).mono _
  · cases hp; exact absurd hr (he x hx r)

/-- a reader loads `m_readingLeft`: it reads from the latest store, which every write to that side
is ordered before -/
theorem I3_load (ho : o.OK) (h2 : I2 o es rl) (h3 : I3 o es pc) (hp : p'.held = some rl) :
    I3 o (es ++ [(t, .ldRL rl)]) (upd pc t p') := by
  intro r x hr i u e' hi hx
  rcases HB.lq_snoc hi with ⟨_, hi'⟩ | ⟨_, hp'⟩
  · by_cases hrt : r = t
    · subst hrt
      rw [upd_same, hp] at hr; cases hr
      obtain ⟨q, w, hq, hlast, hb⟩ := h2 i u e' hi' hx
      rw [hbTrace_snoc]
      exact .of_sw hb (sw_rl ho hq hlast)
    · rw [upd_other _ _ _ _ hrt] at hr
      rw [hbTrace_append]; exact (h3 r x hr i u e' hi' hx).mono _
  · cases hp'; cases hx

theorem I4_snoc (h : I4 es pc)
    (hh : ∀ r x, (pc r).held = some x → (pc' r).held = some x)
    (he : ∀ x v, e = .rd x v → (pc' t).held = some x) : I4 (es ++ [(t, e)]) pc' := by
  intro i r x v hi
  rcases HB.lq_snoc hi with ⟨_, hi'⟩ | ⟨_, hp⟩
  · rcases h i r x v hi' with h1 | ⟨d, c, old, h1, h2⟩
    · exact .inl (hh r x h1)
    · exact .inr ⟨d, c, old, h1, HB.lq_mono _ h2⟩
  · injection hp with h1 h2; subst h1
    exact .inl (he x v h2.symm)

theorem I4_dec {old : Nat} (p' : Pc) (h : I4 es pc) :
    I4 (es ++ [(t, .dec c old)]) (upd pc t p') := by
  intro i r x v hi
  rcases HB.lq_snoc hi with ⟨hl, hi'⟩ | ⟨_, hp⟩
  · by_cases hrt : r = t
    · subst hrt; exact .inr ⟨es.length, c, old, hl, HB.lq_last _ _⟩
    · rcases h i r x v hi' with h1 | ⟨d, c', old', h1, h2⟩
      · exact .inl (by rw [upd_other _ _ _ _ hrt]; exact h1)
      · exact .inr ⟨d, c', old', h1, HB.lq_mono _ h2⟩
  · cases hp

/-- a step that keeps the mutex, the flag, the handles and the pending counters of the holder; a new
read of the side the flag points away from must come with a pending counter of its reader -/
theorem I5_snoc (h : I5 o es m rl pc)
    (hh : ∀ r x, (pc r).held = some x → (pc' r).held = some x ∧ (pc' r).regIn = (pc r).regIn)
    (hz : ∀ u c, m = some u → zPend (pc u).pk c → zPend (pc' u).pk c)
    (he : ∀ v, e = .rd rl.flip v →
      ∃ u c, m = some u ∧ zPend (pc' u).pk c ∧ (pc' t).held = some rl.flip ∧ (pc' t).regIn = some c) :
    I5 o (es ++ [(t, e)]) m rl pc' := by
  intro i r v hi
  rcases HB.lq_snoc hi with ⟨_, hi'⟩ | ⟨_, hp⟩
  · rcases h i r v hi' with h1 | ⟨u, c, hm, hzp, h2⟩
    · exact .inl (h1.mono _)
    · refine .inr ⟨u, c, hm, hz u c hm hzp, ?_⟩
      rcases h2 with ⟨h3, h4⟩ | ⟨d, old, h3, h4⟩
      · obtain ⟨a, b⟩ := hh r _ h3
        exact .inl ⟨a, by rw [b]; exact h4⟩
      · exact .inr ⟨d, old, h3, HB.lq_mono _ h4⟩
  · injection hp with h1 h2; subst h1
    obtain ⟨u, c, hm, hzp, a, b⟩ := he v h2.symm
    exact .inr ⟨u, c, hm, hzp, .inl ⟨a, b⟩⟩

/-- a reader deregisters: its reads are now followed by a decrement of the counter it was registered in -/
theorem I5_dec
    {old : Nat} (p' : Pc) (h : I5 o es m rl pc) (hreg : (pc t).regIn = some c) (hq : ∀ c', ¬ zPend (pc t).pk c') :
    I5 o (es ++ [(t, .dec c old)]) m rl (upd pc t p') := by
  intro i r v hi
  rcases HB.lq_snoc hi with ⟨hl, hi'⟩ | ⟨_, hp⟩
  · rcases h i r v hi' with h1 | ⟨u, c', hm, hzp, h2⟩
    · exact .inl (h1.mono _)
    · have hut : u ≠ t := by intro hc; subst hc; exact hq c' hzp
      refine .inr ⟨u, c', hm, by rw [upd_other _ _ _ _ hut]; exact hzp, ?_⟩
      rcases h2 with ⟨h3, h4⟩ | ⟨d, old', h3, h4⟩
      · by_cases hrt : r = t
        · subst hrt
          rw [hreg] at h4; cases h4
          exact .inr ⟨es.length, old, hl, HB.lq_last _ _⟩
        · exact .inl (by rw [upd_other _ _ _ _ hrt]; exact ⟨h3, h4⟩)
      · exact .inr ⟨d, old', h3, HB.lq_mono _ h4⟩
  · cases hp

theorem I5_lock (pc' : Tid → Pc) (t : Tid)
    (h : I5 o es none rl pc) : I5 o (es ++ [(t, .lock)]) (some t) rl pc' := by
  intro i r v hi
  rcases HB.lq_snoc hi with ⟨_, hi'⟩ | ⟨_, hp⟩
  · rcases h i r v hi' with h1 | ⟨u, c, hm, _⟩
    · exact .inl (h1.lock t)
    · cases hm
  · cases hp

theorem I5_unlock (pc' : Tid → Pc)
    (h : I5 o es (some t) rl pc) (hz : ∀ c, ¬ zPend (pc t).pk c) : I5 o (es ++ [(t, .unlock)]) none rl pc' := by
  intro i r v hi
  rcases HB.lq_snoc hi with ⟨_, hi'⟩ | ⟨_, hp⟩
  · rcases h i r v hi' with h1 | ⟨u, c, hm, hzp, _⟩
    · exact .inl h1.unlock
    · cases hm; exact absurd hzp (hz c)
  · cases hp

/-- the flip: every read of the old side is covered by a handle or followed by a decrement; no counter
has been observed yet -/
theorem I5_flip (h4 : I4 es pc)
    (hp : (pc t).held = none) (hpk : p'.pk = .wait l false false) :
    I5 o (es ++ [(t, .stRL l.flip)]) (some t) l.flip (upd pc t p') := by
  intro i r v hi
  rw [Side.flip_flip] at hi
  have hzp : ∀ c, zPend (upd pc t p' t).pk c := by
    intro c; rw [upd_same]; exact ⟨l, false, false, hpk, by cases c <;> rfl⟩
  rcases HB.lq_snoc hi with ⟨_, hi'⟩ | ⟨_, hp'⟩
  · rcases h4 i r l v hi' with h1 | ⟨d, c, old, h1, h2⟩
    · obtain ⟨c, hc⟩ := held_regIn h1
      have hrt : r ≠ t := by intro hc'; subst hc'; rw [hp] at h1; cases h1
      refine .inr ⟨t, c, rfl, hzp c, .inl ?_⟩
      rw [upd_other _ _ _ _ hrt, Side.flip_flip]; exact ⟨h1, hc⟩
    · exact .inr ⟨t, c, rfl, hzp c, .inr ⟨d, old, h1, HB.lq_mono _ h2⟩⟩
  · cases hp'

/-- a counter observed at zero: nobody is registered in it, and every decrement of it so far
synchronises with the load — the reads that were waiting for this counter are now known to the holder -/
theorem I5_zero (ho : o.OK) (h : I5 o es (some t) rl pc)
    (hpk0 : (pc t).pk = .wait l zL zR) (hpk' : p'.pk = (waitSeen op l zL zR c).pk)
    (hno : ∀ r, (pc r).regIn ≠ some c) (hp : (pc t).held = none) :
    I5 o (es ++ [(t, .ldCnt c 0)]) (some t) rl (upd pc t p') := by
  intro i r v hi
  rcases HB.lq_snoc hi with ⟨_, hi'⟩ | ⟨_, hp'⟩
  · rcases h i r v hi' with h1 | ⟨u, c', hm, hzp, h2⟩
    · exact .inl (h1.mono _)
    · cases hm
      by_cases hc : c' = c
      · subst hc
        rcases h2 with ⟨_, h4⟩ | ⟨d, old, h3, h4⟩
        · exact absurd h4 (hno r)
        · left
          simp only [Pub, hbTrace_snoc]
          exact .of_sw (.inr (po_hb h3 hi' h4)) (sw_cnt ho h4)
      · refine .inr ⟨t, c', rfl, ?_, ?_⟩
        · rw [upd_same, hpk']
          obtain ⟨l', zL', zR', e1, e2⟩ := hzp
          rw [hpk0] at e1; cases e1
          cases c <;> cases c' <;> first | exact absurd rfl hc | exact ⟨_, _, _, rfl, e2⟩
        · rcases h2 with ⟨h3, h4⟩ | ⟨d, old, h3, h4⟩
          · have hrt : r ≠ t := by intro hc'; subst hc'; rw [hp] at h3; cases h3
            exact .inl (by rw [upd_other _ _ _ _ hrt]; exact ⟨h3, h4⟩)
          · exact .inr ⟨d, old, h3, HB.lq_mono _ h4⟩
  · cases hp'

end ConcVerif.LR
