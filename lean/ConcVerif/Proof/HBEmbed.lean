import ConcVerif.Proof.HB
/-! Happens-before is preserved when a trace is embedded into a longer one: `tr'` contains every synchronisation /
access event of `tr` in the same order and by the same thread (`f` maps positions; events of `tr` that carry no
happens-before content — `nop` — may be merged into a neighbouring event of the same thread), `tr'` may contain any
number of additional events as long as they are not atomic stores (an additional store could end a release sequence).
Used to transfer the left-right theorem to the cow_guarded trace, whose model delegates to the left-right model. -/
namespace ConcVerif.HB

structure Embed (tr tr' : Trace) (f : Nat → Nat) : Prop where
  mono : ∀ (i j : Nat), i ≤ j → j < tr.length → f i ≤ f j
  thr : ∀ (i : Nat) (t : Tid) (e : Ev), tr[i]? = some (t, e) → ∃ e', tr'[f i]? = some (t, e')
  ev : ∀ (i : Nat) (t : Tid) (e : Ev), tr[i]? = some (t, e) → e ≠ .nop → tr'[f i]? = some (t, e)
  inj : ∀ (i j : Nat) (t u : Tid) (e e' : Ev), i < j → tr[i]? = some (t, e) → tr[j]? = some (u, e') → e ≠ .nop →
    e' ≠ .nop → f i < f j
  st : ∀ (p : Nat) (t : Tid) (a : Loc) (o : Ord), tr'[p]? = some (t, Ev.st a o) → ∃ i, f i = p ∧ tr[i]? = some (t, Ev.st a o)
  -- neither thread creation nor join: the embedding is used for traces without either
  nofork : ∀ (i : Nat) (t u : Tid), tr[i]? ≠ some (t, Ev.fork u) ∧ tr[i]? ≠ some (t, Ev.join u)

theorem relWrite_ne_nop {e : Ev} {a : Loc} (h : RelWrite e a) : e ≠ .nop := by
  obtain ⟨o, _, h | h⟩ := h <;> (subst h; simp)

theorem acqRead_ne_nop {e : Ev} {a : Loc} (h : AcqRead e a) : e ≠ .nop := by
  obtain ⟨o, _, h | h⟩ := h <;> (subst h; simp)

theorem Embed.hbeq {tr tr' : Trace} {f : Nat → Nat} (E : Embed tr tr' f) {i j : Nat} (h : HB tr i j) :
    HBeq tr' (f i) (f j) := by
  induction h with
  | po hij h1 h2 =>
    rename_i i j t e e'
    have hle := E.mono i j (Nat.le_of_lt hij) (lq_lt h2)
    obtain ⟨a, ha⟩ := E.thr i t e h1
    obtain ⟨b, hb⟩ := E.thr j t e' h2
    rcases Nat.lt_or_eq_of_le hle with h | h
    · exact .inr (.po h ha hb)
    · exact .inl h
  | sw hsw =>
    cases hsw with
    | mutex hij h1 h2 hmd =>
      exact .inr (.sw (.mutex (E.inj _ _ _ _ _ _ hij h1 h2 (by simp) (by simp)) (E.ev _ _ _ h1 (by simp))
        (E.ev _ _ _ h2 (by simp)) hmd))
    | atomic hij h1 h2 hr ha hno =>
      rename_i i j t u a ei ej
      have n1 := relWrite_ne_nop hr
      have n2 := acqRead_ne_nop ha
      refine .inr (.sw (.atomic (E.inj _ _ _ _ _ _ hij h1 h2 n1 n2) (E.ev _ _ _ h1 n1) (E.ev _ _ _ h2 n2) hr ha ?_))
      intro k v o hk1 hk2 hc
      obtain ⟨i', hf, hi'⟩ := E.st k v a o hc
      subst hf
      have g1 : i < i' := by
        apply Classical.byContradiction
        intro hn
        have := E.mono i' i (by omega) (lq_lt h1)
        omega
      have g2 : i' < j := by
        apply Classical.byContradiction
        intro hn
        have := E.mono j i' (by omega) (lq_lt hi')
        omega
      exact hno i' v o g1 g2 hi'
    | fork hij h1 h2 => exact absurd h1 (E.nofork _ _ _).1
    | join hij h1 h2 => exact absurd h2 (E.nofork _ _ _).2
    | forkJoin hij h1 h2 => exact absurd h1 (E.nofork _ _ _).1
  | trans _ _ ih1 ih2 => exact ih1.trans ih2

/-- between two events that carry happens-before content the order is strict -/
theorem Embed.hb {tr tr' : Trace} {f : Nat → Nat} (E : Embed tr tr' f) {i j : Nat} {t u : Tid} {e e' : Ev} (h : HB tr i j)
    (hi : tr[i]? = some (t, e)) (hj : tr[j]? = some (u, e')) (n1 : e ≠ .nop) (n2 : e' ≠ .nop) : HB tr' (f i) (f j) := by
  have hlt := E.inj i j t u e e' h.lt' hi hj n1 n2
  rcases E.hbeq h with g | g
  · omega
  · exact g

end ConcVerif.HB
