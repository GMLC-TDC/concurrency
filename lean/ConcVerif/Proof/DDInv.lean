import ConcVerif.Proof.DDLife
import ConcVerif.Proof.DDDtor
/-! The DelayedDestructor invariants together, for every reachable state, and the facts about single events the property
files use. -/
namespace ConcVerif.DD

structure Inv (s : St) : Prop where
  lockI : InvL s
  acct : Acct s
  wf : Wf s
  own : Own s
  life : Life s
  pend : PendFr s
  dt : Dt s
  adjI : Adj s

theorem inv_init (cb ns nt) : Inv (init cb ns nt) :=
  ⟨invL_init cb ns nt, acct_init cb ns nt, wf_init cb ns nt, own_init cb ns nt, life_init cb ns nt,
   pendFr_init cb ns nt, dt_init cb ns nt, adjI_init cb ns nt⟩

theorem inv_step {s s' : St} {t : Tid} {e} (hI : Inv s) (h : step s t e = some s') : Inv s' :=
  ⟨invL_step hI.lockI h, (Step.of_step h).acct hI.acct, wf_step hI.wf h, own_step hI.own h,
   life_step hI.life hI.own hI.wf h, pendFr_step hI.pend hI.life h, dt_step hI.dt h,
   adjI_step hI.adjI hI.wf h⟩

theorem inv_reachable {cb ns nt} {s : St} (h : Reachable cb ns nt s) : Inv s := by
  obtain ⟨es, hr⟩ := h
  exact runFrom_inv (Inv := Inv) (fun _ _ _ _ hi hs => inv_step hi hs) (inv_init cb ns nt) hr

theorem reachable_step {cb ns nt} {s s' : St} {t : Tid} {e} (h : Reachable cb ns nt s) (hs : step s t e = some s') :
    Reachable cb ns nt s' := by
  obtain ⟨es, hr⟩ := h
  exact ⟨es ++ [(t, e)], runFrom_snoc_eq_some.mpr ⟨s, hr, hs⟩⟩

/-! ## Facts about single events and about returns to user code, for the property files (C16, C20_dd, C07_dd) -/

theorem pdt_inv {s s' : St} {t : Tid} {k : ObjId} (h : step s t (.pdt k) = some s') :
    ∃ rest, s.stk t = .dying k :: rest ∧ k ∈ s.pend ∧ s'.destroyed = k :: s.destroyed ∧
      s'.pend = s.pend.erase k ∧ s'.stk t = .inDt k :: rest := by
  obtain ⟨fs, hfs, hS⟩ := Step.inv h
  cases hS with
  | user _ h => cases h
  | dtorStart hk => exact ⟨_, hfs, hk, rfl, rfl, setStk_stk_same ..⟩

theorem count_one_of_nodup {l : List ObjId} (hn : l.Nodup) {k : ObjId} (hk : k ∈ l) : l.count k = 1 := by
  induction l with
  | nil => cases hk
  | cons a l ih =>
    have ⟨ha, hl⟩ := List.nodup_cons.mp hn
    by_cases hak : a = k
    · subst hak
      rw [List.count_cons_self, List.count_eq_zero.mpr ha]
    · have : k ∈ l := by
        cases hk with
        | head => exact absurd rfl hak
        | tail _ h => exact h
      rw [List.count_cons_of_ne hak, ih hl this]

/-- payload-destructor and callback events -/
def isCbDt : Ev → Bool
  | .pdt _ | .pde _ | .ucb _ | .uce _ | .uth _ => true
  | _ => false

theorem cbdt_top {s s' : St} {t : Tid} {e : Ev} (h : step s t e = some s') (he : isCbDt e = true) :
    holds (s.stk t) = false := by
  obtain ⟨fs, hfs, hS⟩ := Step.inv h
  rw [hfs]
  cases hS with
  | user hu => exact userLevel_not_holds hu
  | cbStart | cbEndLast | cbEnd | cbThrow | dtorStart | dtorEnd => rfl
  | _ => cases he

theorem holder_mul {s : St} {u : Tid} (hl : s.lock = some u) (hh : holds (s.stk u) = true) :
    (step s u .mul).isSome = true := by
  cases hfs : s.stk u with
  | nil => rw [hfs] at hh; cases hh
  | cons f rest =>
    rw [hfs] at hh
    cases f <;> cases hh <;> simp [step, hfs, hl]
    split <;> rfl

theorem reachable_hasCb {cb ns nt} {s : St} (h : Reachable cb ns nt s) : s.hasCb = cb := by
  obtain ⟨es, hr⟩ := h
  exact runFrom_inv (Inv := fun s => s.hasCb = cb) (fun _ _ _ _ hi hs => (step_hasCb hs).trans hi) rfl hr

theorem suffix_mem {α : Type} {l1 l2 : List α} (h : l1 <:+ l2) {a : α} (ha : a ∈ l1) : a ∈ l2 := by
  obtain ⟨p, rfl⟩ := h
  exact List.mem_append_right _ ha

theorem dDone_user (s : St) (t r) {rest : List Frame} (hu : userLevel rest = true) :
    dDone s t r rest = s.setStk t (.dRet r :: rest) := by
  cases rest with
  | nil => rfl
  | cons f fs => cases f <;> simp [userLevel] at hu <;> rfl

theorem drain_suffix (s : St) (t sz cbs thrown) {rest : List Frame} (hu : userLevel rest = true) (ec : List ObjId) :
    rest <:+ (drain s t sz cbs thrown rest ec).stk t := by
  induction ec generalizing s with
  | nil =>
    simp only [drain]; split
    · rw [dDone_user _ _ _ hu]; simp
    · simp
  | cons k ec ih =>
    simp only [drain]; split
    · simp only [setStk_stk_same]
      exact List.IsSuffix.trans (List.suffix_cons _ _) (List.suffix_cons _ _)
    · exact ih _

theorem drain_vec_user (s : St) (t sz cbs thrown) {rest : List Frame} (hu : userLevel rest = true) (ec : List ObjId) :
    (drain s t sz cbs thrown rest ec).vec = s.vec := by
  induction ec generalizing s with
  | nil => simp only [drain]; split; rw [dDone_user _ _ _ hu]; rfl; rfl
  | cons a l ih =>
    simp only [drain]; split
    · rfl
    · exact ih _

end ConcVerif.DD
