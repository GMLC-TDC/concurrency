import ConcVerif.Proof.DDSil
/-! The container's destructor in the DelayedDestructor model: it returns only after the vector member is empty, and
nothing can be added afterwards (client obligation: no calls once the destructor has started). -/
namespace ConcVerif.DD

variable {s s' X : St} {t : Tid} {fs : List Frame} {f : Frame} {e : Ev} {c : Cfg}

def ActOk (s : St) : Prop := ∀ u, u ∈ s.act ↔ s.stk u ≠ []

theorem actOk_setStk (t fs) (h : ActOk s) : ActOk (s.setStk t fs) := by
  intro u
  by_cases hu : u = t
  · subst hu
    by_cases hf : fs = []
    · simp [St.setStk, hf]
    · simp [St.setStk, hf]
  · have := h u
    by_cases hf : fs = []
    · simp [St.setStk, hf, hu, this]
    · simp [St.setStk, hf, hu, this]

theorem actOk_sil (h : Sil t X c s') (hI : ActOk X) : ActOk s' := by
  induction h with
  | caught _ ih | doneVec _ ih | ecNext _ _ ih | vecNext _ _ _ ih => exact ih hI
  | _ => exact actOk_setStk _ _ (by exact hI)

theorem Step.actOk (h : Step s t fs e s') (hI : ActOk s) : ActOk s' := by
  -- `by exact hI`: the state the lemma is about (`unlock s`, `{ s with lock := … }`, …) is read off the goal first;
  -- `ActOk` of it unfolds to `ActOk s`
  cases h with
  | user _ h =>
    cases h with
    | new | dup | drop => exact hI
    | callDtor => exact actOk_sil (xTop_sil ..) (by exact hI)
    | _ => exact actOk_setStk _ _ (by exact hI)
  | dLock => exact actOk_sil (select_sil ..) hI
  | dTimeout | dUnlock0 | dRelockTimeout | dUnlock2 => exact actOk_sil (dDone_sil ..) (by exact hI)
  | dUnlock1 | cbEndLast | cbThrow => exact actOk_sil (drain_sil ..) (by exact hI)
  | dtorEnd => exact actOk_sil (resume_sil ..) hI
  | xYield | xSleep => exact actOk_sil (xTop_sil ..) hI
  | _ => exact actOk_setStk _ _ (by exact hI)

theorem actOk_init (cb ns nt) : ActOk (init cb ns nt) := by intro u; simp [init]

def isAdd : Frame → Bool
  | .addCalled _ _ => true
  | _ => false

def isX : Frame → Bool
  | .xInner _ | .xYield _ | .xSleep _ | .xInnerLast | .xVec | .xRet => true
  | _ => false

/-- `addCalled` frames exist only before the destructor starts, `x` frames only after, `xRet` only once the vector is gone -/
def PF (d : Option Tid) (v : Bool) (f : Frame) : Prop :=
  (isAdd f = true → d = none) ∧ (f = .xRet → v = true) ∧ (isX f = true → d ≠ none)

def AllPF (d : Option Tid) (v : Bool) (fs : List Frame) : Prop := ∀ f ∈ fs, PF d v f

@[simp] theorem allPF_nil (d v) : AllPF d v [] := by intro f h; cases h
@[simp] theorem allPF_cons (d v f fs) : AllPF d v (f :: fs) ↔ PF d v f ∧ AllPF d v fs := by simp [AllPF]

theorem AllPF.mono {d : Option Tid} {v v' : Bool} {fs} (h : AllPF d v fs) (hv : v = true → v' = true) : AllPF d v' fs :=
  fun f hf => ⟨(h f hf).1, fun hx => hv ((h f hf).2.1 hx), (h f hf).2.2⟩

theorem pf_plain (d : Option Tid) (v : Bool) (h1 : isAdd f = false) (h2 : isX f = false) : PF d v f := by
  refine ⟨by simp [h1], ?_, by simp [h2]⟩
  intro hx; subst hx; simp [isX] at h2

theorem pf_x {d : Option Tid} (v : Bool) (hd : d ≠ none) (h1 : isAdd f = false) (h3 : f ≠ .xRet) : PF d v f :=
  ⟨by simp [h1], fun h => absurd h h3, fun _ => hd⟩

theorem pf_xRet {d : Option Tid} (hd : d ≠ none) : PF d true .xRet := ⟨by simp [isAdd], fun _ => rfl, fun _ => hd⟩

theorem AllPF.tail {d : Option Tid} {v : Bool} {f : Frame} {fs : List Frame} (h : AllPF d v (f :: fs)) : AllPF d v fs := ((allPF_cons ..).mp h).2
theorem AllPF.head {d : Option Tid} {v : Bool} {f : Frame} {fs : List Frame} (h : AllPF d v (f :: fs)) : PF d v f := ((allPF_cons ..).mp h).1
theorem AllPF.cons {d : Option Tid} {v : Bool} {f : Frame} {fs : List Frame} (h : AllPF d v fs) (hf : PF d v f) : AllPF d v (f :: fs) := (allPF_cons ..).mpr ⟨hf, h⟩
theorem AllPF.replace {d : Option Tid} {v : Bool} {f g : Frame} {fs : List Frame} (h : AllPF d v (f :: fs)) (hg : PF d v g) : AllPF d v (g :: fs) := h.tail.cons hg

/-- the destructor's loop test runs in the thread recorded in `dead` (`hd`) -/
theorem allPF_sil (h : Sil t X c s') (hI : AllPF X.dead X.vdead c.stk) (hd : c.isTop = true → X.dead ≠ none) :
    AllPF s'.dead s'.vdead (s'.stk t) := by
  induction h with
  | stop => rw [setStk_stk_same]; exact hI
  | caught _ ih => exact ih hI.tail nofun
  | ecLast => rw [setStk_stk_same]; exact (hI.replace (pf_plain _ _ rfl rfl)).cons (pf_plain _ _ rfl rfl)
  | ecNext _ _ ih => exact ih (hI.replace (pf_plain _ _ rfl rfl)) nofun
  | vecDone | doneEmpty => rw [setStk_stk_same]; exact (hI.tail.mono fun _ => rfl).cons (pf_xRet (hI.head.2.2 rfl))
  | topEmpty => rw [setStk_stk_same]; exact (hI.mono fun _ => rfl).cons (pf_xRet (hd rfl))
  | topCall =>
    rw [setStk_stk_same]
    exact (hI.cons (pf_x (f := .xInner _) _ (hd rfl) rfl nofun)).cons (pf_plain _ _ rfl rfl)
  | vecLast | doneRet | scanNone | scanSome => rw [setStk_stk_same]; exact hI.cons (pf_plain _ _ rfl rfl)
  | vecNext _ _ _ ih => exact ih hI nofun
  | doneCall =>
    rw [setStk_stk_same]; exact (hI.replace (pf_x (f := .xInnerLast) _ (hI.head.2.2 rfl) rfl nofun)).cons (pf_plain _ _ rfl rfl)
  | doneSleep | doneYield => rw [setStk_stk_same]; exact hI.replace (pf_x _ (hI.head.2.2 rfl) rfl nofun)
  | doneVec _ ih => exact ih (hI.replace (pf_x _ (hI.head.2.2 rfl) rfl nofun)) nofun
  | _ => rw [setStk_stk_same]; exact hI.replace (pf_plain _ _ rfl rfl)

theorem pf_gBody (d : Option Tid) (v : Bool) (len dc cnt : Nat) : PF d v (gBody len dc cnt) := by
  unfold gBody; split <;> exact pf_plain _ _ rfl rfl

theorem pf_gNext (d : Option Tid) (v : Bool) (len dc cnt es : Nat) : PF d v (gNext len dc cnt es) := by
  unfold gNext; repeat' split
  all_goals (first | exact pf_gBody _ _ _ _ _ | exact pf_plain _ _ rfl rfl)

theorem mayCall_dead (h : s.mayCall t = true) : s.dead = none := by
  simp only [St.mayCall, Bool.and_eq_true, Option.isNone_iff_eq_none] at h; exact h.2

theorem pf_add (hm : s.mayCall t = true) (v k mv) : PF s.dead v (.addCalled k mv) :=
  ⟨fun _ => mayCall_dead hm, nofun, nofun⟩

theorem Step.allPF (h : Step s t fs e s') (hfs : s.stk t = fs)
    (hI : AllPF s.dead s.vdead fs) : AllPF s'.dead s'.vdead (s'.stk t) := by
  cases h with
  | user _ h =>
    cases h with
    | new | dup | drop => exact hfs ▸ hI
    | callAddMv hm | callAdd hm => rw [setStk_stk_same]; exact hI.cons (pf_add hm ..)
    | callDtor hfs' =>
      subst hfs'; exact allPF_sil (X := { s with dead := some t }) (xTop_sil ..) (allPF_nil _ _) (fun _ => nofun)
    | _ => rw [setStk_stk_same]; exact hI.cons (pf_plain _ _ rfl rfl)
  | addRet | sizeRet | dRet | gRet | xRet => rw [setStk_stk_same]; exact hI.tail
  | dLock => exact allPF_sil (select_sil ..) hI.tail nofun
  | dTimeout | dUnlock0 | dRelockTimeout | dUnlock2 => exact allPF_sil (dDone_sil ..) hI.tail nofun
  | dUnlock1 | cbEndLast | cbThrow => exact allPF_sil (drain_sil ..) (hI.replace (pf_plain _ _ rfl rfl)) nofun
  | dtorEnd => exact allPF_sil (resume_sil ..) hI.tail nofun
  | gLock | gRelockD => rw [setStk_stk_same]; exact hI.replace (pf_gNext ..)
  | gRelockS => rw [setStk_stk_same]; exact hI.replace (pf_gBody ..)
  | gUnlockD => rw [setStk_stk_same]; exact (hI.replace (pf_plain _ _ rfl rfl)).cons (pf_plain _ _ rfl rfl)
  | xYield | xSleep => exact allPF_sil (xTop_sil ..) hI.tail (fun _ => hI.head.2.2 rfl)
  | _ => rw [setStk_stk_same]; exact hI.replace (pf_plain _ _ rfl rfl)

/-! ### once the vector member is gone it stays empty -/

def G1 (s : St) : Prop := s.vdead = true → s.vec = [] ∧ s.dead ≠ none

theorem g1_sil (h : Sil t X c s') (hp : AllPF X.dead X.vdead c.stk)
    (hd : c.isTop = true → X.dead ≠ none) (hI : G1 X) : G1 s' := by
  induction h with
  | caught _ ih => exact ih hp.tail nofun hI
  | ecNext _ _ ih => exact ih (hp.replace (pf_plain _ _ rfl rfl)) nofun hI
  | vecDone => exact fun _ => ⟨rfl, hp.head.2.2 rfl⟩
  | vecLast hv => exact fun hvd => nomatch hv.symm.trans (hI hvd).1
  | vecNext hv _ _ ih => exact ih hp nofun (fun hvd => nomatch hv.symm.trans (hI hvd).1)
  | doneEmpty hv => exact fun _ => ⟨hv, hp.head.2.2 rfl⟩
  | topEmpty hv => exact fun _ => ⟨hv, hd rfl⟩
  | scanSome => exact fun hvd => ⟨by simp only [setStk_vec, (hI hvd).1, List.filter_nil], (hI hvd).2⟩
  | doneVec _ ih => exact ih (hp.replace (pf_x _ (hp.head.2.2 rfl) rfl nofun)) nofun hI
  | _ => exact hI

theorem Step.g1 (h : Step s t fs e s') (hp : AllPF s.dead s.vdead fs) (hI : G1 s) :
    G1 s' := by
  cases h with
  | user _ h =>
    cases h with
    | callDtor =>
      exact g1_sil (X := { s with dead := some t }) (xTop_sil ..) (allPF_nil _ _) (fun _ => nofun)
        (fun hv => ⟨(hI hv).1, nofun⟩)
    | _ => exact hI
  | addLock => exact fun hvd => absurd (hp.head.1 rfl) (hI hvd).2
  | dLock => exact g1_sil (select_sil ..) hp.tail nofun hI
  | dTimeout | dUnlock0 | dRelockTimeout | dUnlock2 => exact g1_sil (dDone_sil ..) (by exact hp.tail) nofun (by exact hI)
  | dUnlock1 | cbEndLast | cbThrow =>
    exact g1_sil (drain_sil ..) (by exact hp.replace (pf_plain _ _ rfl rfl)) nofun (by exact hI)
  | dtorEnd => exact g1_sil (resume_sil ..) hp.tail nofun hI
  | xYield | xSleep => exact g1_sil (xTop_sil ..) hp.tail (fun _ => hp.head.2.2 rfl) hI
  | _ => exact hI

@[simp] theorem select_dead (s : St) (t skip rest) : (select s t skip rest).dead = s.dead := by
  unfold select; dsimp only; split <;> rfl

/-- the only event that changes `dead` is the start of the container's destructor -/
theorem Step.dead (h : Step s t fs e s') :
    s'.dead = s.dead ∨ (s.act = [] ∧ s.dead = none ∧ s'.dead = some t ∧ fs = [] ∧ e = .callDtor) := by
  cases h with
  | user _ h =>
    cases h with
    | callDtor hfs ha hd => exact .inr ⟨ha, hd, xTop_dead .., hfs, rfl⟩
    | _ => exact .inl rfl
  | dLock => exact .inl (select_dead ..)
  | dTimeout | dUnlock0 | dRelockTimeout | dUnlock2 => exact .inl (dDone_dead ..)
  | dUnlock1 | cbEndLast | cbThrow => exact .inl (drain_dead ..)
  | dtorEnd => exact .inl (resume_dead ..)
  | xYield | xSleep => exact .inl (xTop_dead ..)
  | _ => exact .inl rfl

theorem vdead_sil (h : Sil t X c s') (hv : X.vdead = true) : s'.vdead = true := by
  induction h with
  | caught _ ih | doneVec _ ih | ecNext _ _ ih | vecNext _ _ _ ih => exact ih hv
  | vecDone | doneEmpty | topEmpty => rfl
  | _ => exact hv

theorem Step.vdead (h : Step s t fs e s') (hv : s.vdead = true) : s'.vdead = true := by
  cases h with
  | user _ h =>
    cases h with
    | callDtor => exact vdead_sil (X := { s with dead := some t }) (xTop_sil ..) hv
    | _ => exact hv
  | dLock => exact vdead_sil (select_sil ..) hv
  | dTimeout | dUnlock0 | dRelockTimeout | dUnlock2 => exact vdead_sil (dDone_sil ..) hv
  | dUnlock1 | cbEndLast | cbThrow => exact vdead_sil (drain_sil ..) hv
  | dtorEnd => exact vdead_sil (resume_sil ..) hv
  | xYield | xSleep => exact vdead_sil (xTop_sil ..) hv
  | _ => exact hv

structure Dt (s : St) : Prop where
  act : ActOk s
  pf : ∀ t, AllPF s.dead s.vdead (s.stk t)
  g1 : G1 s

theorem dt_step (hI : Dt s) (h : step s t e = some s') : Dt s' := by
  have hS := Step.of_step h
  refine ⟨hS.actOk hI.act, fun u => ?_, hS.g1 (hI.pf t) hI.g1⟩
  by_cases hu : u = t
  · subst hu; exact hS.allPF rfl (hI.pf u)
  · rw [hS.stk_other hu]
    rcases hS.dead with hd | ⟨ha, _⟩
    · rw [hd]; exact (hI.pf u).mono hS.vdead
    · have : s.stk u = [] := by
        apply Classical.byContradiction; intro hne
        have := (hI.act u).mpr hne
        rw [ha] at this; cases this
      rw [this]; simp

theorem dt_init (cb ns nt) : Dt (init cb ns nt) :=
  ⟨actOk_init cb ns nt, fun t => by simp [init], fun h => by simp [init] at h⟩

end ConcVerif.DD
