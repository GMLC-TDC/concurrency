import ConcVerif.Base.HB
/-! Soundness of the vector-clock race checker of `Base/HB.lean` with respect to the declarative
happens-before relation: every clock entry is justified by a happens-before path (`Just`), hence a
passed check `epoch ≤ clock` yields `HB`. -/
namespace ConcVerif.HB

theorem lget_lset {α : Type} (d : α) (l : List α) (i j : Nat) (a : α) :
    lget d (lset d l i a) j = if j = i then a else lget d l j := by
  induction i generalizing l j with
  | zero => cases l <;> cases j <;> simp [lset, lget]
  | succ i ih => cases l <;> cases j <;> simp [lset, lget, ih]

@[simp] theorem vget_nil (u : Tid) : vget [] u = 0 := rfl

theorem vget_vset (v : VC) (u w : Tid) (n : Nat) : vget (vset v u n) w = if w = u then n else vget v w :=
  lget_lset _ _ _ _ _

theorem vget_vjoin (a b : VC) (u : Tid) : vget (vjoin a b) u = max (vget a u) (vget b u) := by
  induction a generalizing b u with
  | nil => simp [vjoin]
  | cons x a ih =>
    cases b with
    | nil => simp [vjoin]
    | cons y b => cases u <;> simp [vjoin, vget, lget] ; exact ih b _

def VLe (a b : VC) : Prop := ∀ u, vget a u ≤ vget b u

theorem VLe.refl (a : VC) : VLe a a := fun _ => Nat.le_refl _
theorem VLe.trans {a b c : VC} (h1 : VLe a b) (h2 : VLe b c) : VLe a c := fun u => Nat.le_trans (h1 u) (h2 u)
theorem VLe.join_l (a b : VC) : VLe a (vjoin a b) := fun u => by rw [vget_vjoin]; exact Nat.le_max_left _ _
theorem VLe.join_r (a b : VC) : VLe b (vjoin a b) := fun u => by rw [vget_vjoin]; exact Nat.le_max_right _ _
theorem VLe.nil (a : VC) : VLe [] a := fun u => by simp

/-- the executable comparison decides the pointwise order (a missing entry counts as `0`) -/
theorem vle_iff {a b : VC} : vle a b = true ↔ VLe a b := by
  induction a generalizing b with
  | nil => exact ⟨fun _ => VLe.nil b, fun _ => rfl⟩
  | cons x a ih =>
    cases b with
    | nil =>
      simp only [vle, Bool.and_eq_true, beq_iff_eq, ih]
      exact ⟨fun h u => match u with | 0 => Nat.le_of_eq h.1 | u + 1 => h.2 u,
        fun h => ⟨Nat.le_zero.mp (h 0), fun u => h (u + 1)⟩⟩
    | cons y b =>
      simp only [vle, Bool.and_eq_true, decide_eq_true_eq, ih]
      exact ⟨fun h u => match u with | 0 => h.1 | u + 1 => h.2 u, fun h => ⟨h 0, fun u => h (u + 1)⟩⟩

@[simp] theorem setC_c (k : Clk) (t u : Tid) (v : VC) : (k.setC t v).c u = if u = t then v else k.c u := by
  simp [Clk.setC, Clk.c, lget_lset]
theorem setC_self (k : Clk) (t : Tid) (v : VC) : (k.setC t v).c t = v := by rw [setC_c, if_pos rfl]
@[simp] theorem setC_lx (k : Clk) (t : Tid) (v : VC) (m : Loc) : (k.setC t v).lx m = k.lx m := rfl
@[simp] theorem setC_ls (k : Clk) (t : Tid) (v : VC) (m : Loc) : (k.setC t v).ls m = k.ls m := rfl
@[simp] theorem setC_r (k : Clk) (t : Tid) (v : VC) (a : Loc) : (k.setC t v).r a = k.r a := rfl
@[simp] theorem setLX_c (k : Clk) (m : Loc) (v : VC) (u : Tid) : (k.setLX m v).c u = k.c u := rfl
@[simp] theorem setLX_lx (k : Clk) (m m' : Loc) (v : VC) : (k.setLX m v).lx m' = if m' = m then v else k.lx m' := by
  simp [Clk.setLX, Clk.lx, lget_lset]
@[simp] theorem setLX_ls (k : Clk) (m m' : Loc) (v : VC) : (k.setLX m v).ls m' = k.ls m' := rfl
@[simp] theorem setLX_r (k : Clk) (m : Loc) (v : VC) (a : Loc) : (k.setLX m v).r a = k.r a := rfl
@[simp] theorem setLS_c (k : Clk) (m : Loc) (v : VC) (u : Tid) : (k.setLS m v).c u = k.c u := rfl
@[simp] theorem setLS_lx (k : Clk) (m m' : Loc) (v : VC) : (k.setLS m v).lx m' = k.lx m' := rfl
@[simp] theorem setLS_ls (k : Clk) (m m' : Loc) (v : VC) : (k.setLS m v).ls m' = if m' = m then v else k.ls m' := by
  simp [Clk.setLS, Clk.ls, lget_lset]
@[simp] theorem setLS_r (k : Clk) (m : Loc) (v : VC) (a : Loc) : (k.setLS m v).r a = k.r a := rfl
@[simp] theorem setR_c (k : Clk) (a : Loc) (v : VC) (u : Tid) : (k.setR a v).c u = k.c u := rfl
@[simp] theorem setR_lx (k : Clk) (a : Loc) (v : VC) (m : Loc) : (k.setR a v).lx m = k.lx m := rfl
@[simp] theorem setR_ls (k : Clk) (a : Loc) (v : VC) (m : Loc) : (k.setR a v).ls m = k.ls m := rfl
@[simp] theorem setR_r (k : Clk) (a a' : Loc) (v : VC) : (k.setR a v).r a' = if a' = a then v else k.r a' := by
  simp [Clk.setR, Clk.r, lget_lset]

@[simp] theorem init_c (t : Tid) : ({} : Clk).c t = [] := rfl
@[simp] theorem init_lx (m : Loc) : ({} : Clk).lx m = [] := rfl
@[simp] theorem init_ls (m : Loc) : ({} : Clk).ls m = [] := rfl
@[simp] theorem init_r (a : Loc) : ({} : Clk).r a = [] := rfl

theorem lq_lt {α : Type} {l : List α} {i : Nat} {p : α} (h : l[i]? = some p) : i < l.length :=
  (List.getElem?_eq_some_iff.mp h).1

theorem lq_mono {α : Type} {l : List α} {i : Nat} {p : α} (ext : List α) (h : l[i]? = some p) :
    (l ++ ext)[i]? = some p := by
  rw [List.getElem?_append_left (lq_lt h)]; exact h

theorem lq_last {α : Type} (l : List α) (x : α) : (l ++ [x])[l.length]? = some x := List.getElem?_concat_length

theorem lq_snoc {α : Type} {l : List α} {x p : α} {i : Nat} (h : (l ++ [x])[i]? = some p) :
    (i < l.length ∧ l[i]? = some p) ∨ (i = l.length ∧ p = x) := by
  rcases Nat.lt_or_ge i l.length with hi | hi
  · exact .inl ⟨hi, by rwa [List.getElem?_append_left hi] at h⟩
  · have hl := lq_lt h
    rw [List.length_append, List.length_singleton] at hl
    obtain rfl : i = l.length := by omega
    rw [lq_last] at h
    exact .inr ⟨rfl, (Option.some.inj h).symm⟩

theorem take_succ_get {α : Type} {l : List α} {n : Nat} {p : α} (h : l[n]? = some p) :
    l.take (n + 1) = l.take n ++ [p] := by
  rw [List.take_add_one, h]; rfl

theorem get_of_lt {tr : Trace} {n : Nat} (h : n < tr.length) : ∃ t e, tr[n]? = some (t, e) :=
  ⟨tr[n].1, tr[n].2, List.getElem?_eq_getElem h⟩

theorem map_get_inv {α : Type} {f : α → Ev} {es : List (Tid × α)} {i : Nat} {t : Tid} {he : Ev}
    (h : (es.map fun p => (p.1, f p.2))[i]? = some (t, he)) : ∃ e, es[i]? = some (t, e) ∧ f e = he := by
  rw [List.getElem?_map] at h
  obtain ⟨⟨u, e⟩, h1, h2⟩ := Option.map_eq_some_iff.mp h
  cases h2
  exact ⟨e, h1, rfl⟩

theorem snoc_induction {α : Type} {P : List α → Prop} (h0 : P []) (hs : ∀ tr x, P tr → P (tr ++ [x])) :
    ∀ tr, P tr := by
  have : ∀ tr : List α, P tr.reverse := by
    intro tr
    induction tr with
    | nil => simpa using h0
    | cons x tr ih => simpa using hs _ x ih
  intro tr
  simpa using this tr.reverse

theorem cnt_snoc (tr : Trace) (t u : Tid) (e : Ev) : cnt (tr ++ [(t, e)]) u = cnt tr u + if t = u then 1 else 0 := by
  simp [cnt, List.countP_append, List.countP_cons]

theorem lt_mono {tr : Trace} {i : Nat} (ext : Trace) (u : Tid) (h : i < tr.length) :
    lt (tr ++ ext) i u = lt tr i u := by
  simp only [lt]; rw [List.take_append_of_le_length (by omega)]

theorem lt_last (tr : Trace) (x : Tid × Ev) (u : Tid) : lt (tr ++ [x]) tr.length u = cnt (tr ++ [x]) u := by
  simp only [lt]
  rw [List.take_of_length_le (by simp)]

theorem lt_le_cnt (tr : Trace) (i : Nat) (u : Tid) : lt tr i u ≤ cnt tr u :=
  (List.take_sublist _ _).countP_le

theorem lt_pos {tr : Trace} {i : Nat} {u : Tid} {e : Ev} (h : tr[i]? = some (u, e)) : 1 ≤ lt tr i u := by
  rw [lt, take_succ_get h, cnt_snoc, if_pos rfl]; exact Nat.le_add_left 1 _

theorem Sw.lt' {tr : Trace} {i j : Nat} (h : Sw tr i j) : i < j := by
  cases h <;> assumption

theorem HB.lt' {tr : Trace} {i j : Nat} (h : HB tr i j) : i < j := by
  induction h with
  | po h _ _ => exact h
  | sw h => exact h.lt'
  | trans _ _ ih1 ih2 => exact Nat.lt_trans ih1 ih2

theorem Sw.mono {tr : Trace} {i j : Nat} (ext : Trace) (h : Sw tr i j) : Sw (tr ++ ext) i j := by
  cases h with
  | mutex hl h1 h2 hm => exact .mutex hl (lq_mono ext h1) (lq_mono ext h2) hm
  | atomic hl h1 h2 hr ha hb =>
    refine .atomic hl (lq_mono ext h1) (lq_mono ext h2) hr ha fun k v o hik hkj => ?_
    rw [List.getElem?_append_left (Nat.lt_trans hkj (lq_lt h2))]
    exact hb k v o hik hkj
  | fork hl h1 h2 => exact .fork hl (lq_mono ext h1) (lq_mono ext h2)
  | join hl h1 h2 => exact .join hl (lq_mono ext h1) (lq_mono ext h2)
  | forkJoin hl h1 h2 => exact .forkJoin hl (lq_mono ext h1) (lq_mono ext h2)

theorem HB.mono {tr : Trace} {i j : Nat} (ext : Trace) (h : HB tr i j) : HB (tr ++ ext) i j := by
  induction h with
  | po hl h1 h2 => exact .po hl (lq_mono ext h1) (lq_mono ext h2)
  | sw h => exact .sw (h.mono ext)
  | trans _ _ ih1 ih2 => exact .trans ih1 ih2

def HBeq (tr : Trace) (i j : Nat) : Prop := i = j ∨ HB tr i j

theorem HBeq.mono {tr : Trace} {i j : Nat} (ext : Trace) (h : HBeq tr i j) : HBeq (tr ++ ext) i j :=
  h.imp id (HB.mono ext)

theorem HBeq.trans_hb {tr : Trace} {i j k : Nat} (h : HBeq tr i j) (h2 : HB tr j k) : HB tr i k := by
  cases h with
  | inl h => exact h ▸ h2
  | inr h => exact .trans h h2

theorem HBeq.trans {tr : Trace} {i j k : Nat} (h : HBeq tr i j) (h2 : HBeq tr j k) : HBeq tr i k := by
  cases h2 with
  | inl h2 => exact h2 ▸ h
  | inr h2 => exact .inr (h.trans_hb h2)

/-- `j` is a position from which every later event of thread `t` is reached by happens-before: an
event of `t` itself, or the creation of `t` -/
def Anch (tr : Trace) (t : Tid) (j : Nat) : Prop := ∃ u e, tr[j]? = some (u, e) ∧ (u = t ∨ e = .fork t)

def IsRel (tr : Trace) (m : Loc) (md : Mode) (j : Nat) : Prop := ∃ v, tr[j]? = some (v, .rel m md)

/-- `j` is a releasing write of `a` whose release sequence is unbroken up to the end of the trace -/
def Head (tr : Trace) (a : Loc) (j : Nat) : Prop :=
  ∃ v e, tr[j]? = some (v, e) ∧ RelWrite e a ∧ ∀ k v' o, j < k → tr[k]? ≠ some (v', .st a o)

/-- every entry of clock `v` is bounded by the number of events of that thread and justified by a
happens-before-or-equal path to a position satisfying `P` -/
def JustBy (tr : Trace) (v : VC) (P : Nat → Prop) : Prop :=
  (∀ u, vget v u ≤ cnt tr u) ∧
  ∀ i u e, tr[i]? = some (u, e) → lt tr i u ≤ vget v u → ∃ j, P j ∧ HBeq tr i j

theorem JustBy.nil (tr : Trace) (P : Nat → Prop) : JustBy tr [] P :=
  ⟨fun _ => Nat.zero_le _, fun _ _ _ h hl => absurd (lt_pos h) (Nat.not_lt.mpr hl)⟩

theorem JustBy.join {tr : Trace} {a b : VC} {P : Nat → Prop} (ha : JustBy tr a P) (hb : JustBy tr b P) :
    JustBy tr (vjoin a b) P := by
  refine ⟨fun u => ?_, fun i u e h hl => ?_⟩
  · rw [vget_vjoin]; exact Nat.max_le.mpr ⟨ha.1 u, hb.1 u⟩
  · rw [vget_vjoin] at hl
    rcases Nat.le_total (vget a u) (vget b u) with h1 | h1
    · exact hb.2 i u e h (Nat.max_eq_right h1 ▸ hl)
    · exact ha.2 i u e h (Nat.max_eq_left h1 ▸ hl)

theorem JustBy.via {tr : Trace} {v : VC} {P Q : Nat → Prop} (h : JustBy tr v P)
    (hpq : ∀ j, P j → ∃ j', Q j' ∧ HBeq tr j j') : JustBy tr v Q := by
  refine ⟨h.1, fun i u e hi hl => ?_⟩
  obtain ⟨j, hj, hh⟩ := h.2 i u e hi hl
  obtain ⟨j', hq, hh'⟩ := hpq j hj
  exact ⟨j', hq, hh.trans hh'⟩

theorem JustBy.imp {tr : Trace} {v : VC} {P Q : Nat → Prop} (h : JustBy tr v P) (hpq : ∀ j, P j → Q j) :
    JustBy tr v Q :=
  h.via fun j hj => ⟨j, hpq j hj, .inl rfl⟩

theorem JustBy.snoc {tr : Trace} {v : VC} {P P' : Nat → Prop} (x : Tid × Ev) (h : JustBy tr v P)
    (hpp : ∀ j, j < tr.length → P j → P' j) (hb : ∀ j, P j → j < tr.length) : JustBy (tr ++ [x]) v P' := by
  obtain ⟨t, e0⟩ := x
  refine ⟨fun u => ?_, fun i u e hi hl => ?_⟩
  · have := h.1 u; rw [cnt_snoc]; omega
  · rcases lq_snoc hi with ⟨hlt, hi'⟩ | ⟨rfl, hp⟩
    · rw [lt_mono _ _ hlt] at hl
      obtain ⟨j, hj, hh⟩ := h.2 i u e hi' hl
      exact ⟨j, hpp j (hb j hj) hj, hh.mono _⟩
    · -- the new event is not yet known to an old clock
      obtain ⟨rfl, -⟩ := Prod.mk.inj hp
      rw [lt_last, cnt_snoc, if_pos rfl] at hl
      have := h.1 u
      omega

/-- an old clock all of whose targets happen before the new event is justified at the new event: this is how
every acquiring event takes over a clock -/
theorem JustBy.at_last {tr : Trace} {v : VC} {P : Nat → Prop} (x : Tid × Ev) (h : JustBy tr v P)
    (hb : ∀ j, P j → j < tr.length) (hsw : ∀ j, P j → HB (tr ++ [x]) j tr.length) :
    JustBy (tr ++ [x]) v (· = tr.length) :=
  (h.snoc x (fun _ _ hj => hj) hb).via fun j hj => ⟨_, rfl, .inr (hsw j hj)⟩

theorem Anch.bound {tr : Trace} {t : Tid} {j : Nat} (h : Anch tr t j) : j < tr.length := by
  obtain ⟨u, e, h, _⟩ := h; exact lq_lt h
theorem IsRel.bound {tr : Trace} {m : Loc} {md : Mode} {j : Nat} (h : IsRel tr m md j) : j < tr.length := by
  obtain ⟨u, h⟩ := h; exact lq_lt h
theorem Head.bound {tr : Trace} {a : Loc} {j : Nat} (h : Head tr a j) : j < tr.length := by
  obtain ⟨u, e, h, _⟩ := h; exact lq_lt h

theorem Anch.mono {tr : Trace} {t : Tid} {j : Nat} (ext : Trace) (h : Anch tr t j) : Anch (tr ++ ext) t j := by
  obtain ⟨u, e, h, h2⟩ := h; exact ⟨u, e, lq_mono ext h, h2⟩
theorem IsRel.mono {tr : Trace} {m : Loc} {md : Mode} {j : Nat} (ext : Trace) (h : IsRel tr m md j) :
    IsRel (tr ++ ext) m md j := by
  obtain ⟨u, h⟩ := h; exact ⟨u, lq_mono ext h⟩

theorem Head.snoc {tr : Trace} {a : Loc} {j : Nat} {t : Tid} {e : Ev} (h : Head tr a j) (hne : ∀ o, e ≠ .st a o) :
    Head (tr ++ [(t, e)]) a j := by
  obtain ⟨u, e', h1, h2, h3⟩ := h
  refine ⟨u, e', lq_mono _ h1, h2, fun k v' o hjk hk => ?_⟩
  rcases lq_snoc hk with ⟨_, hk'⟩ | ⟨_, hp⟩
  · exact h3 k v' o hjk hk'
  · cases hp; exact hne o rfl

theorem Anch.hb_last {tr : Trace} {t : Tid} {e : Ev} {j : Nat} (h : Anch tr t j) :
    HB (tr ++ [(t, e)]) j tr.length := by
  obtain ⟨u, e', h1, h2⟩ := h
  cases h2 with
  | inl h2 => subst h2; exact .po (lq_lt h1) (lq_mono _ h1) (lq_last _ _)
  | inr h2 => subst h2; exact .sw (.fork (lq_lt h1) (lq_mono _ h1) (lq_last _ _))

/-- the invariant: every clock of the state is justified -/
structure Just (tr : Trace) (k : Clk) : Prop where
  jC : ∀ t, JustBy tr (k.c t) (Anch tr t)
  jLX : ∀ m, JustBy tr (k.lx m) (IsRel tr m .X)
  jLS : ∀ m, JustBy tr (k.ls m) (IsRel tr m .S)
  jR : ∀ a, JustBy tr (k.r a) (Head tr a)

theorem Just.setC {tr : Trace} {k : Clk} {t : Tid} {c : VC} (h : Just tr k) (hc : JustBy tr c (Anch tr t)) :
    Just tr (k.setC t c) := by
  refine ⟨fun u => ?_, h.jLX, h.jLS, h.jR⟩
  rw [setC_c]; split
  next hu => exact hu ▸ hc
  next => exact h.jC u

theorem Just.setLX {tr : Trace} {k : Clk} {m : Loc} {c : VC} (h : Just tr k) (hc : JustBy tr c (IsRel tr m .X)) :
    Just tr (k.setLX m c) := by
  refine ⟨h.jC, fun m' => ?_, h.jLS, h.jR⟩
  rw [setLX_lx]; split
  next hm => exact hm ▸ hc
  next => exact h.jLX m'

theorem Just.setLS {tr : Trace} {k : Clk} {m : Loc} {c : VC} (h : Just tr k) (hc : JustBy tr c (IsRel tr m .S)) :
    Just tr (k.setLS m c) := by
  refine ⟨h.jC, h.jLX, fun m' => ?_, h.jR⟩
  rw [setLS_ls]; split
  next hm => exact hm ▸ hc
  next => exact h.jLS m'

/-- the old clock of `a` itself is not needed: a plain store to `a` ends its release sequences -/
theorem Just.setR {tr : Trace} {k : Clk} {a : Loc} {c : VC} (hC : ∀ t, JustBy tr (k.c t) (Anch tr t))
    (hLX : ∀ m, JustBy tr (k.lx m) (IsRel tr m .X)) (hLS : ∀ m, JustBy tr (k.ls m) (IsRel tr m .S))
    (hR : ∀ a', a' ≠ a → JustBy tr (k.r a') (Head tr a')) (hc : JustBy tr c (Head tr a)) : Just tr (k.setR a c) := by
  refine ⟨hC, hLX, hLS, fun a' => ?_⟩
  rw [setR_r]; split
  next ha => exact ha ▸ hc
  next ha => exact hR a' ha

theorem frame_C {tr : Trace} {k : Clk} (h : Just tr k) (t : Tid) (e : Ev) (u : Tid) :
    JustBy (tr ++ [(t, e)]) (k.c u) (Anch (tr ++ [(t, e)]) u) :=
  (h.jC u).snoc _ (fun _ _ hj => hj.mono _) (fun _ hj => hj.bound)

theorem frame_LX {tr : Trace} {k : Clk} (h : Just tr k) (t : Tid) (e : Ev) (m : Loc) :
    JustBy (tr ++ [(t, e)]) (k.lx m) (IsRel (tr ++ [(t, e)]) m .X) :=
  (h.jLX m).snoc _ (fun _ _ hj => hj.mono _) (fun _ hj => hj.bound)

theorem frame_LS {tr : Trace} {k : Clk} (h : Just tr k) (t : Tid) (e : Ev) (m : Loc) :
    JustBy (tr ++ [(t, e)]) (k.ls m) (IsRel (tr ++ [(t, e)]) m .S) :=
  (h.jLS m).snoc _ (fun _ _ hj => hj.mono _) (fun _ hj => hj.bound)

theorem frame_R {tr : Trace} {k : Clk} (h : Just tr k) (t : Tid) (e : Ev) (a : Loc) (hne : ∀ o, e ≠ .st a o) :
    JustBy (tr ++ [(t, e)]) (k.r a) (Head (tr ++ [(t, e)]) a) :=
  (h.jR a).snoc _ (fun _ _ hj => hj.snoc hne) (fun _ hj => hj.bound)

/-- the ticked clock of the acting thread is justified at the new position: its own entry by program order, the
others because every anchor of `t` happens before the new event of `t` -/
theorem tick_at {tr : Trace} {k : Clk} (h : Just tr k) (t : Tid) (e : Ev) :
    JustBy (tr ++ [(t, e)]) (tick k t) (· = tr.length) := by
  have hc := (h.jC t).at_last (t, e) (fun _ hj => hj.bound) (fun _ hj => hj.hb_last)
  refine ⟨fun u => ?_, fun i u e' hi hl => ?_⟩
  · have := (h.jC t).1 u
    rw [tick, vget_vset, cnt_snoc]
    split
    next hu => rw [if_pos hu.symm]; exact Nat.succ_le_succ (hu ▸ this)
    next => exact Nat.le_add_right_of_le this
  · by_cases hu : u = t
    · refine ⟨_, rfl, ?_⟩
      rcases lq_snoc hi with ⟨hlt, _⟩ | ⟨heq, _⟩
      · exact .inr (.po hlt (hu ▸ hi) (lq_last _ _))
      · exact .inl heq
    · rw [tick, vget_vset, if_neg hu] at hl
      exact hc.2 i u e' hi hl

/-- what an acquisition obtains from the release clock of the mutex -/
theorem lx_at {tr : Trace} {k : Clk} (h : Just tr k) (t : Tid) (m : Loc) (md : Mode) :
    JustBy (tr ++ [(t, .acq m md)]) (k.lx m) (· = tr.length) :=
  (h.jLX m).at_last _ (fun _ hj => hj.bound) fun _ ⟨_, hv⟩ =>
    .sw (.mutex (lq_lt hv) (lq_mono _ hv) (lq_last _ _) (.inl rfl))

theorem ls_at {tr : Trace} {k : Clk} (h : Just tr k) (t : Tid) (m : Loc) :
    JustBy (tr ++ [(t, .acq m .X)]) (k.ls m) (· = tr.length) :=
  (h.jLS m).at_last _ (fun _ hj => hj.bound) fun _ ⟨_, hv⟩ =>
    .sw (.mutex (lq_lt hv) (lq_mono _ hv) (lq_last _ _) (.inr rfl))

/-- what an acquiring read obtains from the release-sequence clock of the location -/
theorem r_at {tr : Trace} {k : Clk} (h : Just tr k) (t : Tid) (e : Ev) (a : Loc) (hacq : AcqRead e a) :
    JustBy (tr ++ [(t, e)]) (k.r a) (· = tr.length) :=
  (h.jR a).at_last _ (fun _ hj => hj.bound) fun _ ⟨_, _, hv, hr, hb⟩ =>
    .sw (.atomic (lq_lt hv) (lq_mono _ hv) (lq_last _ _) hr hacq fun k' v' o hjk hkn => by
      rw [List.getElem?_append_left hkn]; exact hb k' v' o hjk)

/-- what a join obtains from the clock of the joined thread -/
theorem cu_at {tr : Trace} {k : Clk} (h : Just tr k) (t : Tid) (u : Tid) :
    JustBy (tr ++ [(t, .join u)]) (k.c u) (· = tr.length) :=
  (h.jC u).at_last _ (fun _ hj => hj.bound) fun _ ⟨_, _, hv, hor⟩ => .sw (by
    cases hor with
    | inl hw => subst hw; exact .join (lq_lt hv) (lq_mono _ hv) (lq_last _ _)
    | inr hf => subst hf; exact .forkJoin (lq_lt hv) (lq_mono _ hv) (lq_last _ _))

theorem at_anchor {tr : Trace} (t : Tid) (e : Ev) {c : VC} (hc : JustBy (tr ++ [(t, e)]) c (· = tr.length)) :
    JustBy (tr ++ [(t, e)]) c (Anch (tr ++ [(t, e)]) t) :=
  hc.imp fun _ hj => hj ▸ ⟨t, e, lq_last _ _, .inl rfl⟩

theorem at_rel {tr : Trace} (t : Tid) {c : VC} (m : Loc) (md : Mode) (hc : JustBy (tr ++ [(t, .rel m md)]) c (· = tr.length)) :
    JustBy (tr ++ [(t, .rel m md)]) c (IsRel (tr ++ [(t, .rel m md)]) m md) :=
  hc.imp fun _ hj => hj ▸ ⟨t, lq_last _ _⟩

theorem at_head {tr : Trace} (t : Tid) (e : Ev) {c : VC} (a : Loc) (hr : RelWrite e a)
    (hc : JustBy (tr ++ [(t, e)]) c (· = tr.length)) : JustBy (tr ++ [(t, e)]) c (Head (tr ++ [(t, e)]) a) :=
  hc.imp fun _ hj => hj ▸ ⟨t, e, lq_last _ _, hr, fun k' v' o hk hk' => by
    have := lq_lt hk'
    rw [List.length_append, List.length_singleton] at this
    omega⟩

/-- an event that overwrites only the clock of its own thread -/
theorem just_own {tr : Trace} {k : Clk} (h : Just tr k) (t : Tid) (e : Ev) {c : VC} (hc : JustBy (tr ++ [(t, e)]) c (· = tr.length)) (hne : ∀ a o, e ≠ .st a o) :
    Just (tr ++ [(t, e)]) (k.setC t c) :=
  Just.setC ⟨frame_C h t e, frame_LX h t e, frame_LS h t e, fun a => frame_R h t e a (hne a)⟩ (at_anchor t e hc)

/-- the clock a load / RMW of `a` leaves to its thread -/
theorem acq_at {tr : Trace} {k : Clk} (h : Just tr k) (t : Tid) (e : Ev) (a : Loc) (o : Ord) (hacq : o.isAcq = true → AcqRead e a) :
    JustBy (tr ++ [(t, e)]) (acqClock k (tick k t) a o) (· = tr.length) := by
  unfold acqClock; split
  next ho => exact (tick_at h t e).join (r_at h t e a (hacq ho))
  next => exact tick_at h t e


theorem just_step {tr : Trace} {k : Clk} (h : Just tr k) (t : Tid) (e : Ev) :
    Just (tr ++ [(t, e)]) (vstep k t e) := by
  have hc := tick_at h t e
  cases e with
  | acq m md =>
    cases md with
    | X => exact just_own h t _ (hc.join ((lx_at h t m .X).join (ls_at h t m))) nofun
    | S => exact just_own h t _ (hc.join (lx_at h t m .S)) nofun
  | rel m md =>
    have hb := just_own h t _ hc nofun
    cases md with
    | X => exact hb.setLX ((hb.jLX m).join (at_rel t m .X hc))
    | S => exact hb.setLS ((hb.jLS m).join (at_rel t m .S hc))
  | ld a o => exact just_own h t _ (acq_at h t _ a o fun ho => ⟨o, ho, .inl rfl⟩) nofun
  | st a o =>
    -- the store replaces the release clock of `a`, whatever it was
    refine Just.setC (k := k.setR a _) (Just.setR (frame_C h t _) (frame_LX h t _) (frame_LS h t _)
      (fun a' ha => frame_R h t _ a' fun o' he => ha (by cases he; rfl)) ?_) (at_anchor t _ hc)
    split
    next ho => exact at_head t _ a ⟨o, ho, .inl rfl⟩ hc
    next => exact .nil _ _
  | rmw a o =>
    have hc' := acq_at h t _ a o fun ho => ⟨o, ho, .inr rfl⟩
    have hb := just_own h t _ hc' nofun
    refine Just.setR hb.jC hb.jLX hb.jLS (fun a' _ => hb.jR a') ?_
    split
    next ho => exact (hb.jR a).join (at_head t _ a ⟨o, ho, .inr rfl⟩ hc')
    next => exact hb.jR a
  | join u => exact just_own h t _ (hc.join (cu_at h t u)) nofun
  | fork u =>
    have hb := just_own h t _ hc nofun
    exact hb.setC ((hb.jC u).join (hc.imp fun _ hj => hj ▸ ⟨t, _, lq_last _ _, .inr rfl⟩))
  | _ => exact just_own h t _ hc nofun

theorem vrun_snoc (k : Clk) (tr : Trace) (t : Tid) (e : Ev) : vrun k (tr ++ [(t, e)]) = vstep (vrun k tr) t e := by
  simp [vrun, List.foldl_append]

/-- every clock computed by the checker is justified by happens-before paths -/
theorem just_vrun (tr : Trace) : Just tr (vrun {} tr) := by
  induction tr using snoc_induction with
  | h0 => exact ⟨fun _ => .nil _ _, fun _ => .nil _ _, fun _ => .nil _ _, fun _ => .nil _ _⟩
  | hs tr x ih => rw [vrun_snoc]; exact just_step ih x.1 x.2

theorem tick_self (k : Clk) (t : Tid) : vget (tick k t) t = vget (k.c t) t + 1 := by
  rw [tick, vget_vset, if_pos rfl]

theorem tick_ge (k : Clk) (t : Tid) : VLe (k.c t) (tick k t) := by
  intro u; rw [tick, vget_vset]; split
  next h => exact h ▸ Nat.le_succ _
  next => exact Nat.le_refl _

theorem acqClock_ge (k : Clk) (c : VC) (a : Loc) (o : Ord) : VLe c (acqClock k c a o) := by
  unfold acqClock; split
  · exact .join_l _ _
  · exact .refl _

theorem vstep_own (k : Clk) (t : Tid) (e : Ev) : VLe (tick k t) ((vstep k t e).c t) := by
  cases e with
  | acq m md => cases md <;> simp only [vstep, setC_self] <;> exact .join_l _ _
  | rel m md => cases md <;> simp only [vstep, setLX_c, setLS_c, setC_self] <;> exact .refl _
  | ld a o => simp only [vstep, setC_self]; exact acqClock_ge _ _ _ _
  | rmw a o => simp only [vstep, setR_c, setC_self]; exact acqClock_ge _ _ _ _
  | join u => simp only [vstep, setC_self]; exact .join_l _ _
  | fork u =>
    simp only [vstep, setC_c, ↓reduceIte]; split
    · exact .join_r _ _
    · exact .refl _
  | _ => simp only [vstep, setR_c, setC_self]; exact .refl _

theorem vstep_c_mono (k : Clk) (t : Tid) (e : Ev) (u : Tid) : VLe (k.c u) ((vstep k t e).c u) := by
  by_cases hu : u = t
  · subst hu; exact (tick_ge k u).trans (vstep_own k u e)
  · cases e with
    | acq m md => cases md <;> simp only [vstep, setC_c, if_neg hu] <;> exact .refl _
    | rel m md => cases md <;> simp only [vstep, setLX_c, setLS_c, setC_c, if_neg hu] <;> exact .refl _
    | fork u' =>
      simp only [vstep, setC_c]; split
      next h2 => subst h2; rw [if_neg hu]; exact .join_l _ _
      next => exact .refl _
    | _ => simp only [vstep, setR_c, setC_c, if_neg hu]; exact .refl _

theorem lb_vrun (tr : Trace) (t : Tid) : cnt tr t ≤ vget ((vrun {} tr).c t) t := by
  induction tr using snoc_induction with
  | h0 => exact Nat.zero_le _
  | hs tr x ih =>
    obtain ⟨u, e⟩ := x
    rw [vrun_snoc, cnt_snoc]
    split
    next hu => subst hu; exact Nat.le_trans (tick_self _ u ▸ Nat.succ_le_succ ih) (vstep_own _ u e u)
    next hu => exact Nat.le_trans ih (vstep_c_mono _ u e t t)

/-- an earlier event whose local time is known to the clock of the thread performing the last
event happens before that event -/
theorem clock_hb {tr : Trace} {i : Nat} {k : Clk} {t u : Tid} {e ei : Ev} (hk : k = vrun {} tr)
    (hi : tr[i]? = some (u, ei)) (hl : lt tr i u ≤ vget ((vstep k t e).c t) u) : HB (tr ++ [(t, e)]) i tr.length := by
  have hlt := lq_lt hi
  rw [hk, ← vrun_snoc, ← lt_mono [(t, e)] u hlt] at hl
  obtain ⟨j, ⟨w, e', h1, h2⟩, hh⟩ := ((just_vrun (tr ++ [(t, e)])).jC t).2 i u ei (lq_mono _ hi) hl
  -- the anchor `j` of `t` is the new event itself or an older one, which happens before it
  rcases lq_snoc h1 with ⟨_, h1'⟩ | ⟨rfl, _⟩
  · exact hh.trans_hb (Anch.hb_last ⟨w, e', h1', h2⟩)
  · exact hh.resolve_left (Nat.ne_of_lt hlt)

theorem a_lset (acc : List Acc) (x y : Loc) (a : Acc) :
    lget {} (lset {} acc x a) y = if y = x then a else lget {} acc y :=
  lget_lset _ _ _ _ _

theorem St.a_mk (k : Clk) (acc : List Acc) (x : Loc) : ({ clk := k, acc := acc } : St).a x = lget {} acc x := rfl

theorem a_lset_same {β : Type} (f : Acc → β) {acc : List Acc} {x : Loc} {a : Acc} (h : f a = f (lget {} acc x))
    (y : Loc) : f (lget {} (lset {} acc x a) y) = f (lget {} acc y) := by
  rw [a_lset]; split
  next hy => rw [h, hy]
  next => rfl

/-- invariant of the race checker after an accepted trace -/
structure AccOK (tr : Trace) (s : St) : Prop where
  clk : s.clk = vrun {} tr
  wNone : ∀ (x : Loc), (s.a x).w = none → ∀ (i : Nat) (u : Tid), tr[i]? ≠ some (u, Ev.wr x)
  wSome : ∀ (x : Loc) (w : Tid) (n : Nat), (s.a x).w = some (w, n) →
    ∃ iw : Nat, tr[iw]? = some (w, Ev.wr x) ∧ lt tr iw w ≤ n ∧ ∀ (i : Nat) (u : Tid), tr[i]? = some (u, Ev.wr x) → i ≤ iw
  rd : ∀ (x : Loc) (i : Nat) (u : Tid), tr[i]? = some (u, Ev.rd x) → lt tr i u ≤ vget (s.a x).r u
  ordered : ∀ i j, i < j → Conflict tr i j → HB tr i j

/-- what `wNone`, `wSome` say of one location: `o` is the epoch of the last write of `x` -/
def LastW (tr : Trace) (x : Loc) (o : Option (Tid × Nat)) : Prop :=
  (o = none → ∀ (i : Nat) (u : Tid), tr[i]? ≠ some (u, Ev.wr x)) ∧
  ∀ (w : Tid) (n : Nat), o = some (w, n) →
    ∃ iw : Nat, tr[iw]? = some (w, Ev.wr x) ∧ lt tr iw w ≤ n ∧ ∀ (i : Nat) (u : Tid), tr[i]? = some (u, Ev.wr x) → i ≤ iw

/-- what `rd` says of one location: `r` knows every read of `x` -/
def LastR (tr : Trace) (x : Loc) (r : VC) : Prop :=
  ∀ (i : Nat) (u : Tid), tr[i]? = some (u, Ev.rd x) → lt tr i u ≤ vget r u

theorem AccOK.of {tr : Trace} {s : St} (hk : s.clk = vrun {} tr) (hW : ∀ x, LastW tr x (s.a x).w)
    (hR : ∀ x, LastR tr x (s.a x).r) (ho : ∀ i j, i < j → Conflict tr i j → HB tr i j) : AccOK tr s :=
  ⟨hk, fun x => (hW x).1, fun x => (hW x).2, hR, ho⟩

theorem AccOK.lastW {tr : Trace} {s : St} (h : AccOK tr s) (x : Loc) : LastW tr x (s.a x).w := ⟨h.wNone x, h.wSome x⟩

theorem accOK_init : AccOK [] {} :=
  .of rfl (fun _ => ⟨fun _ _ _ h => by simp at h, fun _ _ h => by simp [St.a, lget] at h⟩) (fun _ _ _ h => by simp at h)
    fun _ _ _ ⟨_, _, _, _, _, h, _⟩ => by simp at h

theorem LastW.snoc {tr : Trace} {x : Loc} {o : Option (Tid × Nat)} {t : Tid} {e : Ev} (h : LastW tr x o)
    (hne : e ≠ .wr x) : LastW (tr ++ [(t, e)]) x o := by
  refine ⟨fun ho i u hi => ?_, fun w n ho => ?_⟩
  · rcases lq_snoc hi with ⟨_, hi'⟩ | ⟨_, hp⟩
    · exact h.1 ho i u hi'
    · exact hne (Prod.mk.inj hp).2.symm
  · obtain ⟨iw, h1, h2, h3⟩ := h.2 w n ho
    refine ⟨iw, lq_mono _ h1, by rwa [lt_mono _ _ (lq_lt h1)], fun i u hi => ?_⟩
    rcases lq_snoc hi with ⟨_, hi'⟩ | ⟨_, hp⟩
    · exact h3 i u hi'
    · exact absurd (Prod.mk.inj hp).2.symm hne

theorem LastW.snoc_wr (tr : Trace) (x : Loc) (t : Tid) {n : Nat} (hn : cnt (tr ++ [(t, .wr x)]) t ≤ n) :
    LastW (tr ++ [(t, .wr x)]) x (some (t, n)) := by
  refine ⟨nofun, fun w n' ho => ?_⟩
  cases ho
  refine ⟨tr.length, lq_last _ _, by rwa [lt_last], fun i u hi => Nat.le_of_lt_succ ?_⟩
  simpa using lq_lt hi

theorem LastR.snoc {tr : Trace} {x : Loc} {r : VC} {t : Tid} {e : Ev} (h : LastR tr x r) (hne : e ≠ .rd x) :
    LastR (tr ++ [(t, e)]) x r := by
  intro i u hi
  rcases lq_snoc hi with ⟨hl, hi'⟩ | ⟨_, hp⟩
  · rw [lt_mono _ _ hl]; exact h i u hi'
  · exact absurd (Prod.mk.inj hp).2.symm hne

theorem LastR.snoc_rd {tr : Trace} {x : Loc} {r : VC} {t : Tid} {n : Nat} (h : LastR tr x r)
    (hn : cnt (tr ++ [(t, .rd x)]) t ≤ n) : LastR (tr ++ [(t, .rd x)]) x (vset r t n) := by
  intro i u hi
  rw [vget_vset]
  rcases lq_snoc hi with ⟨hl, hi'⟩ | ⟨rfl, hp⟩
  · rw [lt_mono _ _ hl]
    split
    next hu =>
      have := lt_le_cnt tr i u
      rw [cnt_snoc, if_pos rfl] at hn
      subst hu; omega
    next => exact h i u hi'
  · obtain ⟨rfl, -⟩ := Prod.mk.inj hp
    rw [if_pos rfl, lt_last]; exact hn

theorem conflict_old {tr : Trace} {i j : Nat} {x : Tid × Ev} (hij : i < j) (hj : j < tr.length)
    (h : Conflict (tr ++ [x]) i j) : Conflict tr i j := by
  obtain ⟨y, t, u, ei, ej, h1, h2, h3⟩ := h
  rw [List.getElem?_append_left (Nat.lt_trans hij hj)] at h1
  rw [List.getElem?_append_left hj] at h2
  exact ⟨y, t, u, ei, ej, h1, h2, h3⟩

/-- the conflicts of a trace grown by one event are the old ones and those of the new event -/
theorem ordered_snoc {tr : Trace} {x : Tid × Ev} (h : ∀ i j, i < j → Conflict tr i j → HB tr i j)
    (hnew : ∀ i, i < tr.length → Conflict (tr ++ [x]) i tr.length → HB (tr ++ [x]) i tr.length) :
    ∀ i j, i < j → Conflict (tr ++ [x]) i j → HB (tr ++ [x]) i j := by
  intro i j hij hc
  have ⟨_, _, _, _, _, _, h2, _⟩ := hc
  rcases lq_snoc h2 with ⟨hj, _⟩ | ⟨rfl, _⟩
  · exact (h i j hij (conflict_old hij hj hc)).mono _
  · exact hnew i hij hc

theorem conflict_last {tr : Trace} {i : Nat} {t : Tid} {e : Ev} (hi : i < tr.length)
    (hc : Conflict (tr ++ [(t, e)]) i tr.length) :
    ∃ x u ei, tr[i]? = some (u, ei) ∧ ei.accesses x ∧ e.accesses x ∧ (ei = .wr x ∨ e = .wr x) := by
  obtain ⟨x, u, t', ei, ej, h1, h2, ha1, ha2, hor⟩ := hc
  rw [List.getElem?_append_left hi] at h1
  rw [lq_last] at h2
  obtain ⟨-, rfl⟩ := Prod.mk.inj (Option.some.inj h2)
  exact ⟨x, u, ei, h1, ha1, ha2, hor⟩

theorem accOK_frame {tr : Trace} {s : St} {t : Tid} {e : Ev} (h : AccOK tr s)
    (hne : ∀ x, e ≠ .rd x ∧ e ≠ .wr x) : AccOK (tr ++ [(t, e)]) { clk := vstep s.clk t e, acc := s.acc } :=
  .of (by rw [vrun_snoc, ← h.clk]) (fun x => (h.lastW x).snoc (hne x).2) (fun x => LastR.snoc (h.rd x) (hne x).1)
    (ordered_snoc h.ordered fun i hi hc => by
      obtain ⟨x, _, _, _, _, ha, _⟩ := conflict_last hi hc
      exact (ha.elim (hne x).1 (hne x).2).elim)

/-- an earlier write of `x` happens before the new last event, when the last-write epoch is known
to the clock of the acting thread -/
theorem write_hb {tr : Trace} {i : Nat} {s : St} {t u : Tid} {e : Ev} {x : Loc} (h : AccOK tr s)
    (hw : wOK (s.a x).w ((vstep s.clk t e).c t) = true) (hi : tr[i]? = some (u, .wr x)) :
    HB (tr ++ [(t, e)]) i tr.length := by
  cases hwx : (s.a x).w with
  | none => exact absurd hi (h.wNone x hwx i u)
  | some p =>
    obtain ⟨w, nn⟩ := p
    obtain ⟨iw, h1, h2, h3⟩ := h.wSome x w nn hwx
    rw [hwx] at hw
    simp only [wOK, decide_eq_true_eq] at hw
    have hb : HB (tr ++ [(t, e)]) iw tr.length := clock_hb h.clk h1 (Nat.le_trans h2 hw)
    rcases Nat.lt_or_eq_of_le (h3 i u hi) with hlt | rfl
    · -- two writes are ordered among themselves
      exact .trans ((h.ordered i iw hlt ⟨x, u, w, _, _, hi, h1, .inr rfl, .inr rfl, .inl rfl⟩).mono _) hb
    · exact hb

theorem accOK_step {tr : Trace} {s s' : St} {t : Tid} {e : Ev} (h : AccOK tr s) (hs : step s t e = some s') :
    AccOK (tr ++ [(t, e)]) s' := by
  have hk : vstep s.clk t e = vrun {} (tr ++ [(t, e)]) := by rw [vrun_snoc, h.clk]
  have hself : cnt (tr ++ [(t, e)]) t ≤ vget ((vstep s.clk t e).c t) t := hk ▸ lb_vrun _ _
  cases e with
  | rd x =>
    simp only [step] at hs
    split at hs
    · rename_i hw
      obtain rfl := Option.some.inj hs
      refine .of hk (fun y => ?_) (fun y => ?_) (ordered_snoc h.ordered fun i hi hc => ?_)
      · rw [St.a_mk, a_lset_same Acc.w (by rfl)]; exact (h.lastW y).snoc nofun
      · rw [St.a_mk, a_lset]; split
        next hy => subst hy; exact LastR.snoc_rd (h.rd y) hself
        next hy => exact LastR.snoc (h.rd y) fun he => hy (by cases he; rfl)
      · -- only an earlier write conflicts with the read
        obtain ⟨y, u, ei, h1, -, ha2, hor⟩ := conflict_last hi hc
        rcases ha2 with h' | h' <;> cases h'
        rcases hor with rfl | h'
        · exact write_hb h hw h1
        · cases h'
    · cases hs
  | wr x =>
    simp only [step, Bool.and_eq_true] at hs
    split at hs
    · rename_i hw
      obtain rfl := Option.some.inj hs
      refine .of hk (fun y => ?_) (fun y => ?_) (ordered_snoc h.ordered fun i hi hc => ?_)
      · rw [St.a_mk, a_lset]; split
        next hy => subst hy; exact LastW.snoc_wr tr y t hself
        next hy => exact (h.lastW y).snoc fun he => hy (by cases he; rfl)
      · rw [St.a_mk, a_lset_same Acc.r (by rfl)]; exact LastR.snoc (h.rd y) nofun
      · obtain ⟨y, u, ei, h1, ha1, ha2, -⟩ := conflict_last hi hc
        rcases ha2 with h' | h' <;> cases h'
        rcases ha1 with rfl | rfl
        · -- an earlier read is known to the read clock, which the write has checked against its own
          exact clock_hb h.clk h1 (Nat.le_trans (h.rd _ i u h1) (vle_iff.mp hw.2 u))
        · exact write_hb h hw.1 h1
    · cases hs
  | _ => obtain rfl := Option.some.inj hs; exact accOK_frame h fun x => ⟨nofun, nofun⟩

theorem accOK_run {tr : Trace} {s : St} (h : run tr = some s) : AccOK tr s :=
  runFrom_trace_inv (P := AccOK) accOK_init (fun _ _ _ _ _ _ hi hs => accOK_step hi hs) h

/-- **Soundness of the checker**: if `raceFree` accepts a trace, every pair of conflicting plain
accesses is ordered by happens-before (the later one happens after the earlier one). -/
theorem raceFree_ordered {tr : Trace} (h : raceFree tr = true) :
    ∀ i j, i < j → Conflict tr i j → HB tr i j := by
  obtain ⟨s, hs⟩ := Option.isSome_iff_exists.mp h
  exact (accOK_run hs).ordered

theorem raceFree_sound {tr : Trace} (h : raceFree tr = true) : ¬ Race tr :=
  fun ⟨i, j, hij, hc, hn⟩ => hn (raceFree_ordered h i j hij hc)

end ConcVerif.HB
