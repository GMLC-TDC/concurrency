import ConcVerif.Proof.LockFam
import ConcVerif.Base.Live
/-! Ranking function and per-thread progress analysis for the lock-based wrappers
(instance of `Base/Live.lean`).

Environment events (`isEnv`) are the decisions of the CLIENT: the call of an operation, the handle
operation it chooses to perform while it keeps a handle (`hbegin`: destroy / unlock / move), the
payload accesses and throws of client code (`rd`, `wr`, `uth`: through a held handle, or the body of a
whole-object bracket — the model, being the weakest discipline, does not bound how many reads a bracket
makes) and the end-of-run observation `final`.  Everything the LIBRARY does — the `acq` marker, the lock
event (successful, failed try or timed-out), `got`, the release inside a handle operation, `hend`, the
lock and the release of a whole-object bracket, every return — strictly lowers `Pc.rank`. -/
namespace ConcVerif.LockFam

def isEnv : Ev → Bool
  | .callSess | .callW _ | .hbegin _ | .rd _ | .wr _ | .uth | .final _ => true
  | _ => false

/-- number of library steps the thread still has to make before it is the client's turn again -/
def Pc.rank : Pc → Nat
  | .idle => 0
  | .sessCalled => 4
  | .acq _ _ => 3
  | .acqd _ _ => 2
  | .sess => 1
  | .hop _ true => 3
  | .hop _ false => 2
  | .wCalled _ => 3
  | .whole _ _ _ _ _ => 2
  | .wDone _ => 1
  | .wExc => 1

def μ (s : St) (t : Tid) : Nat := (s.pc t).rank

theorem rank_dec {s s' : St} {t : Tid} {e : Ev} (hs : step s t e = some s') (hc : isEnv e = false) :
    ((s'.loc t).pc).rank < ((s.loc t).pc).rank := by
  have hst := Step.of_step hs
  generalize (s.loc t).pc = p at hst ⊢
  cases hst
  case callSess | sessRd | sessWr | sessWrOff | hbDestroy | hbUnlock | hbMovec | hbMovea | callW | wRd | wWr | wUth |
    final | wCalledUth => cases hc
  all_goals (simp only [setPc_pc, setLoc_loc_self, set_pc, Pc.rank]; decide)

theorem hop_rank_le (k : HopK) : ∀ p, (Pc.hop k p).rank ≤ 3
  | true => Nat.le_refl 3
  | false => Nat.le_succ 2

/-- an environment event raises the rank by at most 4 (a call of an acquisition) -/
theorem rank_env {s s' : St} {t : Tid} {e : Ev} (hs : step s t e = some s') (hc : isEnv e = true) :
    ((s'.loc t).pc).rank ≤ ((s.loc t).pc).rank + 4 := by
  have hst := Step.of_step hs
  generalize hp : (s.loc t).pc = p at hst ⊢
  cases hst
  case sessRd | final | sessWr | sessWrOff => rw [← hp]; exact Nat.le_add_right _ _
  case hbDestroy | hbUnlock | hbMovec | hbMovea => rw [setPc_pc]; exact Nat.le_trans (hop_rank_le _ _) (Nat.le_add_left _ _)
  case callSess | callW | wRd | wWr | wUth | wCalledUth => simp only [setPc_pc, Pc.rank]; decide
  all_goals cases hc

theorem ranked : Live.Ranked step (fun _ => True) isEnv μ 4 where
  good := fun _ _ _ _ _ _ => trivial
  dec := fun _ _ _ _ _ hs hc => rank_dec hs hc
  call := fun _ _ _ _ _ hs hc => rank_env hs hc
  frame := by
    intro s t e s' u _ hs hu
    show ((s'.loc u).pc).rank ≤ _
    rw [(Step.of_step hs).loc_other hu]; exact Nat.le_refl _

/-! ## Who can move: per-thread analysis of a reachable state -/

/-- the event is a successful lock acquisition (the only library step another thread can disable) -/
def isAcq : Ev → Bool
  | .lk _ _ true => true
  | _ => false

def LibEnabled (s : St) (t : Tid) : Prop := ∃ e, isEnv e = false ∧ (step s t e).isSome = true

/-- some library step of `t` other than a lock acquisition is enabled -/
def Moves (s : St) (t : Tid) : Prop := ∃ e, isEnv e = false ∧ isAcq e = false ∧ (step s t e).isSome = true

theorem Moves.lib {s : St} {t : Tid} (h : Moves s t) : LibEnabled s t := by
  obtain ⟨e, h1, _, h3⟩ := h; exact ⟨e, h1, h3⟩

/-- the accesses made so far inside a whole-object bracket allow the library to close it: the body
threw before writing, or (locking enabled) they amount to the operation -/
def bodyDone (en : Bool) (w : WOp) (seen wrote : Option Int) (thrown : Bool) : Prop :=
  if thrown = true then wrote = none else (en = true → (wResult w seen wrote).isSome = true)

/-- it is the CLIENT's move in thread `t`: it keeps a live handle between two handle operations, or
its code is running as the body of a whole-object bracket that is not complete yet -/
def ClientTurn (s : St) (t : Tid) : Prop :=
  ((s.loc t).pc = .sess ∧ ((s.loc t).ha.live = true ∨ (s.loc t).hb.live = true)) ∨
  (∃ w m seen wrote thrown, (s.loc t).pc = .whole w m seen wrote thrown ∧ ¬ bodyDone s.enabled w seen wrote thrown)

/-- `t` is inside a blocking acquisition, before its lock event -/
def Waiting (s : St) (t : Tid) : Prop :=
  (∃ sd, (s.loc t).pc = .acq sd .block ∧ s.enabled = true) ∨ (∃ w, (s.loc t).pc = .wCalled w)

theorem holder_can_release {s : St} (hi : Inv s) {t : Tid} {m : Mode} (hh : s.held t = m) (hm : m ≠ .none) :
    ∃ sd s1, modeSide m = some sd ∧ s.release t sd = some s1 := by
  cases m
  · exact absurd rfl hm
  · exact ⟨.S, by simp [St.release, hh, (hi.g.sharedHeld t).2 hh, modeSide]⟩
  · exact ⟨.X, by simp [St.release, hh, (hi.g.exclHeld t).2 hh, modeSide]⟩

theorem hop_release_enabled {s : St} (hi : Inv s) {t : Tid} {k : HopK} (hp : (s.loc t).pc = .hop k true) :
    ∃ sd, (step s t (.rel sd)).isSome = true := by
  have hown := ((hi.l t).hopOk k true hp).2.1 rfl
  obtain ⟨sd, s1, hsd, hr⟩ := holder_can_release hi ((hi.l t).held_of_owns (by rw [hp]; rfl) hown) hown
  exact ⟨sd, Step.isSome hp (.rel hsd hr)⟩

theorem whole_release_enabled {s : St} (hi : Inv s) {t : Tid} {w : WOp} {m : Mode} {seen wrote : Option Int}
    {thrown : Bool} (hp : (s.loc t).pc = .whole w m seen wrote thrown)
    (hd : bodyDone s.enabled w seen wrote thrown) : ∃ sd, (step s t (.rel sd)).isSome = true := by
  obtain ⟨sd, s1, hsd, hr⟩ := holder_can_release hi (whole_held hi hp).1 (whole_held hi hp).2
  refine ⟨sd, ?_⟩
  unfold bodyDone at hd
  cases thrown
  · rw [if_neg Bool.noConfusion] at hd
    cases he : s.enabled
    · exact Step.isSome hp (.wRelOff hsd he hr)
    · obtain ⟨r, hres⟩ := Option.isSome_iff_exists.1 (hd he)
      exact Step.isSome hp (.wRel hsd he hres hr)
  · rw [if_pos rfl] at hd; subst hd
    exact Step.isSome hp (.wRelExc hsd hr)

/-- **Per-thread classification of a reachable state**: a thread is outside every operation, or has an
enabled library step that nobody else can disable, or it is the client's move, or it waits in a
blocking acquisition. -/
theorem thread_cases {s : St} (hi : Inv s) (t : Tid) :
    (s.loc t).pc = .idle ∨ Moves s t ∨ ClientTurn s t ∨ Waiting s t := by
  have hl := hi.l t
  cases hp : (s.loc t).pc
  case idle => exact Or.inl rfl
  case sessCalled => exact Or.inr (Or.inl ⟨.acq .X .block, rfl, rfl, Step.isSome hp .acq⟩)
  case acq sd how =>
    cases he : s.enabled
    · exact Or.inr (Or.inl ⟨_, rfl, rfl, Step.isSome hp (.gotOff he (hl.dead (by rw [hp]; rfl)).1)⟩)
    · cases how
      · exact Or.inr (Or.inr (Or.inr (Or.inl ⟨sd, hp, he⟩)))
      · exact Or.inr (Or.inl ⟨_, rfl, rfl, Step.isSome hp (.lkFail he rfl How.noConfusion)⟩)
      · exact Or.inr (Or.inl ⟨_, rfl, rfl, Step.isSome hp (.lkFail he rfl How.noConfusion)⟩)
  case acqd ok m => exact Or.inr (Or.inl ⟨_, rfl, rfl, Step.isSome hp (.got (hl.dead (by rw [hp]; rfl)).1)⟩)
  case sess =>
    cases ha : (s.loc t).ha.live
    · cases hb : (s.loc t).hb.live
      · exact Or.inr (Or.inl ⟨_, rfl, rfl, Step.isSome hp (.retSess ha hb)⟩)
      · exact Or.inr (Or.inr (Or.inl (Or.inl ⟨hp, Or.inr hb⟩)))
    · exact Or.inr (Or.inr (Or.inl (Or.inl ⟨hp, Or.inl ha⟩)))
  case hop k p =>
    cases p
    · refine Or.inr (Or.inl ?_)
      cases k
      · exact ⟨_, rfl, rfl, Step.isSome hp .heDestroy⟩
      · exact ⟨_, rfl, rfl, Step.isSome hp .heUnlock⟩
      · exact ⟨_, rfl, rfl, Step.isSome hp (.heMove (.inl rfl))⟩
      · exact ⟨_, rfl, rfl, Step.isSome hp (.heMove (.inr rfl))⟩
    · obtain ⟨sd, h⟩ := hop_release_enabled hi hp
      exact Or.inr (Or.inl ⟨.rel sd, rfl, rfl, h⟩)
  case wCalled w => exact Or.inr (Or.inr (Or.inr (Or.inr ⟨w, hp⟩)))
  case whole w m seen wrote thrown =>
    by_cases hd : bodyDone s.enabled w seen wrote thrown
    · obtain ⟨sd, h⟩ := whole_release_enabled hi hp hd
      exact Or.inr (Or.inl ⟨.rel sd, rfl, rfl, h⟩)
    · exact Or.inr (Or.inr (Or.inl (Or.inr ⟨w, m, seen, wrote, thrown, hp, hd⟩)))
  case wDone r => exact Or.inr (Or.inl ⟨_, rfl, rfl, Step.isSome hp (.retW (.inr rfl))⟩)
  case wExc => exact Or.inr (Or.inl ⟨_, rfl, rfl, Step.isSome hp .exc⟩)

theorem Waiting.holds_none {s : St} (hi : Inv s) {t : Tid} (hw : Waiting s t) : s.held t = .none := by
  rcases hw with ⟨sd, hp, _⟩ | ⟨w, hp⟩
  · exact (hi.l t).plain_none (by rw [hp]; rfl)
  · exact (hi.l t).plain_none (by rw [hp]; rfl)

/-- a thread that holds the mutex can make a library step nobody can disable, or it is the client's move -/
theorem holder_cases {s : St} (hi : Inv s) {t : Tid} (hh : s.held t ≠ .none) : Moves s t ∨ ClientTurn s t := by
  rcases thread_cases hi t with h | h | h | h
  · exact absurd ((hi.l t).plain_none (by rw [h]; rfl)) hh
  · exact Or.inl h
  · exact Or.inr h
  · exact absurd (h.holds_none hi) hh

theorem effSide_S {c : Bool} {sd : Side} (h : effSide c sd = .S) : c = true := by
  cases sd
  · cases h
  · cases c
    · cases h
    · rfl

/-- a thread that holds nothing can acquire a mutex nobody holds exclusively: exclusively if there is no
reader either, shared if the mutex has a shared mode -/
theorem acquire_enabled {s : St} {t : Tid} (hn : s.held t = .none) (hx : s.excl = none) (sd : Side)
    (hs : sd = .X → s.shared = []) (hc : sd = .S → s.capable = true) : ∃ s1, s.acquire t sd = some s1 := by
  cases sd
  · simp [St.acquire, hn, hx, hs rfl]
  · simp [St.acquire, hn, hx, hc rfl]

theorem sess_lock_enabled {s : St} (hi : Inv s) {t : Tid} {sd : Side} {how : How} (hp : (s.loc t).pc = .acq sd how)
    (he : s.enabled = true) (hx : s.excl = none) (hs : effSide s.capable sd = .X → s.shared = []) :
    (step s t (.lk (effSide s.capable sd) how true)).isSome = true := by
  obtain ⟨s1, ha⟩ := acquire_enabled ((hi.l t).plain_none (by rw [hp]; rfl)) hx _ hs effSide_S
  exact Step.isSome hp (.lkOk he rfl ha)

theorem whole_lock_enabled {s : St} (hi : Inv s) {t : Tid} {w : WOp} (hp : (s.loc t).pc = .wCalled w)
    (hx : s.excl = none) (sd : Side) (hs : sd = .X → s.shared = []) (hc : sd = .S → s.capable = true) :
    (step s t (.lk sd .block true)).isSome = true := by
  obtain ⟨s1, ha⟩ := acquire_enabled ((hi.l t).plain_none (by rw [hp]; rfl)) hx sd hs hc
  exact Step.isSome hp (.wLk ha)

/-- when the mutex is free every waiting thread can acquire it (on the side a session asked for; a
whole-object operation on the exclusive side, and on the shared side too if the mutex has one) -/
theorem free_waiting_enabled {s : St} (hi : Inv s) (hfree : s.excl = none ∧ s.shared = []) {t : Tid}
    (hw : Waiting s t) :
    (∀ sd, (s.loc t).pc = .acq sd .block → (step s t (.lk (effSide s.capable sd) .block true)).isSome = true) ∧
    (∀ w, (s.loc t).pc = .wCalled w → (step s t (.lk .X .block true)).isSome = true ∧
      (s.capable = true → (step s t (.lk .S .block true)).isSome = true)) := by
  refine ⟨fun sd hp => ?_, fun w hp => ⟨whole_lock_enabled hi hp hfree.1 .X (fun _ => hfree.2) Side.noConfusion,
    fun hc => whole_lock_enabled hi hp hfree.1 .S (fun _ => hfree.2) (fun _ => hc)⟩⟩
  rcases hw with ⟨_, _, he⟩ | ⟨w, hp'⟩
  · exact sess_lock_enabled hi hp he hfree.1 (fun _ => hfree.2)
  · exact Pc.noConfusion (hp.symm.trans hp')

theorem free_waiting_lib {s : St} (hi : Inv s) (hfree : s.excl = none ∧ s.shared = []) {t : Tid}
    (hw : Waiting s t) : LibEnabled s t := by
  have h := free_waiting_enabled hi hfree hw
  rcases hw with ⟨sd, hp, _⟩ | ⟨w, hp⟩
  · exact ⟨_, rfl, h.1 sd hp⟩
  · exact ⟨_, rfl, (h.2 w hp).1⟩

theorem held_of_not_free {s : St} (hi : Inv s) (hnf : ¬ (s.excl = none ∧ s.shared = [])) : ∃ u, s.held u ≠ .none := by
  cases hx : s.excl with
  | some u => exact ⟨u, by rw [(hi.g.exclHeld u).1 hx]; simp⟩
  | none =>
    cases hsh : s.shared with
    | nil => exact absurd ⟨hx, hsh⟩ hnf
    | cons u rest =>
      have : u ∈ s.shared := by rw [hsh]; simp
      exact ⟨u, by rw [(hi.g.sharedHeld u).1 this]; simp⟩

/-- **Trichotomy**: in a reachable state (1) some thread has an enabled library step that no other thread
can disable, or (2) the mutex is free and every thread inside an operation is the client's move or a
waiting acquirer that can take the mutex now, or (3) the mutex is held, every holder is a client whose
move it is, and every thread inside an operation is such a client or a waiting acquirer. -/
theorem trichotomy {s : St} (hi : Inv s) :
    (∃ u, Moves s u) ∨
    ((s.excl = none ∧ s.shared = []) ∧
      ∀ t, (s.loc t).pc = .idle ∨ ClientTurn s t ∨ (Waiting s t ∧ LibEnabled s t)) ∨
    ((∃ u, s.held u ≠ .none) ∧ (∀ u, s.held u ≠ .none → ClientTurn s u) ∧
      ∀ t, (s.loc t).pc = .idle ∨ ClientTurn s t ∨ Waiting s t) := by
  by_cases hm : ∃ u, Moves s u
  · exact Or.inl hm
  · have hnm : ∀ u, ¬ Moves s u := fun u h => hm ⟨u, h⟩
    have hall : ∀ t, (s.loc t).pc = .idle ∨ ClientTurn s t ∨ Waiting s t := by
      intro t
      rcases thread_cases hi t with h | h | h | h
      · exact Or.inl h
      · exact absurd h (hnm t)
      · exact Or.inr (Or.inl h)
      · exact Or.inr (Or.inr h)
    by_cases hfree : s.excl = none ∧ s.shared = []
    · refine Or.inr (Or.inl ⟨hfree, fun t => ?_⟩)
      rcases hall t with h | h | h
      · exact Or.inl h
      · exact Or.inr (Or.inl h)
      · exact Or.inr (Or.inr ⟨h, free_waiting_lib hi hfree h⟩)
    · refine Or.inr (Or.inr ⟨held_of_not_free hi hfree, fun u hu => ?_, hall⟩)
      rcases holder_cases hi hu with h | h
      · exact absurd h (hnm u)
      · exact h

/-- whenever it is the client's move, the client does have a move (a handle operation on the handle it
keeps; its code inside the bracket goes on) -/
theorem client_can_move {s : St} {t : Tid} (h : ClientTurn s t) : ∃ e, isEnv e = true ∧ (step s t e).isSome = true := by
  rcases h with ⟨hp, ha | hb⟩ | ⟨w, m, sn, wr, th, hp, _⟩
  · exact ⟨_, rfl, Step.isSome hp (.hbDestroy (i := .a) ha)⟩
  · exact ⟨_, rfl, Step.isSome hp (.hbDestroy (i := .b) hb)⟩
  · exact ⟨_, rfl, Step.isSome hp .wUth⟩

/-- a client that keeps a live handle between operations has no enabled library step: the session returns
only after every handle is destroyed -/
theorem sess_live_not_lib {s : St} {t : Tid} (hp : (s.loc t).pc = .sess)
    (hl : (s.loc t).ha.live = true ∨ (s.loc t).hb.live = true) : ¬ LibEnabled s t := by
  rintro ⟨e, h1, h2⟩
  obtain ⟨s', hs⟩ := Option.isSome_iff_exists.1 h2
  cases Step.of_step_at hp hs
  case retSess ha hb => rcases hl with h | h <;> simp [ha, hb] at h
  all_goals cases h1

/-- the only library step of a thread waiting in a blocking `lock()` is the acquisition itself -/
theorem acq_block_lib {s : St} {t : Tid} {sd : Side} (hp : (s.loc t).pc = .acq sd .block) (he : s.enabled = true)
    (h : LibEnabled s t) : (s.acquire t (effSide s.capable sd)).isSome = true := by
  obtain ⟨e, _, h2⟩ := h
  obtain ⟨s', hs⟩ := Option.isSome_iff_exists.1 h2
  cases Step.of_step_at hp hs with
  | lkOk _ hsd ha => rw [← hsd, ha]; rfl
  | lkFail _ _ hb => exact absurd rfl hb
  | gotOff he' _ => rw [he] at he'; cases he'

end ConcVerif.LockFam
