import ConcVerif.Proof.DDInv
/-! Stack grammar of the DelayedDestructor model and the invariants the progress theorem needs beyond `Inv`:
* `Shape`  — which frame may sit below which, and which frames can be on top of a stack;
* `HoldsL` — a thread whose top frame is a critical-section frame holds the lock (converse of `InvL`);
* `DyP` — the object of a `dying` frame is pending, and no two threads are about to destroy the same object;
and their conjunction `ProgInv`. -/
namespace ConcVerif.DD

variable {s s' X : St} {t : Tid} {fs rest : List Frame} {f g : Frame} {k : ObjId} {e : Ev} {c : Cfg}

inductive Kind | call | d | dy | x
  deriving DecidableEq

/-- what a frame needs below it: `call` — user code (or nothing); `d` (a running destroyObjects()) — user code or
its internal caller; `dy` (payload destructor) — user code or the release loop it interrupts; `x` — nothing -/
def Frame.kind : Frame → Kind
  | .dCalled | .dUnlock0 | .dUnlock1 _ _ | .dCb _ _ _ _ | .dInCb _ _ _ _ _ | .dClear _ _ _ _ | .dRelock _ | .dUnlock2 => .d
  | .dying _ | .inDt _ => .dy
  | .xInner _ | .xYield _ | .xSleep _ | .xInnerLast | .xVec | .xRet => .x
  | _ => .call

def allows (k : Kind) (rest : List Frame) : Bool :=
  match k with
  | .call => userLevel rest
  | .d => userLevel rest || isDCaller rest
  | .dy => userLevel rest || isReleaser rest
  | .x => rest.isEmpty

def shape : List Frame → Bool
  | [] => true
  | f :: rest => allows f.kind rest && shape rest

/-- frames that can be on top of a stack -/
def topF : Frame → Bool
  | .gInner _ _ _ | .xInner _ | .xInnerLast | .xVec | .dClear _ _ _ _ => false
  | .dCb _ _ _ [] => false
  | .dUnlock1 _ [] => false
  | _ => true

def topOk : List Frame → Bool
  | [] => true
  | f :: _ => topF f

def good (fs : List Frame) : Bool := shape fs && topOk fs

@[simp] theorem shape_cons (f : Frame) (rest : List Frame) : shape (f :: rest) = (allows f.kind rest && shape rest) := rfl
@[simp] theorem topOk_cons (f : Frame) (rest : List Frame) : topOk (f :: rest) = topF f := rfl

theorem userLevel_topOk (h : userLevel fs = true) : topOk fs = true := by
  cases fs with
  | nil => rfl
  | cons f r => cases f <;> simp [userLevel] at h <;> rfl

theorem allows_d_default (h : allows .d rest = true) (hn : isDCaller rest = false) :
    userLevel rest = true := by
  simpa [allows, hn] using h

theorem allows_dy_default (h : allows .dy rest = true) (hn : isReleaser rest = false) :
    userLevel rest = true := by
  simpa [allows, hn] using h

theorem good_push (f : Frame) (hu : userLevel fs = true) (hg : good fs = true) (ht : topF f = true)
    (hk : f.kind ≠ .x) : good (f :: fs) = true := by
  have hs : shape fs = true := by simp only [good, Bool.and_eq_true] at hg; exact hg.1
  have ha : allows f.kind fs = true := by
    cases hkk : f.kind <;> simp [allows, hu] ; exact absurd hkk hk
  simp [good, ha, hs, ht]

/-- the kinds of frames that return by a `ret` marker: the API calls and the bottom frame of the container's destructor -/
def Kind.returns : Kind → Bool
  | .call | .x => true
  | _ => false

theorem userLevel_below (hg : good (f :: rest) = true) (hk : f.kind.returns = true) :
    userLevel rest = true := by
  simp only [good, shape_cons, topOk_cons, Bool.and_eq_true] at hg
  have h := hg.1.1
  cases hf : f.kind <;> rw [hf] at h hk
  · exact h
  · cases hk
  · cases hk
  · rw [List.isEmpty_iff.mp h]; rfl

theorem good_pop (hg : good (f :: rest) = true) (hk : f.kind.returns = true) :
    good rest = true := by
  have hu := userLevel_below hg hk
  simp only [good, shape_cons, topOk_cons, Bool.and_eq_true] at hg
  simp [good, hg.1.2, userLevel_topOk hu]

theorem good_replace (hg : good (f :: rest) = true) (hk : g.kind = f.kind)
    (ht : topF g = true) : good (g :: rest) = true := by
  simp only [good, shape_cons, topOk_cons, Bool.and_eq_true] at hg ⊢
  rw [hk]; exact ⟨hg.1, ht⟩

theorem good_parts (hg : good (f :: rest) = true) :
    allows f.kind rest = true ∧ shape rest = true := by
  simp only [good, shape_cons, topOk_cons, Bool.and_eq_true] at hg
  exact hg.1

theorem gBody_ok (len dc cnt : Nat) : (gBody len dc cnt).kind = .call ∧ topF (gBody len dc cnt) = true := by
  unfold gBody; split <;> exact ⟨rfl, rfl⟩

theorem gNext_ok (len dc cnt es : Nat) : (gNext len dc cnt es).kind = .call ∧ topF (gNext len dc cnt es) = true := by
  unfold gNext; repeat' split
  · exact ⟨rfl, rfl⟩
  · exact gBody_ok ..
  · exact ⟨rfl, rfl⟩

theorem good_top (hg : good (f :: rest) = true) : topF f = true := by
  simp only [good, topOk_cons, Bool.and_eq_true] at hg; exact hg.2

theorem shape_parts (hs : shape (f :: rest) = true) :
    allows f.kind rest = true ∧ shape rest = true := by
  simpa only [shape_cons, Bool.and_eq_true] using hs

theorem shape_top (hg : good (f :: rest) = true) (hk : g.kind = f.kind) :
    shape (g :: rest) = true := by
  rw [shape_cons, hk, (good_parts hg).1, (good_parts hg).2]; rfl

theorem good_of_parts (hp : allows f.kind rest = true ∧ shape rest = true)
    (hk : g.kind = f.kind) (ht : topF g = true) : good (g :: rest) = true := by
  simp only [good, shape_cons, topOk_cons, hk, hp.1, hp.2, ht, Bool.and_self]

theorem good_inner (hp : allows f.kind rest = true ∧ shape rest = true)
    (hk : g.kind = f.kind) (hc : isDCaller (g :: rest) = true) : good (.dCalled :: g :: rest) = true := by
  have h3 : allows Frame.dCalled.kind (g :: rest) = true := by simp only [Frame.kind, allows, hc, Bool.or_true]
  simp only [good, shape_cons, topOk_cons, hk, hp.1, hp.2, h3, Bool.and_self]; rfl

/-- a release loop is interrupted by the destructor of the object it released last -/
theorem good_dying (hr : isReleaser (f :: rest) = true)
    (hs : shape (f :: rest) = true) : good (.dying k :: f :: rest) = true := by
  have h3 : allows (Frame.dying k).kind (f :: rest) = true := by simp only [Frame.kind, allows, hr, Bool.or_true]
  rw [good, shape_cons, h3, hs]; rfl

/-- what the frames of a configuration must allow: a payload destructor has just returned onto them, or a
destroyObjects() -/
def Cfg.kind : Cfg → Kind
  | .run _ => .dy
  | .done _ _ => .d
  | .top _ _ => .x
  | .scan _ _ => .d

/-- only the scan ends on a critical-section frame: it is the one piece of silent code that runs under the lock -/
def Cfg.locks : Cfg → Bool
  | .scan _ _ => true
  | _ => false

theorem topF_scan {n : Nat} {l : List ObjId} (h : ¬ l = []) : topF (.dUnlock1 n l) = true := by
  cases l with
  | nil => exact absurd rfl h
  | cons => rfl

theorem good_sil (h : Sil t X c s') (ha : allows c.kind c.stk = true)
    (hs : shape c.stk = true) : good (s'.stk t) = true ∧ holds (s'.stk t) = c.locks := by
  induction h with
  | stop hn =>
    have hu := allows_dy_default ha hn
    rw [setStk_stk_same]; exact ⟨(Bool.and_eq_true _ _).mpr ⟨hs, userLevel_topOk hu⟩, userLevel_not_holds hu⟩
  | caught _ ih => exact ih (shape_parts hs).1 (shape_parts hs).2
  | ecLast | vecLast => rw [setStk_stk_same]; exact ⟨good_dying rfl hs, rfl⟩
  | ecNext _ _ ih | vecNext _ _ _ ih => exact ih ha hs
  | doneCall => rw [setStk_stk_same]; exact ⟨good_inner (shape_parts hs) rfl rfl, rfl⟩
  | doneVec _ ih => exact ih rfl hs
  | topEmpty => rw [setStk_stk_same]; exact ⟨good_of_parts (f := .xRet) ⟨ha, hs⟩ rfl rfl, rfl⟩
  | topCall => rw [setStk_stk_same]; exact ⟨good_inner (f := .xRet) ⟨ha, hs⟩ rfl rfl, rfl⟩
  | scanNone => rw [setStk_stk_same]; exact ⟨good_of_parts (f := .dCalled) ⟨ha, hs⟩ rfl rfl, rfl⟩
  | scanSome hne => rw [setStk_stk_same]; exact ⟨good_of_parts (f := .dCalled) ⟨ha, hs⟩ rfl (topF_scan hne), rfl⟩
  | doneRet hn =>
    rw [setStk_stk_same]; exact ⟨good_of_parts (f := .dRet none) ⟨allows_d_default ha hn, hs⟩ rfl rfl, rfl⟩
  | _ => rw [setStk_stk_same]; exact ⟨good_of_parts (shape_parts hs) rfl rfl, rfl⟩

theorem topF_dCb {sz : Nat} {ec cbs todo : List ObjId} (h : ¬ todo = []) : topF (.dCb sz ec cbs todo) = true := by
  cases todo with
  | nil => exact absurd rfl h
  | cons => rfl

theorem topF_dUnlock1 {sz : Nat} {ec : List ObjId} (h : topF (.dUnlock1 sz ec) = true) : ¬ ec = [] := by
  rintro rfl; cases h

theorem Step.good_stk (h : Step s t fs e s') (hfs : s.stk t = fs)
    (hg : good fs = true) : good (s'.stk t) = true := by
  cases h with
  | user hu h =>
    cases h with
    | new | dup | drop => exact hfs ▸ hg
    | callDtor hfs' => subst hfs'; exact (good_sil (xTop_sil ..) rfl rfl).1
    | _ => rw [setStk_stk_same]; exact good_push _ hu hg rfl nofun
  | addRet | sizeRet | dRet | gRet | xRet => rw [setStk_stk_same]; exact good_pop hg rfl
  | dLock => exact (good_sil (select_sil ..) (good_parts hg).1 (good_parts hg).2).1
  | dTimeout | dUnlock0 | dRelockTimeout | dUnlock2 => exact (good_sil (dDone_sil ..) (good_parts hg).1 (good_parts hg).2).1
  | dUnlock1Cb => rw [setStk_stk_same]; exact good_replace hg rfl (topF_dCb (topF_dUnlock1 (good_top hg)))
  | dUnlock1 | cbEndLast | cbThrow => exact (good_sil (drain_sil ..) rfl (shape_top hg rfl)).1
  | cbEnd hne => rw [setStk_stk_same]; exact good_replace hg rfl (topF_dCb hne)
  | dtorEnd => exact (good_sil (resume_sil ..) (good_parts hg).1 (good_parts hg).2).1
  | gLock | gRelockD => rw [setStk_stk_same]; exact good_replace hg (gNext_ok ..).1 (gNext_ok ..).2
  | gRelockS => rw [setStk_stk_same]; exact good_replace hg (gBody_ok ..).1 (gBody_ok ..).2
  | gUnlockD => rw [setStk_stk_same]; exact good_inner (good_parts hg) rfl rfl
  | xYield | xSleep => exact (good_sil (xTop_sil ..) (good_parts hg).1 (good_parts hg).2).1
  | _ => rw [setStk_stk_same]; exact good_replace hg rfl rfl

def Shape (s : St) : Prop := ∀ t, good (s.stk t) = true

theorem shape_init (cb ns nt) : Shape (init cb ns nt) := by intro t; simp [init, good, shape, topOk]

theorem shape_step (hI : Shape s) (h : step s t e = some s') : Shape s' := by
  intro u
  by_cases hu : u = t
  · subst hu; exact (Step.of_step h).good_stk rfl (hI u)
  · rw [step_stk_other h hu]; exact hI u

theorem shape_reachable {cb ns nt} {s : St} (h : Reachable cb ns nt s) : Shape s := by
  obtain ⟨es, hr⟩ := h
  exact runFrom_inv (Inv := Shape) (fun _ _ _ _ hi hs => shape_step hi hs) (shape_init cb ns nt) hr

/-! ## `HoldsL`: a thread whose top frame is a critical-section frame holds the lock (converse of `InvL`). -/

theorem UStep.nh (h : UStep s t fs e s') (hfs : s.stk t = fs)
    (hu : userLevel fs = true) : holds (s'.stk t) = false := by
  cases h with
  | new | dup | drop => exact hfs ▸ userLevel_not_holds hu
  | callDtor hfs' => subst hfs'; exact (good_sil (xTop_sil ..) rfl rfl).2
  | _ => rw [setStk_stk_same]; rfl

/-- only an acquisition leaves `t` on a critical-section frame -/
theorem Step.holds_lock (h : Step s t fs e s') (hfs : s.stk t = fs)
    (hg : good fs = true) (hh : holds (s'.stk t) = true) : s'.lock = some t := by
  cases h with
  | addLock | sizeLock | dRelock | gLock | gRelockS | gRelockD => rfl
  | dLock => exact select_lock ..
  | user hu h => rw [h.nh hfs hu] at hh; cases hh
  | addRet | sizeRet | dRet | gRet | xRet =>
    rw [setStk_stk_same, userLevel_not_holds (userLevel_below hg rfl)] at hh; cases hh
  | dTimeout | dUnlock0 | dRelockTimeout | dUnlock2 => rw [(good_sil (dDone_sil ..) (good_parts hg).1 (good_parts hg).2).2] at hh; cases hh
  | dUnlock1 | cbEndLast | cbThrow => rw [(good_sil (drain_sil ..) rfl (shape_top hg rfl)).2] at hh; cases hh
  | dtorEnd => rw [(good_sil (resume_sil ..) (good_parts hg).1 (good_parts hg).2).2] at hh; cases hh
  | xYield | xSleep => rw [(good_sil (xTop_sil ..) (good_parts hg).1 (good_parts hg).2).2] at hh; cases hh
  | _ => rw [setStk_stk_same] at hh; cases hh

def HoldsL (s : St) : Prop := ∀ t, holds (s.stk t) = true → s.lock = some t

theorem holdsL_init (cb ns nt) : HoldsL (init cb ns nt) := by intro t h; simp [init, holds] at h

theorem holdsL_step (hS : Shape s) (hI : HoldsL s) (h : step s t e = some s') :
    HoldsL s' := by
  intro u hu
  by_cases hut : u = t
  · subst hut; exact (Step.of_step h).holds_lock rfl (hS u) hu
  · rw [step_stk_other h hut] at hu
    have hl := hI u hu
    rcases (Step.of_step h).lock_cases with ⟨h1, _⟩ | ⟨h1, _⟩ | ⟨h1, _⟩
    · rw [hl] at h1; cases h1
    · rw [hl] at h1; exact absurd (Option.some.inj h1) hut
    · rw [h1]; exact hl

theorem holdsL_reachable {cb ns nt} {s : St} (h : Reachable cb ns nt s) : HoldsL s := by
  obtain ⟨es, hr⟩ := h
  have : Shape s ∧ HoldsL s :=
    runFrom_inv (Inv := fun s => Shape s ∧ HoldsL s)
      (fun _ _ _ _ hi hs => ⟨shape_step hi.1 hs, holdsL_step hi.1 hi.2 hs⟩)
      ⟨shape_init cb ns nt, holdsL_init cb ns nt⟩ hr
  exact this.2

/-! ## `DyP`: the object of a `dying` frame is pending (its destructor start is enabled), and no two threads are about
to destroy the same object. -/

/-- effect of a step / silent loop of `t` on the pending list: it only grows, and if `t` ends with a `dying k` frame
on top then `k` is exactly what was added -/
structure Push (s s' : St) (t : Tid) : Prop where
  mono : ∀ k, k ∈ s.pend → k ∈ s'.pend
  top : ∀ k r, s'.stk t = .dying k :: r → s'.pend = k :: s.pend

theorem Push.of_pend {a b c : St} (h : Push b c t) (hp : b.pend = a.pend) : Push a c t :=
  ⟨fun k hk => h.mono k (by rw [hp]; exact hk), fun k r hr => by rw [h.top k r hr, hp]⟩

theorem push_setStk (X : St) (hp : X.pend = s.pend)
    (hn : ∀ k r, fs ≠ .dying k :: r) : Push s (X.setStk t fs) t :=
  ⟨fun _ hk => hp ▸ hk, fun k r hr => by rw [setStk_stk_same] at hr; exact absurd hr (hn k r)⟩

theorem push_dying (X : St) (hp : X.pend = k :: s.pend) :
    Push s (X.setStk t (.dying k :: fs)) t := by
  refine ⟨fun j hj => hp ▸ List.mem_cons_of_mem _ hj, fun j r hr => ?_⟩
  rw [setStk_stk_same] at hr
  cases hr; exact hp

theorem userLevel_not_dying (hu : userLevel fs = true) : ∀ k r, fs ≠ .dying k :: r := by
  rintro k r rfl; cases hu

theorem call_not_dying {g : Frame} (hk : g.kind = .call) : ∀ k r, g :: rest ≠ .dying k :: r := by
  rintro k r ⟨⟩; cases hk

theorem push_sil (h : Sil t X c s') (ha : allows c.kind c.stk = true)
    (hs : shape c.stk = true) : Push X s' t := by
  induction h with
  | stop hn => exact push_setStk _ rfl (userLevel_not_dying (allows_dy_default ha hn))
  | caught _ ih => exact ih (shape_parts hs).1 (shape_parts hs).2
  | ecLast | vecLast => exact push_dying _ rfl
  | ecNext _ _ ih | vecNext _ _ _ ih => exact (ih ha hs).of_pend rfl
  | doneVec _ ih => exact ih rfl hs
  | _ => exact push_setStk _ rfl nofun

/-- every step other than a destructor start only adds to the pending list, together with the `dying` frame -/
theorem Step.push (h : Step s t fs e s') (hfs : s.stk t = fs)
    (hne : ∀ k, e ≠ .pdt k) (hg : good fs = true) : Push s s' t := by
  cases h with
  | user hu h =>
    cases h with
    | new | dup | drop =>
      exact ⟨fun _ hk => hk, fun k r hr => absurd (hfs ▸ hr) (userLevel_not_dying hu k r)⟩
    | dropLast => exact push_dying _ rfl
    | callDtor hfs' => subst hfs'; exact (push_sil (xTop_sil ..) rfl rfl).of_pend rfl
    | _ => exact push_setStk _ rfl nofun
  | dtorStart => exact absurd rfl (hne _)
  | addRet | sizeRet | dRet | gRet | xRet =>
    exact push_setStk _ rfl (userLevel_not_dying (userLevel_below hg rfl))
  | dLock => exact push_sil (select_sil ..) (good_parts hg).1 (good_parts hg).2
  | dTimeout | dUnlock0 | dRelockTimeout | dUnlock2 => exact (push_sil (dDone_sil ..) (good_parts hg).1 (good_parts hg).2).of_pend rfl
  | dUnlock1 | cbEndLast | cbThrow => exact (push_sil (drain_sil ..) rfl (shape_top hg rfl)).of_pend rfl
  | dtorEnd => exact push_sil (resume_sil ..) (good_parts hg).1 (good_parts hg).2
  | gLock | gRelockD => exact push_setStk _ rfl (call_not_dying (gNext_ok ..).1)
  | gRelockS => exact push_setStk _ rfl (call_not_dying (gBody_ok ..).1)
  | xYield | xSleep => exact push_sil (xTop_sil ..) (good_parts hg).1 (good_parts hg).2
  | _ => exact push_setStk _ rfl nofun

structure DyP (s : St) : Prop where
  pend : ∀ t k r, s.stk t = .dying k :: r → k ∈ s.pend
  uniq : ∀ t u k r1 r2, s.stk t = .dying k :: r1 → s.stk u = .dying k :: r2 → t = u

theorem dyP_init (cb ns nt) : DyP (init cb ns nt) :=
  ⟨fun t k r h => by simp [init] at h, fun t u k r1 r2 h => by simp [init] at h⟩

theorem dyP_step (hI : Inv s) (hS : Shape s) (hD : DyP s)
    (h : step s t e = some s') : DyP s' := by
  by_cases hp : ∃ k0, e = .pdt k0
  · obtain ⟨k0, rfl⟩ := hp
    obtain ⟨rest, hst, _, _, hpe, hst'⟩ := pdt_inv h
    constructor
    · intro u k r hu
      by_cases hut : u = t
      · subst hut; rw [hst'] at hu; cases hu
      · rw [step_stk_other h hut] at hu
        have hk := hD.pend u k r hu
        have hne : k ≠ k0 := by
          intro hkk; subst hkk
          exact hut (hD.uniq u t k r rest hu hst)
        rw [hpe]; exact (List.mem_erase_of_ne hne).mpr hk
    · intro u v k r1 r2 hu hv
      have hu' : u ≠ t := by intro hut; subst hut; rw [hst'] at hu; cases hu
      have hv' : v ≠ t := by intro hvt; subst hvt; rw [hst'] at hv; cases hv
      rw [step_stk_other h hu'] at hu
      rw [step_stk_other h hv'] at hv
      exact hD.uniq u v k r1 r2 hu hv
  · have hne : ∀ k, e ≠ .pdt k := fun k hk => hp ⟨k, hk⟩
    have hP := (Step.of_step h).push rfl hne (hS t)
    have hnd : s'.pend.Nodup := (List.nodup_append.mp (inv_step hI h).life.nodup).1
    have hold : ∀ u k r, u ≠ t → s'.stk u = .dying k :: r → k ∈ s.pend := by
      intro u k r hut hu
      rw [step_stk_other h hut] at hu
      exact hD.pend u k r hu
    have hfresh : ∀ k r, s'.stk t = .dying k :: r → k ∉ s.pend := by
      intro k r hr hk
      have := hP.top k r hr
      rw [this] at hnd
      exact (List.nodup_cons.mp hnd).1 hk
    constructor
    · intro u k r hu
      by_cases hut : u = t
      · subst hut; rw [hP.top k r hu]; simp
      · exact hP.mono k (hold u k r hut hu)
    · intro u v k r1 r2 hu hv
      by_cases hut : u = t
      · by_cases hvt : v = t
        · rw [hut, hvt]
        · subst hut; exact absurd (hold v k r2 hvt hv) (hfresh k r1 hu)
      · by_cases hvt : v = t
        · subst hvt; exact absurd (hold u k r1 hut hu) (hfresh k r2 hv)
        · rw [step_stk_other h hut] at hu
          rw [step_stk_other h hvt] at hv
          exact hD.uniq u v k r1 r2 hu hv

/-- everything the progress theorem needs, for every reachable state -/
structure ProgInv (s : St) : Prop where
  inv : Inv s
  shape : Shape s
  holdsL : HoldsL s
  dyP : DyP s

theorem progInv_reachable {cb ns nt} (h : Reachable cb ns nt s) : ProgInv s := by
  obtain ⟨es, hr⟩ := h
  exact runFrom_inv (Inv := ProgInv)
    (fun _ _ _ _ hi hs => ⟨inv_step hi.inv hs, shape_step hi.shape hs, holdsL_step hi.shape hi.holdsL hs,
      dyP_step hi.inv hi.shape hi.dyP hs⟩)
    ⟨inv_init cb ns nt, shape_init cb ns nt, holdsL_init cb ns nt, dyP_init cb ns nt⟩ hr

end ConcVerif.DD
