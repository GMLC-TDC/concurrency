import ConcVerif.Proof.Barrier
import ConcVerif.Proof.HBLock
/-! Connection of the Barrier model to the happens-before layer: every trace ACCEPTED by
`Barrier.step`, mapped to happens-before events (a cv wait is a release followed by a re-acquisition;
every `pld`/`pst` of `threshold_`/`count_`/`generation_` is treated as a WRITE of one location, the
strongest reading), is consistent with mutex semantics and makes every plain access under `mtx`. -/
namespace ConcVerif.Barrier

variable {P : List Tid} {es : List (Tid × Ev)} {s : St} {t : Tid}

/-- happens-before content of a Barrier-model event (mutex = location 0, the three plain fields =
location 0, every access counted as a write) -/
def toHB : Ev → HB.Ev
  | .mlk => .acq 0 .X
  | .cwk _ => .acq 0 .X
  | .mul _ => .rel 0 .X
  | .cwt _ => .rel 0 .X
  | .plain => .wr 0
  | _ => .nop

def hbTrace (es : List (Tid × Ev)) : HB.Trace := es.map (fun p => (p.1, toHB p.2))

theorem hbTrace_snoc (es : List (Tid × Ev)) (t : Tid) (e : Ev) : hbTrace (es ++ [(t, e)]) = hbTrace es ++ [(t, toHB e)] := by
  simp [hbTrace]

theorem hb_sim (h : run P es = some s) :
    (∀ u, HB.held (hbTrace es) u 0 = HB.ofOwner s.mtx u) ∧ HB.MutexOK (hbTrace es) ∧ HB.LockSet (hbTrace es) 0 0 := by
  suffices h' : HB.Agrees (hbTrace es) 0 (HB.ofOwner s.mtx) ∧ HB.LockSet (hbTrace es) 0 0 from ⟨h'.1.1, h'.1.2, h'.2⟩
  refine runFrom_trace_inv (P := fun es s => HB.Agrees (hbTrace es) 0 (HB.ofOwner s.mtx) ∧ HB.LockSet (hbTrace es) 0 0)
    ⟨.nil fun _ => rfl, HB.lockSet_nil 0 0⟩ ?_ h
  intro es s1 t e s2 _ ⟨ih, ihL⟩ h2
  rw [hbTrace_snoc]
  -- each step changes the owner field the way the happens-before content of its event says
  cases Step.of_step h2 with
  | call | ret | release => exact ⟨ih.inert nofun nofun, HB.lockSet_snoc ihL nofun nofun⟩
  | plain _ hm =>
    exact ⟨ih.inert nofun nofun, HB.lockSet_snoc ihL nofun fun _ => (ih.1 t).trans (hm ▸ HB.ofOwner_self t)⟩
  | lock _ hm | notified _ hm | spurious _ hm => exact ⟨(hm ▸ ih).lock, HB.lockSet_snoc ihL nofun nofun⟩
  | arrive _ hm | pass _ hm | rewait _ hm | leave _ hm => exact ⟨(hm ▸ ih).unlock, HB.lockSet_snoc ihL nofun nofun⟩

/-- **C07 for Barrier (model level).**  In every trace accepted by the Barrier model, every plain
access to `threshold_` / `count_` / `generation_` happens after every earlier one (all of them are
treated as conflicting writes). -/
theorem barrier_hb (h : run P es = some s) {i j : Nat}
    (hij : i < j) (hc : HB.ConflictOn (hbTrace es) 0 i j) : HB.HB (hbTrace es) i j := by
  obtain ⟨_, hm, hl⟩ := hb_sim h
  exact HB.lockset_hb hm hl hij hc

theorem hbTrace_access {i : Nat} {ei : HB.Ev} {x : HB.Loc}
    (h : (hbTrace es)[i]? = some (t, ei)) (ha : ei.accesses x) : x = 0 := by
  rw [hbTrace, List.getElem?_map] at h
  obtain ⟨⟨u, e⟩, _, he⟩ := Option.map_eq_some_iff.1 h
  cases he
  cases e <;> rcases ha with ha | ha <;> cases ha
  rfl

/-- no accepted trace of the Barrier model contains a data race on the plain fields -/
theorem barrier_no_race (h : run P es = some s) :
    ¬ HB.Race (hbTrace es) := by
  intro ⟨i, j, hij, ⟨x, hc⟩, hn⟩
  have hx : x = 0 := by
    obtain ⟨t, u, ei, ej, h1, _, ha, _⟩ := hc
    exact hbTrace_access h1 ha
  subst hx
  exact hn (barrier_hb h hij hc)

end ConcVerif.Barrier
