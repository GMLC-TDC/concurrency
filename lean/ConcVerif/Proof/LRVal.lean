import ConcVerif.Proof.LR
/-! Inductive invariant of the left-right model, part 2: the payload values (`VInv`: what the two copies hold,
by the mutex holder's pc, relative to the ghosts `committed` / `base`), and what it says about the side `rl` points to and
about held sides (`val_rl`, `held_val`). -/
namespace ConcVerif.LR

/-- reader-side step for `VInv` -/
macro "v_rd" h:ident hpc:ident t:ident : tactic =>
  `(tactic| exact vinv_nonholder (t := $t) $h (by intro u hu; simp [hu]) (by simp [$hpc:ident, Pc.post]) (by simp [Pc.post])
      (by intro x; cases x <;> simp [St.val]) (by simp) (by simp) (by simp))

/-- holder step for `VInv`: reduce to the value promise of the new pc -/
macro "v_w" hi:ident h:ident hpc:ident t:ident hv:ident : tactic =>
  `(tactic| (
      have $hv:ident := ($h).vk $t (by simp [$hpc:ident, Pc.post])
      rw [$hpc:ident] at $hv:ident
      refine vinv_holder (t := $t) $hi (by intro u hu; simp [hu]) (by simp [$hpc:ident, Pc.post]) (by simp) ?_
      simp only [Pc.vk, VX] at $hv:ident
      simp only [setPc_pc, if_true, Pc.vk, VX, setPc_committed, setPc_base, setPc_val, setVal_committed, setVal_base]
      first
        | exact $hv:ident
        | (obtain ⟨h1, h2⟩ := $hv:ident; exact ⟨h1, h2 _⟩)
        | (obtain ⟨h1, h2, h3⟩ := $hv:ident; exact ⟨h1, h2⟩)
        | (obtain ⟨h1, h2, h3⟩ := $hv:ident; exact ⟨h1, h3⟩)
        | skip))

variable {s s' s1 : St} {t r : Tid} {e : Ev} {p p' q' : Pc} {x : Side} {op : OpId}

/-- value promise of the mutex holder, by position inside `modify` -/
inductive VKd
  | none
  | same                          -- both copies = base, nothing committed
  | first (op : OpId) (l : Side)  -- side ¬l = base ++ [op], side l = base, not yet flipped
  | rb (l : Side)                 -- first application threw: side l = base (side ¬l unspecified)
  | mid (op : OpId) (l : Side)    -- flipped: committed = base ++ [op] = side ¬l, side l = base
  | rf (op : OpId) (l : Side)     -- second application threw: side ¬l = committed (side l unspecified)
  | done (op : OpId)              -- both copies = base ++ [op] = committed

def Pc.vk : Pc → VKd
  | .wA _ _ | .wF1 _ _ | .wRbD _ _ => .same
  | .wF1d op l => .first op l
  | .wRb _ l | .wRbC _ l => .rb l
  | .wWait op l _ _ | .wF2 op l => .mid op l
  | .wRf op l | .wRfC op l => .rf op l
  | .wF2d op _ | .wRfD op _ => .done op
  | _ => .none

def VX (committed base : List OpId) (val : Side → List OpId) : VKd → Prop
  | .none => True
  | .same => committed = base ∧ ∀ x, val x = base
  | .first op l => committed = base ∧ val l = base ∧ val l.flip = base ++ [op]
  | .rb l => committed = base ∧ val l = base
  | .mid op l => committed = base ++ [op] ∧ val l = base ∧ val l.flip = base ++ [op]
  | .rf op l => committed = base ++ [op] ∧ val l.flip = base ++ [op]
  | .done op => committed = base ++ [op] ∧ ∀ x, val x = base ++ [op]

structure VInv (s : St) : Prop where
  vk : ∀ t, (s.pc t).post = true → VX s.committed s.base s.val (s.pc t).vk
  vquiet : s.mtx = none → ∀ x, s.val x = s.committed

theorem vinv_init (b : Bool) : VInv (init b) := by
  constructor
  · intro t; simp [init, Pc.post]
  · intro _ x; cases x <;> rfl

theorem VInv.congr (h : VInv s) (h1 : s'.pc = s.pc) (h2 : s'.valL = s.valL) (h3 : s'.valR = s.valR)
    (h4 : s'.committed = s.committed) (h5 : s'.base = s.base) (h6 : s'.mtx = s.mtx) : VInv s' := by
  have hv : s'.val = s.val := by funext x; cases x <;> assumption
  exact ⟨by rw [h1, h4, h5, hv]; exact h.vk, by rw [h6, h4, hv]; exact h.vquiet⟩

theorem vinv_setReg (c : Side) (l : List Tid) (h : VInv (s.setPc t p')) :
    VInv ((s.setReg c l).setPc t p') := by
  cases c <;> exact h.congr rfl rfl rfl rfl rfl rfl

theorem VInv.vk_at (h : VInv s) (hpc : s.pc t = p) (hp : p.post = true) :
    VX s.committed s.base s.val p.vk :=
  hpc ▸ h.vk t (hpc ▸ hp)

theorem vinv_move (h : VInv s) (hp : (s.pc t).post = false) (hp' : p'.post = false) :
    VInv (s.setPc t p') := by
  refine ⟨fun u hu => ?_, h.vquiet⟩
  by_cases hut : u = t
  · subst hut; rw [setPc_pc_self, hp'] at hu; cases hu
  · rw [setPc_pc, if_neg hut] at hu ⊢; exact h.vk u hu

theorem vinv_holder (hi : Inv s) (hq : (s.pc t).post = true) (hm : s1.mtx = s.mtx)
    (hpc : s1.pc = s.pc) (hvk : VX s1.committed s1.base s1.val q'.vk) : VInv (s1.setPc t q') := by
  have hmt : s.mtx = some t := (hi.holder t).1 hq
  constructor
  · intro u hu
    by_cases hut : u = t
    · subst hut; rw [setPc_pc_self]; exact hvk
    · rw [setPc_pc, if_neg hut, hpc] at hu
      exact absurd (hi.post_unique hmt hu) hut
  · intro hn; rw [setPc_mtx, hm, hmt] at hn; cases hn

theorem vinv_lock (hi : Inv s) (h : VInv s) (hm : s.mtx = none) :
    VInv ({ s with mtx := some t, base := s.committed }.setPc t (.wA op s.rl)) := by
  have hnopost := hi.no_post hm
  constructor
  · intro u hu
    by_cases hut : u = t
    · subst hut
      simp only [setPc_pc, if_true, Pc.vk, VX]
      refine ⟨rfl, ?_⟩
      intro x; have := h.vquiet hm x
      cases x <;> exact this
    · simp [hut, hnopost u] at hu
  · intro hn; simp at hn

theorem vinv_unlock (hi : Inv s) (h : VInv s) (hq : (s.pc t).post = true)
    (hq' : q'.post = false)
    (hk : (s.pc t).vk = .same ∨ ∃ op, (s.pc t).vk = .done op) :
    VInv ({ s with mtx := none }.setPc t q') := by
  have hmt : s.mtx = some t := (hi.holder t).1 hq
  have hv := h.vk t hq
  constructor
  · intro u hu
    by_cases hut : u = t
    · subst hut; simp [hq'] at hu
    · simp [hut] at hu
      exact absurd (hi.post_unique hmt hu) hut
  · intro _ x
    show s.val x = s.committed
    rcases hk with hk | ⟨op, hk⟩
    · rw [hk] at hv; obtain ⟨a, b⟩ := hv; rw [a]; exact b x
    · rw [hk] at hv; obtain ⟨a, b⟩ := hv; rw [a]; exact b x

theorem vinv_step (hi : Inv s) (h : VInv s) (hs : step s t e = some s') : VInv s' := by
  induction Step.of_step hs with
  | callLs hpc => exact (vinv_move (p' := .rdCalled) h (hpc ▸ rfl) rfl).congr rfl rfl rfl rfl rfl rfl
  | rd hpc => exact (vinv_move (p' := .rdHold _ _) h (hpc ▸ rfl) rfl).congr rfl rfl rfl rfl rfl rfl
  | inc hpc | dec hpc => exact vinv_setReg _ _ (vinv_move h (hpc ▸ rfl) rfl)
  | lock hpc hm => exact vinv_lock hi h hm
  -- the holder: the value promise of the new pc follows from that of the old one
  | fBegin1 hpc | cpBeginRb hpc | fBegin2 hpc | cpBeginRf hpc =>
    have hv := h.vk_at hpc rfl
    exact vinv_holder hi (hpc ▸ rfl) rfl rfl hv
  | uthA hpc | uthF1 hpc | uthF2d hpc =>
    obtain ⟨h1, h2⟩ := h.vk_at hpc rfl
    exact vinv_holder hi (hpc ▸ rfl) rfl rfl (And.intro h1 (h2 _))
  | uthF1d hpc =>
    obtain ⟨h1, h2, _⟩ := h.vk_at hpc rfl
    exact vinv_holder hi (hpc ▸ rfl) rfl rfl (And.intro h1 h2)
  | uthWait hpc | uthF2 hpc =>
    obtain ⟨h1, _, h3⟩ := h.vk_at hpc rfl
    exact vinv_holder hi (hpc ▸ rfl) rfl rfl (And.intro h1 h3)
  | @cntZero op l zL zR c hpc hz =>
    have hv := h.vk_at hpc rfl
    exact vinv_holder hi (hpc ▸ rfl) rfl rfl (by cases c <;> exact hv)
  | stRL hpc =>
    obtain ⟨h1, h2, h3⟩ := h.vk_at hpc rfl
    exact vinv_holder (s1 := { s with rl := _, committed := _ }) hi (hpc ▸ rfl) rfl rfl
      (show _ ++ _ = _ ++ _ ∧ _ from ⟨by rw [h1], h2, h3⟩)
  | fEnd1 hpc =>
    obtain ⟨h1, h2⟩ := h.vk_at hpc rfl
    refine vinv_holder hi (hpc ▸ rfl) (setVal_mtx ..) (setVal_pc ..) ?_
    simp [Pc.vk, VX, h1, h2]
  | @cpEndRb op l hpc | @fEnd2 op l hpc | @cpEndRf op l hpc =>
    have hv := h.vk_at hpc rfl
    refine vinv_holder hi (hpc ▸ rfl) (setVal_mtx ..) (setVal_pc ..) ⟨by simpa using hv.1, fun y => ?_⟩
    cases side_cases y l <;> subst y <;> simp [hv.2]
  | unlockRb hpc => exact vinv_unlock hi h (hpc ▸ rfl) rfl (.inl (by rw [hpc]; rfl))
  | unlockF2 hpc | unlockRf hpc => exact vinv_unlock hi h (hpc ▸ rfl) rfl (.inr ⟨_, by rw [hpc]; rfl⟩)
  | stCL => exact h.congr rfl rfl rfl rfl rfl rfl
  | cntWait | yld | fin | reRL | reCL | reCnt => exact h
  | _ => rename_i hpc; exact vinv_move h (hpc ▸ rfl) rfl

theorem vinv_reachable {s : St} (h : Reachable s) : Inv s ∧ VInv s := by
  obtain ⟨b, es, hes⟩ := h
  exact runFrom_inv (Inv := fun s => Inv s ∧ VInv s)
    (fun _ _ _ _ hi hst => ⟨inv_step hi.1 hst, vinv_step hi.1 hi.2 hst⟩) ⟨inv_init b, vinv_init b⟩ hes

/-- the side new readers are directed to always holds `committed` -/
theorem val_rl (hi : Inv s) (hv : VInv s) : s.val s.rl = s.committed := by
  cases hm : s.mtx with
  | none => exact hv.vquiet hm _
  | some w =>
    have hq : (s.pc w).post = true := (hi.holder w).2 hm
    cases hp : s.pc w with
    | wA | wF1 | wRbD | wF2d | wRfD => obtain ⟨v1, v2⟩ := hv.vk_at hp rfl; rw [v2, v1]
    | wF1d =>
      obtain ⟨p1, _⟩ := hi.phase_at hp rfl; obtain ⟨v1, v2, _⟩ := hv.vk_at hp rfl; rw [p1, v2, v1]
    | wRb | wRbC | wRf | wRfC =>
      obtain ⟨p1, _⟩ := hi.phase_at hp rfl; obtain ⟨v1, v2⟩ := hv.vk_at hp rfl; rw [p1, v2, v1]
    | wWait | wF2 =>
      obtain ⟨p1, _⟩ := hi.phase_at hp rfl; obtain ⟨v1, _, v3⟩ := hv.vk_at hp rfl; rw [p1, v3, v1]
    | _ => rw [hp] at hq; cases hq

/-- a held side holds `committed`, or — while the holder of the write mutex is between its flip of `rl` and its
second application — `committed` without its last element, the operation in progress -/
theorem held_val (hi : Inv s) (hv : VInv s) (hx : (s.pc r).held = some x) :
    s.val x = s.committed ∨
    ∃ w op l, s.mtx = some w ∧ (s.pc w).vk = .mid op l ∧ x = l ∧ s.val x ++ [op] = s.committed := by
  by_cases hxr : x = s.rl
  · subst hxr; exact .inl (val_rl hi hv)
  · obtain ⟨w, op, zL, zR, hm, hp, _⟩ := hi.held_off hx hxr
    obtain ⟨v1, v2, _⟩ := hv.vk_at hp rfl
    exact .inr ⟨w, op, x, hm, by rw [hp]; rfl, rfl, by rw [v2, v1]⟩

theorem held_val_le (hi : Inv s) (hv : VInv s) (hx : (s.pc r).held = some x) :
    s.val x <+: s.committed := by
  rcases held_val hi hv hx with h | ⟨_, op, _, _, _, _, h⟩
  · rw [h]; exact List.prefix_refl _
  · rw [← h]; exact List.prefix_append _ _

end ConcVerif.LR
