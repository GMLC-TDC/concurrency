import ConcVerif.Model.TripWire
/-! Invariant and helper lemmas for the TripWire model.

`Step` lists the accepted steps edge by edge (`Step.of_step`); every fact about one step is a case analysis
on it.  The invariant rests on one consequence (`step_lines`): a step either leaves the three per-line fields
(`line`, `msg`, `trips`) alone, or it is THE tripping store / exchange of a destructor that entered holding line
`l` — and then it changes these fields at `l` only. -/
namespace ConcVerif.TripWire

@[simp] theorem set_same {κ α : Type} [DecidableEq κ] (f : κ → α) (k : κ) (a : α) : set f k a k = a := by
  simp [set]

@[simp] theorem set_other {κ α : Type} [DecidableEq κ] (f : κ → α) (k x : κ) (a : α) (h : x ≠ k) :
    set f k a x = f x := by
  simp [set, h]

theorem set_apply {κ α : Type} [DecidableEq κ] (f : κ → α) (k x : κ) (a : α) :
    set f k a x = if x = k then a else f x := rfl

@[simp] theorem setPc_line (s : St) (t : Tid) (p : Pc) : (s.setPc t p).line = s.line := rfl
@[simp] theorem setPc_msg (s : St) (t : Tid) (p : Pc) : (s.setPc t p).msg = s.msg := rfl
@[simp] theorem setPc_trips (s : St) (t : Tid) (p : Pc) : (s.setPc t p).trips = s.trips := rfl
@[simp] theorem setPc_know (s : St) (t : Tid) (p : Pc) : (s.setPc t p).know = s.know := rfl
@[simp] theorem setPc_trig (s : St) (t : Tid) (p : Pc) : (s.setPc t p).trig = s.trig := rfl
@[simp] theorem setPc_det (s : St) (t : Tid) (p : Pc) : (s.setPc t p).det = s.det := rfl
@[simp] theorem setPc_data (s : St) (t : Tid) (p : Pc) : (s.setPc t p).data = s.data := rfl
@[simp] theorem setPc_nIdx (s : St) (t : Tid) (p : Pc) : (s.setPc t p).nIdx = s.nIdx := rfl
@[simp] theorem setPc_pc (s : St) (t : Tid) (p : Pc) : (s.setPc t p).pc = upd s.pc t p := rfl

theorem lookup_idx_ge {n k : Nat} (hk : n ≤ k) : lookup n (.idx k) = none := if_neg (Nat.not_lt.2 hk)

theorem setPc_setPc_self {s : St} {t : Tid} {p : Pc} (q : Pc) (hp : s.pc t = p) : (s.setPc t q).setPc t p = s := by
  have : upd (upd s.pc t q) t p = s.pc := by
    funext u
    rw [upd_apply, upd_apply]
    split
    · next hu => rw [hu, hp]
    · rfl
  cases s
  simp only [St.setPc, this]

/-- the line an atomic event is about -/
def Ev.line? : Ev → Option LineId
  | .ld l _ _ => some l
  | .st l _ _ => some l
  | .xchg l _ _ _ => some l
  | _ => none

def Ev.isWrite : Ev → Bool
  | .st _ _ _ => true
  | .xchg _ _ _ _ => true
  | _ => false

/-- `Step s t p e s'`: in state `s` thread `t`, at pc `p`, may perform `e`, and the state becomes `s'`.  One
constructor per branch of `step`; its guard is the constructor's hypotheses. -/
inductive Step (s : St) (t : Tid) : Pc → Ev → St → Prop
  | fork (h0 : t ≠ 0) (hf : t ∉ s.forked) :
      Step s t .idle .fork { s with forked := t :: s.forked, know := upd s.know t (s.know t ++ s.know 0) }
  | callMkT {id : Nat} {src : Src} (h : s.trig id = none) :
      Step s t .idle (.callMkT id src) (s.setPc t (.mkT id (lookup s.nIdx src)))
  | retMkTNone {id : Nat} : Step s t (.mkT id none) (.retMkT id none) (s.setPc t .idle)
  | retMkT {id : Nat} {l : LineId} :
      Step s t (.mkT id (some l)) (.retMkT id (some l)) ({ s with trig := set s.trig id (some (some l)) }.setPc t .idle)
  | callMkD {id : Nat} {src : Src} (h : s.det id = none) :
      Step s t .idle (.callMkD id src) (s.setPc t (.mkD id (lookup s.nIdx src)))
  | retMkDNone {id : Nat} : Step s t (.mkD id none) (.retMkD id none) (s.setPc t .idle)
  | retMkD {id : Nat} {l : LineId} :
      Step s t (.mkD id (some l)) (.retMkD id (some l)) ({ s with det := set s.det id (some l) }.setPc t .idle)
  | callMv {new old : Nat} (hn : s.trig new = none) (ho : (s.trig old).isSome = true) (hne : new ≠ old) :
      Step s t .idle (.callMv new old) (s.setPc t (.mv new old))
  | retMv {new old : Nat} {b : Option LineId} (hb : s.trig old = some b) :
      Step s t (.mv new old) (.retMv new old b none)
        ({ s with trig := set (set s.trig old (some none)) new (some b) }.setPc t .idle)
  | callAs {dst src : Nat} (hd : (s.trig dst).isSome = true) (hs : (s.trig src).isSome = true) :
      Step s t .idle (.callAs dst src) (s.setPc t (.as dst src))
  | retAsSelf {dst : Nat} {b : Option LineId} (hb : s.trig dst = some b) :
      Step s t (.as dst dst) (.retAs dst dst b b) (s.setPc t .idle)
  | retAs {dst src : Nat} {b : Option LineId} (hb : s.trig src = some b) (hne : dst ≠ src) :
      Step s t (.as dst src) (.retAs dst src b none)
        ({ s with trig := set (set s.trig src (some none)) dst (some b) }.setPc t .idle)
  | callCp {new old : Nat} (hn : s.det new = none) (ho : (s.det old).isSome = true) :
      Step s t .idle (.callCp new old) (s.setPc t (.cp new old))
  | retCp {new old : Nat} {l : LineId} (hl : s.det old = some l) :
      Step s t (.cp new old) (.retCp new old (some l) (some l)) ({ s with det := set s.det new (some l) }.setPc t .idle)
  | callRm {id : Nat} {b : Option LineId} (hb : s.trig id = some b) :
      Step s t .idle (.callRm id) ({ s with trig := set s.trig id none }.setPc t (.rm id b false))
  | trip {id : Nat} {l : LineId} {o : Ord} (ho : o.isRelease = true) :
      Step s t (.rm id (some l) false) (.st l o true) ((s.trip t l false).setPc t (.rm id (some l) true))
  | tripX {id : Nat} {l : LineId} {o : Ord} {old : Bool} (hold : old = s.line l) (ho : o.isRelease = true) :
      Step s t (.rm id (some l) false) (.xchg l o true old) ((s.trip t l true).setPc t (.rm id (some l) true))
  | retRm {id : Nat} {held : Option LineId} {done : Bool} (h : held = none ∨ done = true) :
      Step s t (.rm id held done) (.retRm id) (s.setPc t .idle)
  | callRd {id : Nat} (h : (s.det id).isSome = true) :
      Step s t .idle (.callRd id) ({ s with det := set s.det id none }.setPc t (.rd id))
  | retRd {id : Nat} : Step s t (.rd id) (.retRd id) (s.setPc t .idle)
  | callCk {d : Nat} {l : LineId} (hl : s.det d = some l) : Step s t .idle (.callCk d) (s.setPc t (.ck d l none))
  | load {d : Nat} {l : LineId} {seen : Option Bool} {o : Ord} {v : Bool} (ho : o.isAcquire = true)
      (hv : v = s.line l) :
      Step s t (.ck d l seen) (.ld l o v)
        ({ s with know := upd s.know t (s.know t ++ s.msg l) }.setPc t (.ck d l (some v)))
  | retCk {d : Nat} {l : LineId} {v : Bool} : Step s t (.ck d l (some v)) (.retCk d v) (s.setPc t .idle)
  | pwr {d v : Nat} (hv : v ≠ 0) (hk : s.data d = 0 ∨ (d, s.data d) ∈ s.know t) :
      Step s t .idle (.pwr d v) { s with data := set s.data d v, know := upd s.know t ((d, v) :: s.know t) }
  | prd {d v : Nat} (hv : v = s.data d) (hk : v = 0 ∨ (d, v) ∈ s.know t) : Step s t .idle (.prd d v) s

theorem Step.of_step {s s' : St} {t : Tid} {e : Ev} (hs : step s t e = some s') : Step s t (s.pc t) e s' := by
  unfold step at hs
  generalize s.pc t = p at hs ⊢
  -- one bullet per arm of the `match` in `step`, in that order
  split at hs
  · obtain ⟨⟨h0, hf⟩, rfl⟩ := ite_some hs; exact .fork h0 hf
  · obtain ⟨h, rfl⟩ := ite_some hs; exact .callMkT h
  next id r id' r' =>
    split at hs
    next hc =>
      obtain ⟨rfl, rfl⟩ := hc
      cases r' <;> cases hs
      · exact .retMkTNone
      · exact .retMkT
    · cases hs
  · obtain ⟨h, rfl⟩ := ite_some hs; exact .callMkD h
  next id r id' r' =>
    split at hs
    next hc =>
      obtain ⟨rfl, rfl⟩ := hc
      cases r' <;> cases hs
      · exact .retMkDNone
      · exact .retMkD
    · cases hs
  · obtain ⟨⟨hn, ho, hne⟩, rfl⟩ := ite_some hs; exact .callMv hn ho hne
  · split at hs
    next b hb => obtain ⟨⟨rfl, rfl, rfl, rfl⟩, rfl⟩ := ite_some hs; exact .retMv hb
    · cases hs
  · obtain ⟨⟨hd, hs'⟩, rfl⟩ := ite_some hs; exact .callAs hd hs'
  · split at hs
    next b hb =>
      split at hs
      next hc =>
        obtain ⟨rfl, rfl⟩ := hc
        split at hs
        next hds => subst hds; obtain ⟨⟨rfl, rfl⟩, rfl⟩ := ite_some hs; exact .retAsSelf hb
        next hds => obtain ⟨⟨rfl, rfl⟩, rfl⟩ := ite_some hs; exact .retAs hb hds
      · cases hs
    · cases hs
  · obtain ⟨⟨hn, ho⟩, rfl⟩ := ite_some hs; exact .callCp hn ho
  · split at hs
    next l hl => obtain ⟨⟨rfl, rfl, rfl, rfl⟩, rfl⟩ := ite_some hs; exact .retCp hl
    · cases hs
  · split at hs
    next b hb => cases hs; exact .callRm hb
    · cases hs
  · obtain ⟨⟨rfl, rfl, ho⟩, rfl⟩ := ite_some hs; exact .trip ho
  · obtain ⟨⟨rfl, rfl, hold, ho⟩, rfl⟩ := ite_some hs; exact .tripX hold ho
  · obtain ⟨⟨rfl, h⟩, rfl⟩ := ite_some hs; exact .retRm h
  · obtain ⟨h, rfl⟩ := ite_some hs; exact .callRd h
  · obtain ⟨rfl, rfl⟩ := ite_some hs; exact .retRd
  · split at hs
    next l hl => cases hs; exact .callCk hl
    · cases hs
  · obtain ⟨⟨rfl, ho, hv⟩, rfl⟩ := ite_some hs; exact .load ho hv
  · obtain ⟨⟨rfl, rfl⟩, rfl⟩ := ite_some hs; exact .retCk
  · obtain ⟨⟨hv, hk⟩, rfl⟩ := ite_some hs; exact .pwr hv hk
  · obtain ⟨⟨hv, hk⟩, rfl⟩ := ite_some hs; exact .prd hv hk
  · cases hs

theorem Step.to_step {s s' : St} {t : Tid} {p : Pc} {e : Ev} (h : Step s t p e s') (hp : s.pc t = p) :
    step s t e = some s' := by
  unfold step
  rw [hp]
  cases h with
  | prd hv hk => subst hv; exact if_pos ⟨rfl, hk⟩
  | _ => simp [*]

theorem Step.enabled {s s' : St} {t : Tid} {p : Pc} {e : Ev} (h : Step s t p e s') (hp : s.pc t = p) :
    (step s t e).isSome = true := by
  rw [h.to_step hp]; rfl

/-- the per-line fields are untouched -/
def SameLines (s s' : St) : Prop := s'.line = s.line ∧ s'.msg = s.msg ∧ s'.trips = s.trips

/-- the step of thread `t` is the tripping write of a destructor that entered holding `l` -/
structure IsTrip (s : St) (t : Tid) (e : Ev) (s' : St) (l : LineId) : Prop where
  pc : ∃ id, s.pc t = .rm id (some l) false ∧ s'.pc t = .rm id (some l) true
  ev : e.line? = some l ∧ e.isWrite = true
  line : s'.line = set s.line l true
  trips : s'.trips = set s.trips l ((t, s.know t) :: s.trips l)
  msg : ∀ w ∈ s.know t, w ∈ s'.msg l
  msgOther : ∀ j, j ≠ l → s'.msg j = s.msg j
  others : ∀ u, u ≠ t → s'.pc u = s.pc u

/-- the "store done" destructor pcs -/
def Pc.stored : Pc → Bool
  | .rm _ held done => done && held.isSome
  | _ => false

theorem stored_upd (s : St) (t : Tid) {p : Pc} (hp : p.stored = false) (u : Tid) :
    (upd s.pc t p u).stored = true → upd s.pc t p u = s.pc u :=
  upd_forall (P := fun u q => q.stored = true → q = s.pc u) (fun h => by rw [hp] at h; cases h) (fun _ _ _ => rfl) u

/-- characterisation of `step` with respect to the per-line fields -/
theorem step_lines {s s' : St} {t : Tid} {e : Ev} (hs : step s t e = some s') :
    (SameLines s s' ∧ ∀ u, (s'.pc u).stored = true → s'.pc u = s.pc u) ∨ ∃ l, IsTrip s t e s' l := by
  have h := Step.of_step hs
  generalize hp : s.pc t = p at h
  cases h with
  | trip =>
    exact .inr ⟨_, ⟨_, hp, upd_same _ _ _⟩, ⟨rfl, rfl⟩, rfl, rfl, fun w hw => by simpa [St.trip] using hw,
      fun j hj => set_other _ _ _ _ hj, fun u hu => upd_other _ _ _ _ hu⟩
  | tripX =>
    exact .inr ⟨_, ⟨_, hp, upd_same _ _ _⟩, ⟨rfl, rfl⟩, rfl, rfl, fun w hw => by simp [St.trip, hw],
      fun j hj => set_other _ _ _ _ hj, fun u hu => upd_other _ _ _ _ hu⟩
  | fork | pwr | prd => exact .inl ⟨⟨rfl, rfl, rfl⟩, fun _ _ => rfl⟩
  | _ => exact .inl ⟨⟨rfl, rfl, rfl⟩, stored_upd _ _ rfl⟩

/-! ## The invariant -/

structure Inv (s : St) : Prop where
  /-- a line is `true` exactly when some trigger destructor has stored to it -/
  tripped : ∀ l, s.line l = true ↔ s.trips l ≠ []
  /-- the view attached to a line contains what the latest storing thread knew at its store -/
  head : ∀ l t K rest, s.trips l = (t, K) :: rest → ∀ w ∈ K, w ∈ s.msg l
  /-- a destructor that has performed its store left the line tripped -/
  done : ∀ t id l, s.pc t = .rm id (some l) true → s.line l = true

theorem inv_init (n : Nat) : Inv (init n) :=
  ⟨fun l => by simp [init], fun l t K rest h => by simp [init] at h, fun t id l h => by simp [init] at h⟩

theorem inv_step {s s' : St} {t : Tid} {e : Ev} (h : Inv s) (hs : step s t e = some s') : Inv s' := by
  rcases step_lines hs with ⟨⟨hl, hm, ht⟩, hp⟩ | ⟨l, htr⟩
  · refine ⟨?_, ?_, ?_⟩
    · intro j; rw [hl, ht]; exact h.tripped j
    · intro j u K rest hj; rw [hm]; rw [ht] at hj; exact h.head j u K rest hj
    · intro u id j hu; rw [hl]; exact h.done u id j (hp u (by rw [hu]; rfl) ▸ hu)
  · refine ⟨?_, ?_, ?_⟩
    · intro j
      rw [htr.line, htr.trips]
      by_cases hj : j = l
      · subst hj; simp
      · simp [hj]; exact h.tripped j
    · intro j u K rest hj
      rw [htr.trips] at hj
      by_cases hjl : j = l
      · subst hjl
        simp at hj
        obtain ⟨⟨_, hK⟩, _⟩ := hj
        subst hK
        exact htr.msg
      · simp [hjl] at hj
        rw [htr.msgOther j hjl]
        exact h.head j u K rest hj
    · intro u id j hu
      rw [htr.line]
      by_cases hjl : j = l
      · subst hjl; simp
      · simp [hjl]
        by_cases hut : u = t
        · subst hut
          obtain ⟨id', _, hp'⟩ := htr.pc
          rw [hp'] at hu
          injection hu with _ h2
          injection h2 with h2
          exact absurd h2.symm hjl
        · rw [htr.others u hut] at hu
          exact h.done u id j hu

theorem inv_reachable {n : Nat} {s : St} (h : Reachable n s) : Inv s := by
  obtain ⟨es, hes⟩ := h
  exact runFrom_inv (fun _ _ _ _ hi hst => inv_step hi hst) (inv_init n) hes

/-! ## Monotonicity along steps and runs -/

section
variable {s s' : St} {t : Tid} {e : Ev} {n : Nat} {es : List (Tid × Ev)}

theorem line_mono_step (hs : step s t e = some s') (l : LineId)
    (hl : s.line l = true) : s'.line l = true := by
  rcases step_lines hs with ⟨⟨h1, _, _⟩, _⟩ | ⟨j, htr⟩
  · rw [h1]; exact hl
  · rw [htr.line, set_apply]; split <;> simp [hl]

theorem line_mono_run (hr : runFrom step s es = some s') (l : LineId)
    (hl : s.line l = true) : s'.line l = true :=
  runFrom_rel (R := fun a b => a.line l = true → b.line l = true) (fun _ h => h)
    (fun a b c (h1 : a.line l = true → b.line l = true) (h2 : b.line l = true → c.line l = true) h => h2 (h1 h))
    (fun _ _ _ _ hst h => line_mono_step hst l h) hr hl

theorem reachable_run (h : Reachable n s) (hr : runFrom step s es = some s') : Reachable n s' :=
  h.elim fun es0 h0 => ⟨es0 ++ es, runFrom_append_eq_some.2 ⟨s, h0, hr⟩⟩

theorem reachable_step (h : Reachable n s) (hs : step s t e = some s') : Reachable n s' :=
  h.elim fun es0 h0 => ⟨es0 ++ [(t, e)], runFrom_snoc_eq_some.2 ⟨s, h0, hs⟩⟩

theorem mem_upd {α : Type} {f : Tid → List α} {t u : Tid} {a : List α} {w : α} (hsub : w ∈ f t → w ∈ a)
    (hw : w ∈ f u) : w ∈ upd f t a u := by
  rw [upd_apply]; split
  · next hu => subst hu; exact hsub hw
  · exact hw

theorem know_mono_step (hs : step s t e = some s') (u : Tid) (w : Wr)
    (hw : w ∈ s.know u) : w ∈ s'.know u := by
  have h := Step.of_step hs
  generalize s.pc t = p at h
  cases h with
  | fork | load => exact mem_upd (List.mem_append_left _) hw
  | pwr => exact mem_upd (List.mem_cons_of_mem _) hw
  | _ => exact hw

theorem know_mono_run (hr : runFrom step s es = some s') (u : Tid) (w : Wr)
    (hw : w ∈ s.know u) : w ∈ s'.know u :=
  runFrom_rel (R := fun a b => w ∈ a.know u → w ∈ b.know u) (fun _ h => h)
    (fun a b c (h1 : w ∈ a.know u → w ∈ b.know u) (h2 : w ∈ b.know u → w ∈ c.know u) h => h2 (h1 h))
    (fun _ _ _ _ hst h => know_mono_step hst u w h) hr hw

theorem nIdx_step (hs : step s t e = some s') : s'.nIdx = s.nIdx := by
  have h := Step.of_step hs
  generalize s.pc t = p at h
  cases h <;> rfl

theorem nIdx_reachable {s : St} (h : Reachable n s) : s.nIdx = n := by
  obtain ⟨es, hes⟩ := h
  exact runFrom_rel (R := fun a b => b.nIdx = a.nIdx) (fun _ => rfl) (fun _ _ _ h1 h2 => by rw [h2, h1])
    (fun _ _ _ _ hst => nIdx_step hst) hes

/-! ## Inversion of the atomic events -/

theorem ld_inv {l : LineId} {o : Ord} {v : Bool} (hs : step s t (.ld l o v) = some s') :
    (∃ d seen, s.pc t = .ck d l seen ∧ s'.pc t = .ck d l (some v)) ∧ o.isAcquire = true ∧ v = s.line l ∧
      s'.know t = s.know t ++ s.msg l := by
  have h := Step.of_step hs
  generalize hp : s.pc t = p at h
  cases h with
  | load ho hv => exact ⟨⟨_, _, rfl, upd_same _ _ _⟩, ho, hv, upd_same _ _ _⟩

theorem st_inv {l : LineId} {o : Ord} {v : Bool} (hs : step s t (.st l o v) = some s') :
    (∃ id, s.pc t = .rm id (some l) false) ∧ o.isRelease = true ∧ v = true ∧
      s'.trips l = (t, s.know t) :: s.trips l ∧ s'.msg l = s.know t := by
  have h := Step.of_step hs
  generalize hp : s.pc t = p at h
  cases h with
  | trip ho => exact ⟨⟨_, rfl⟩, ho, rfl, set_same _ _ _, set_same _ _ _⟩

end

/-- A trigger constructor changes nothing until it returns; the only way out of it is the return that reports what
the lookup of its argument gave (`none` = the exception): an exception leaves the state exactly as it was before the
call, a line binds the new object to it without touching any line. -/
theorem mkT_continuation {n : Nat} {s s1 s2 : St} {t : Tid} {id : Nat} {src : Src} {e : Ev} (h : Reachable n s)
    (hc : step s t (.callMkT id src) = some s1) (h2 : step s1 t e = some s2) :
    e = .retMkT id (lookup n src) ∧
      match lookup n src with
      | none => s2 = s
      | some l => s2.trig id = some (some l) ∧ SameLines s s2 := by
  have hc := Step.of_step hc
  generalize hp : s.pc t = p at hc
  cases hc with
  | callMkT _ =>
    have h2 := Step.of_step h2
    rw [setPc_pc, upd_same, nIdx_reachable h] at h2
    generalize lookup n src = r at h2 ⊢
    cases h2 with
    | retMkTNone => exact ⟨rfl, setPc_setPc_self _ hp⟩
    | retMkT => exact ⟨rfl, set_same _ _ _, rfl, rfl, rfl⟩

end ConcVerif.TripWire
