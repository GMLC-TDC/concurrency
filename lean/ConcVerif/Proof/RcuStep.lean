import ConcVerif.Model.Rcu
/-! The transitions of `Model/Rcu.lean` as an inductive relation with one named constructor per
transition (`step_sound`: every accepted step of the executable `step` is one of them; its proof splits `step`
and lets `constructor` find the one that fits).  The invariant proofs do case analysis on this relation. -/
namespace ConcVerif.Rcu

/-- coarse classification of events (`C14_rcu_reg_measure` excepts the `plain` ones) -/
inductive EvKind | call | ret | exc | mlk | mul | alo | afl | con | des | fre | ald | ast | cas | plain
  deriving DecidableEq

def Ev.kind : Ev → EvKind
  | .call _ => .call | .ret _ => .ret | .exc _ => .exc | .mlk => .mlk | .mul => .mul | .alo .. => .alo | .afl _ => .afl
  | .conN .. => .con | .conR .. => .con | .des .. => .des | .fre .. => .fre | .ald .. => .ald | .ast .. => .ast
  | .cas .. => .cas | .pldDel .. => .plain | .pstDel .. => .plain | .pldData .. => .plain | .pstData .. => .plain
  | .pldZn .. => .plain | .pstZn .. => .plain

inductive Step (s : St) (t : Tid) : Ev → St → Prop
  -- client calls
  | callLock (w : Bool) (hpc : s.pc t = .idle) (hh : s.hnd t = .none) (hd : s.dt = false) :
      Step s t (.call (.lock w)) (s.setPc t (.called (.lock w)))
  | callRel (hpc : s.pc t = .idle) (hh : s.hnd t ≠ .none) : Step s t (.call .rel) (s.setPc t (.called .rel))
  | callBeg (hpc : s.pc t = .idle) (hh : s.hnd t ≠ .none) : Step s t (.call .beg) (s.setPc t (.called .beg))
  | callNxt (w : Bool) (r c : Nat) (hpc : s.pc t = .idle) (hh : s.hnd t = .reg w r) (hi : s.it t = some (some c)) :
      Step s t (.call .nxt) (s.setPc t (.called .nxt))
  | callDer (w : Bool) (r c : Nat) (hpc : s.pc t = .idle) (hh : s.hnd t = .reg w r) (hi : s.it t = some (some c)) :
      Step s t (.call .der) (s.setPc t (.called .der))
  | callPush (f em : Bool) (v : Int) (hpc : s.pc t = .idle) (hh : (s.hnd t).isW = true) :
      Step s t (.call (.push f em v)) (s.setPc t (.called (.push f em v)))
  | callErase (adv : Bool) (r c : Nat) (hpc : s.pc t = .idle) (hh : s.hnd t = .reg true r) (hi : s.it t = some (some c)) :
      Step s t (.call (.erase adv)) (s.setPc t (.called (.erase adv)))
  | callDtor (hpc : s.pc t = .idle) (hl : s.live = []) (hd : s.dt = false) :
      Step s t (.call .dtor) ({ s with dt := true }.setPc t (.called .dtor))
  | retLock (w : Bool) (hpc : s.pc t = .called (.lock w)) (hd : s.dt = false) :
      Step s t (.ret (.lock w)) ({ s with hnd := upd s.hnd t (.fresh w), live := t :: s.live }.setPc t .idle)
  | relFresh (w : Bool) (hpc : s.pc t = .called .rel) (hh : s.hnd t = .fresh w) :
      Step s t (.ret .rel) ((s.dropHnd t).setPc t .idle)
  | relSome (w : Bool) (r m : Nat) (o : Ord) (hpc : s.pc t = .called .rel) (hh : s.hnd t = .reg w r) (ho : o.isSc = true)
      (hv : (s.recs r).next = some m) : Step s t (.ald (.rnext r) o (some m)) (s.setPc t (.uOwner r (some m) m))
  | relNone (w : Bool) (r : Nat) (o : Ord) (hpc : s.pc t = .called .rel) (hh : s.hnd t = .reg w r) (ho : o.isSc = true)
      (hv : (s.recs r).next = none) : Step s t (.ald (.rnext r) o none) (s.setPc t (.uTrunc r))
  | dtorHead (o : Ord) (hpc : s.pc t = .called .dtor) (ho : o.isSc = true) :
      Step s t (.ald .head o s.head) (s.dNodeAt t s.head)
  | regAlo (k : Op) (w : Bool) (hpc : s.pc t = .called k) (hk : k = .beg ∨ ∃ f em v, k = .push f em v)
      (hh : s.hnd t = .fresh w) :
      Step s t (.alo true s.nR) (({ s with nR := s.nR + 1 }.setRled s.nR .alloc).setPc t (.regAlloc k s.nR))
  | regFail (k : Op) (w : Bool) (hpc : s.pc t = .called k) (hk : k = .beg ∨ ∃ f em v, k = .push f em v)
      (hh : s.hnd t = .fresh w) : Step s t (.afl true) (s.setPc t (.rExc k))
  | rExc (k : Op) (hpc : s.pc t = .rExc k) : Step s t (.exc k) (s.setPc t .idle)
  | beg (w : Bool) (r : Nat) (o : Ord) (hpc : s.pc t = .called .beg) (hh : s.hnd t = .reg w r) (ho : o.isSc = true) :
      Step s t (.ald .head o s.head) ({ s with it := upd s.it t (some s.head) }.setPc t (.retp .beg))
  | nxt (w : Bool) (r n : Nat) (o : Ord) (hpc : s.pc t = .called .nxt) (hh : s.hnd t = .reg w r)
      (hi : s.it t = some (some n)) (ho : o.isSc = true) :
      Step s t (.ald (.nnext n) o (s.nodes n).next) ({ s with it := upd s.it t (some (s.nodes n).next) }.setPc t (.retp .nxt))
  | der (w : Bool) (r n : Nat) (hpc : s.pc t = .called .der) (hh : s.hnd t = .reg w r) (hi : s.it t = some (some n)) :
      Step s t (.pldData n (s.nodes n).val) (s.setPc t (.retp .der))
  | pushLock (f em : Bool) (v : Int) (r : Nat) (hpc : s.pc t = .called (.push f em v)) (hh : s.hnd t = .reg true r)
      (hm : s.wmtx = none) : Step s t .mlk ({ s with wmtx := some t }.setPc t (.pAlloc (.push f em v)))
  | eraseLock (adv : Bool) (r c : Nat) (hpc : s.pc t = .called (.erase adv)) (hh : s.hnd t = .reg true r)
      (hi : s.it t = some (some c)) (hm : s.wmtx = none) :
      Step s t .mlk ({ s with wmtx := some t }.setPc t (.eOrig c adv))
  | ret (k : Op) (hpc : s.pc t = .retp k) : Step s t (.ret k) (s.setPc t .idle)
  -- pushing a record
  | regPst (k : Op) (r : Nat) (hpc : s.pc t = .regAlloc k r) : Step s t (.pstZn r true) s
  | regCon (k : Op) (r : Nat) (hpc : s.pc t = .regAlloc k r) :
      Step s t (.conR r (some t) none)
        (({ s with recs := upd s.recs r { next := none, owner := some t, znode := none } }.setRled r .cons).setPc t (.regCons k r))
  | regZh (k : Op) (r : Nat) (o : Ord) (v : Option Nat) (hpc : s.pc t = .regCons k r) :
      Step s t (.ald .zhead o v) (s.setPc t (.pushStore (.reg k) r v))
  | pushStore (c : Cont) (r : Nat) (exp : Option Nat) (o : Ord) (hpc : s.pc t = .pushStore c r exp) :
      Step s t (.ast (.rnext r) o exp) ((s.setRNext r exp).setPc t (.pushCas c r exp))
  | casRegOk (k : Op) (r : Nat) (o : Ord) (hpc : s.pc t = .pushCas (.reg k) r s.zhead) (ho : o.isSc = true) :
      Step s t (.cas o s.zhead (some r) true s.zhead)
        ({ s with zhead := some r, log := r :: s.log, hnd := upd s.hnd t (.reg (s.hnd t).isW r) }.setPc t (.called k))
  | casEraseOk (orig : Option Nat) (r : Nat) (o : Ord) (hpc : s.pc t = .pushCas (.erase orig) r s.zhead) (ho : o.isSc = true) :
      Step s t (.cas o s.zhead (some r) true s.zhead)
        ({ s with zhead := some r, log := r :: s.log }.setPc t (.eUnlock orig))
  | casFail (c : Cont) (r : Nat) (exp : Option Nat) (o : Ord) (hpc : s.pc t = .pushCas c r exp) (ho : o.isSc = true) :
      Step s t (.cas o exp (some r) false s.zhead) (s.setPc t (.pushStore c r s.zhead))
  -- release
  | uOwnerActive (r : Nat) (cached : Option Nat) (m : Nat) (o : Ord) (u : Tid) (hpc : s.pc t = .uOwner r cached m)
      (ho : o.isSc = true) (hv : (s.recs m).owner = some u) : Step s t (.ald (.rowner m) o (some u)) (s.setPc t (.uClear r))
  | uOwnerInactive (r : Nat) (cached : Option Nat) (m : Nat) (o : Ord) (hpc : s.pc t = .uOwner r cached m)
      (ho : o.isSc = true) (hv : (s.recs m).owner = none) : Step s t (.ald (.rowner m) o none) (s.setPc t (.uNext r cached m))
  | uNextSome (r : Nat) (cached : Option Nat) (m m2 : Nat) (o : Ord) (hpc : s.pc t = .uNext r cached m)
      (ho : o.isSc = true) (hv : (s.recs m).next = some m2) :
      Step s t (.ald (.rnext m) o (some m2)) (s.setPc t (.uOwner r cached m2))
  | uNextNone (r : Nat) (cached : Option Nat) (m : Nat) (o : Ord) (hpc : s.pc t = .uNext r cached m)
      (ho : o.isSc = true) (hv : (s.recs m).next = none) : Step s t (.ald (.rnext m) o none) (s.reapAt t r cached)
  | rZnNode (r m d : Nat) (hpc : s.pc t = .rZn r m) (hz : (s.recs m).znode = some d) :
      Step s t (.pldZn m false) (s.setPc t (.rDesN r m d))
  | rZnNull (r m : Nat) (hpc : s.pc t = .rZn r m) (hz : (s.recs m).znode = none) :
      Step s t (.pldZn m true) (s.setPc t (.rNext r m))
  | rDesN (r m d : Nat) (hpc : s.pc t = .rDesN r m d) : Step s t (.des false d) ((s.setNled d .dest).setPc t (.rFreN r m d))
  | rFreN (r m d : Nat) (hpc : s.pc t = .rFreN r m d) : Step s t (.fre false d) ((s.setNled d .freed).setPc t (.rNext r m))
  | rNext (r m : Nat) (o : Ord) (hpc : s.pc t = .rNext r m) (ho : o.isSc = true) :
      Step s t (.ald (.rnext m) o (s.recs m).next) (s.setPc t (.rDesZ r m (s.recs m).next))
  | rDesZ (r m : Nat) (nx : Option Nat) (hpc : s.pc t = .rDesZ r m nx) :
      Step s t (.des true m) ((s.setRled m .dest).setPc t (.rFreZ r m nx))
  | rFreZ (r m : Nat) (nx : Option Nat) (hpc : s.pc t = .rFreZ r m nx) :
      Step s t (.fre true m) ((s.setRled m .freed).reapAt t r nx)
  | uTrunc (r : Nat) (o : Ord) (hpc : s.pc t = .uTrunc r) (ho : o.isSc = true) :
      Step s t (.ast (.rnext r) o none) ((s.setRNext r none).setPc t (.uClear r))
  | uClear (r : Nat) (o : Ord) (hpc : s.pc t = .uClear r) (ho : o.isSc = true) :
      Step s t (.ast (.rowner r) o none) (((s.setOwner r none).dropHnd t).setPc t (.retp .rel))
  -- push
  | pAlo (k : Op) (hpc : s.pc t = .pAlloc k) :
      Step s t (.alo false s.nN) (({ s with nN := s.nN + 1 }.setNled s.nN .alloc).setPc t (.pCons k s.nN))
  | pAloFail (k : Op) (hpc : s.pc t = .pAlloc k) : Step s t (.afl false) (s.setPc t (.pThrown k))
  | pPstDel (f em : Bool) (x : Int) (n : Nat) (hpc : s.pc t = .pCons (.push f em x) n) : Step s t (.pstDel n false) s
  | pPstData (f em : Bool) (x : Int) (n : Nat) (hpc : s.pc t = .pCons (.push f em x) n) : Step s t (.pstData n x) s
  | pCon (f em : Bool) (x : Int) (n : Nat) (hpc : s.pc t = .pCons (.push f em x) n) :
      Step s t (.conN n x)
        (({ s with nodes := upd s.nodes n { next := none, back := none, deleted := false, val := x } }.setNled n .cons).setPc t
          (.pLoad (.push f em x) n))
  | pThrow (f em : Bool) (x : Int) (n : Nat) (hpc : s.pc t = .pCons (.push f em x) n) :
      Step s t (.fre false n) ((s.setNled n .freed).setPc t (.pThrown (.push f em x)))
  | pThrownMul (k : Op) (hpc : s.pc t = .pThrown k) (hm : s.wmtx = some t) :
      Step s t .mul ({ s with wmtx := none }.setPc t (.pExc k))
  | pExc (k : Op) (hpc : s.pc t = .pExc k) : Step s t (.exc k) (s.setPc t .idle)
  | pLoadFrontNone (em : Bool) (x : Int) (n : Nat) (o : Ord) (hpc : s.pc t = .pLoad (.push true em x) n) (ho : o.isSc = true)
      (hv : s.head = none) : Step s t (.ald .head o none) (s.setPc t (.pE1 (.push true em x) n))
  | pLoadFrontSome (em : Bool) (x : Int) (n h : Nat) (o : Ord) (hpc : s.pc t = .pLoad (.push true em x) n) (ho : o.isSc = true)
      (hv : s.head = some h) : Step s t (.ald .head o (some h)) (s.setPc t (.pF1 (.push true em x) n h))
  | pLoadBackNone (em : Bool) (x : Int) (n : Nat) (o : Ord) (hpc : s.pc t = .pLoad (.push false em x) n)
      (hv : s.tail = none) : Step s t (.ald .tail o none) (s.setPc t (.pE1 (.push false em x) n))
  | pLoadBackSome (em : Bool) (x : Int) (n h : Nat) (o : Ord) (hpc : s.pc t = .pLoad (.push false em x) n)
      (hv : s.tail = some h) : Step s t (.ald .tail o (some h)) (s.setPc t (.pB1 (.push false em x) n h))
  | pE1 (k : Op) (n : Nat) (o : Ord) (hpc : s.pc t = .pE1 k n) (ho : o.isSc = true) :
      Step s t (.ast .head o (some n)) ({ s with head := some n, lst := n :: s.lst, order := n :: s.order }.setPc t (.pE2 k n))
  | pE2 (k : Op) (n : Nat) (o : Ord) (hpc : s.pc t = .pE2 k n) (ho : o.isSc = true) :
      Step s t (.ast .tail o (some n)) ({ s with tail := some n }.setPc t (.pUnlock k))
  | pF1 (k : Op) (n h : Nat) (o : Ord) (hpc : s.pc t = .pF1 k n h) (ho : o.isSc = true) :
      Step s t (.ast (.nnext n) o (some h)) ((s.setNext n (some h)).setPc t (.pF2 k n h))
  | pF2 (k : Op) (n h : Nat) (o : Ord) (hpc : s.pc t = .pF2 k n h) (ho : o.isSc = true) :
      Step s t (.ast (.nback h) o (some n)) ((s.setBack h (some n)).setPc t (.pF3 k n))
  | pF3 (k : Op) (n : Nat) (o : Ord) (hpc : s.pc t = .pF3 k n) (ho : o.isSc = true) :
      Step s t (.ast .head o (some n)) ({ s with head := some n, lst := n :: s.lst, order := n :: s.order }.setPc t (.pUnlock k))
  | pB1 (k : Op) (n h : Nat) (o : Ord) (hpc : s.pc t = .pB1 k n h) (ho : o.isSc = true) :
      Step s t (.ast (.nback n) o (some h)) ((s.setBack n (some h)).setPc t (.pB2 k n h))
  | pB2 (k : Op) (n h : Nat) (o : Ord) (hpc : s.pc t = .pB2 k n h) (ho : o.isSc = true) :
      Step s t (.ast (.nnext h) o (some n))
        ({ (s.setNext h (some n)) with lst := s.lst ++ [n], order := s.order ++ [n] }.setPc t (.pB3 k n))
  | pB3 (k : Op) (n : Nat) (o : Ord) (hpc : s.pc t = .pB3 k n) (ho : o.isSc = true) :
      Step s t (.ast .tail o (some n)) ({ s with tail := some n }.setPc t (.pUnlock k))
  | pUnlock (k : Op) (hpc : s.pc t = .pUnlock k) (hm : s.wmtx = some t) :
      Step s t .mul ({ s with wmtx := none }.setPc t (.retp k))
  -- erase
  | eOrig (c : Nat) (adv : Bool) (o : Ord) (hpc : s.pc t = .eOrig c adv) (ho : o.isSc = true) :
      Step s t (.ald (.nnext c) o (s.nodes c).next) (s.setPc t (.eDel c (if adv = true then (s.nodes c).next else some c)))
  | eDelDeleted (c : Nat) (orig : Option Nat) (hpc : s.pc t = .eDel c orig) (hv : (s.nodes c).deleted = true) :
      Step s t (.pldDel c true) (s.setPc t (.eUnlock orig))
  | eDelFresh (c : Nat) (orig : Option Nat) (hpc : s.pc t = .eDel c orig) (hv : (s.nodes c).deleted = false) :
      Step s t (.pldDel c false) (s.setPc t (.eAlloc c orig))
  | eAlo (c : Nat) (orig : Option Nat) (hpc : s.pc t = .eAlloc c orig) :
      Step s t (.alo true s.nR) (({ s with nR := s.nR + 1 }.setRled s.nR .alloc).setPc t (.eCons c orig s.nR))
  | eAloFail (c : Nat) (orig : Option Nat) (hpc : s.pc t = .eAlloc c orig) :
      Step s t (.afl true) (s.setPc t (.pThrown (.erase true)))
  | ePst (c : Nat) (orig : Option Nat) (z : Nat) (hpc : s.pc t = .eCons c orig z) : Step s t (.pstZn z false) s
  | eCon (c : Nat) (orig : Option Nat) (z : Nat) (hpc : s.pc t = .eCons c orig z) :
      Step s t (.conR z none (some c))
        (({ s with recs := upd s.recs z { next := none, owner := none, znode := some c } }.setRled z .cons).setPc t (.eMark c orig z))
  | eMark (c : Nat) (orig : Option Nat) (z : Nat) (hpc : s.pc t = .eMark c orig z) :
      Step s t (.pstDel c true) ((s.setDel c true).setPc t (.eBack c orig z))
  | eBack (c : Nat) (orig : Option Nat) (z : Nat) (o : Ord) (hpc : s.pc t = .eBack c orig z) (ho : o.isSc = true) :
      Step s t (.ald (.nback c) o (s.nodes c).back) (s.setPc t (.eNext c orig (s.nodes c).back z))
  | eNext (c : Nat) (orig p : Option Nat) (z : Nat) (o : Ord) (hpc : s.pc t = .eNext c orig p z) (ho : o.isSc = true) :
      Step s t (.ald (.nnext c) o (s.nodes c).next) (s.setPc t (.eUnl c orig p (s.nodes c).next z))
  | eUnlPrev (c : Nat) (orig : Option Nat) (pp : Nat) (x : Option Nat) (z : Nat) (o : Ord)
      (hpc : s.pc t = .eUnl c orig (some pp) x z) (ho : o.isSc = true) :
      Step s t (.ast (.nnext pp) o x) ({ (s.setNext pp x) with lst := s.lst.erase c }.setPc t (.eFix c orig (some pp) x z))
  | eUnlHead (c : Nat) (orig x : Option Nat) (z : Nat) (o : Ord) (hpc : s.pc t = .eUnl c orig none x z) (ho : o.isSc = true) :
      Step s t (.ast .head o x) ({ s with head := x, lst := s.lst.erase c }.setPc t (.eFix c orig none x z))
  | eFixNext (c : Nat) (orig p : Option Nat) (xx z : Nat) (o : Ord) (hpc : s.pc t = .eFix c orig p (some xx) z)
      (ho : o.isSc = true) : Step s t (.ast (.nback xx) o p) ((s.setBack xx p).setPc t (.eZh orig z))
  | eFixTail (c : Nat) (orig p : Option Nat) (z : Nat) (o : Ord) (hpc : s.pc t = .eFix c orig p none z) (ho : o.isSc = true) :
      Step s t (.ast .tail o p) ({ s with tail := p }.setPc t (.eZh orig z))
  | eZh (orig : Option Nat) (z : Nat) (o : Ord) (v : Option Nat) (hpc : s.pc t = .eZh orig z) :
      Step s t (.ald .zhead o v) (s.setPc t (.pushStore (.erase orig) z v))
  | eUnlock (orig : Option Nat) (hpc : s.pc t = .eUnlock orig) (hm : s.wmtx = some t) :
      Step s t .mul ({ s with wmtx := none, it := upd s.it t (some orig) }.setPc t (.retp (.erase true)))
  -- destructor
  | dNext (m : Nat) (o : Ord) (hpc : s.pc t = .dNext m) (ho : o.isSc = true) :
      Step s t (.ald (.nnext m) o (s.nodes m).next) (s.setPc t (.dDesN m (s.nodes m).next))
  | dDesN (m : Nat) (nx : Option Nat) (hpc : s.pc t = .dDesN m nx) :
      Step s t (.des false m) ((s.setNled m .dest).setPc t (.dFreN m nx))
  | dFreN (m : Nat) (nx : Option Nat) (hpc : s.pc t = .dFreN m nx) :
      Step s t (.fre false m) ({ (s.setNled m .freed) with lst := s.lst.erase m }.dNodeAt t nx)
  | dZhead (o : Ord) (hpc : s.pc t = .dZhead) (ho : o.isSc = true) : Step s t (.ald .zhead o s.zhead) (s.dRecAt t s.zhead)
  | dOwner (m : Nat) (o : Ord) (hpc : s.pc t = .dOwner m) (ho : o.isSc = true) (hv : (s.recs m).owner = none) :
      Step s t (.ald (.rowner m) o none) (s.setPc t (.dRNext m))
  | dRNext (m : Nat) (o : Ord) (hpc : s.pc t = .dRNext m) (ho : o.isSc = true) :
      Step s t (.ald (.rnext m) o (s.recs m).next) (s.setPc t (.dZn m (s.recs m).next))
  | dZnNode (m : Nat) (nx : Option Nat) (d : Nat) (hpc : s.pc t = .dZn m nx) (hz : (s.recs m).znode = some d) :
      Step s t (.pldZn m false) (s.setPc t (.dDesZN m nx d))
  | dZnNull (m : Nat) (nx : Option Nat) (hpc : s.pc t = .dZn m nx) (hz : (s.recs m).znode = none) :
      Step s t (.pldZn m true) (s.setPc t (.dDesZ m nx))
  | dDesZNpld (m : Nat) (nx : Option Nat) (d : Nat) (hpc : s.pc t = .dDesZN m nx d) : Step s t (.pldZn m false) s
  | dDesZN (m : Nat) (nx : Option Nat) (d : Nat) (hpc : s.pc t = .dDesZN m nx d) :
      Step s t (.des false d) ((s.setNled d .dest).setPc t (.dFreZN m nx d))
  | dFreZNpld (m : Nat) (nx : Option Nat) (d : Nat) (hpc : s.pc t = .dFreZN m nx d) : Step s t (.pldZn m false) s
  | dFreZN (m : Nat) (nx : Option Nat) (d : Nat) (hpc : s.pc t = .dFreZN m nx d) :
      Step s t (.fre false d) ((s.setNled d .freed).setPc t (.dDesZ m nx))
  | dDesZ (m : Nat) (nx : Option Nat) (hpc : s.pc t = .dDesZ m nx) :
      Step s t (.des true m) ((s.setRled m .dest).setPc t (.dFreZ m nx))
  | dFreZ (m : Nat) (nx : Option Nat) (hpc : s.pc t = .dFreZ m nx) :
      Step s t (.fre true m) ((s.setRled m .freed).dRecAt t nx)

theorem step_sound {s s' : St} {t : Tid} {e : Ev} (h : step s t e = some s') : Step s t e s' := by
  unfold step at h
  split at h
  all_goals (repeat' split at h)
  all_goals (try contradiction)
  all_goals (injection h with h; subst h)
  all_goals (try (first
    | (rename_i hc; have ⟨h1, h2, h3, h4, h5⟩ := hc; clear hc)
    | (rename_i hc; have ⟨h1, h2, h3, h4⟩ := hc; clear hc)
    | (rename_i hc; have ⟨h1, h2, h3⟩ := hc; clear hc)
    | (rename_i hc; have ⟨h1, h2⟩ := hc; clear hc)
    | (rename_i hc _; have ⟨h1, h2, h3, h4, h5⟩ := hc; clear hc)
    | (rename_i hc _; have ⟨h1, h2, h3, h4⟩ := hc; clear hc)
    | (rename_i hc _; have ⟨h1, h2, h3⟩ := hc; clear hc)
    | (rename_i hc _; have ⟨h1, h2⟩ := hc; clear hc)
    | (rename_i hc _ _; have ⟨h1, h2, h3, h4, h5⟩ := hc; clear hc)
    | (rename_i hc _ _; have ⟨h1, h2, h3, h4⟩ := hc; clear hc)
    | (rename_i hc _ _; have ⟨h1, h2, h3⟩ := hc; clear hc)
    | (rename_i hc _ _; have ⟨h1, h2⟩ := hc; clear hc)))
  all_goals (try (have h6 := h5 rfl; clear h5))
  all_goals (try simp only [Bool.not_eq_true] at *)
  all_goals (try subst_vars)
  all_goals (try (constructor <;> first | assumption | (symm; assumption) | (simp_all; done)))
  all_goals first
    | exact Step.pB3 _ _ _ (by assumption) (by assumption)
    | exact Step.eOrig _ _ _ (by assumption) (by assumption)
    | exact Step.dFreZNpld _ _ _ (by assumption)
    | exact Step.pExc _ (by assumption)
    | exact Step.rExc _ (by assumption)
    | (rw [‹(s.recs _).znode = none›]
       first
       | exact Step.rZnNull _ _ (by assumption) (by assumption)
       | exact Step.dZnNull _ _ (by assumption) (by assumption))
    | (obtain ⟨rfl, rfl⟩ := ‹_ ∧ _›
       rw [‹(s.recs _).znode = some _›]
       first
       | exact Step.rZnNode _ _ _ (by assumption) (by assumption)
       | exact Step.dZnNode _ _ _ (by assumption) (by assumption))
    | (obtain ⟨h1, h2, h3, h4, h5⟩ := ‹_ ∧ _›
       have h6 := h5 rfl
       subst_vars
       first
       | exact Step.casRegOk _ _ _ (by assumption) (by assumption)
       | exact Step.casEraseOk _ _ _ (by assumption) (by assumption))

end ConcVerif.Rcu
