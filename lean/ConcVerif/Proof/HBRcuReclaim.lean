import ConcVerif.Proof.HBRcuPub
/-! rcu_list and happens-before, part 5: reclamation of list nodes.

`owner` of a record is stored to at most once (`m_zombie->owner.store(nullptr)` at the end of `rcu_guard::unlock`;
`ST`, `UC`), so a thread that has loaded `owner == nullptr` of a record knows that store and everything ordered
before it (`SK`).  The reclamation invariant `TN`: every access to a node that is not yet freed is *covered*:

* `fresh`  — the node has never been linked and the access is published through the write mutex; or
* `open_`  — a registered thread (an open read / write section) knows the access and the node is protected for its record; or
* `closed` — the access is ordered before the store that cleared `owner` of a record that is still on the log, and the
             node is protected for that record; or
* `reaped` — the thread in the reclaim phase knows the access, and the node is protected for its record or named by a
             zombie record below it / the one it has just taken off the log.

Hence the destruction / deallocation of a node a step performs happens-after every access to it (`node_end_last`). -/
namespace ConcVerif.Rcu
open HB (HBeq Kn)

variable {w : Ords} {sel : Bool} {es : List (Tid × Ev)} {s s' : St} {t : Tid} {e : Ev} {i d : Nat}

/-- `ST` a record whose `owner` has been stored to is inactive and constructed (its ledger is past `alloc`) -/
def ST (es : List (Tid × Ev)) (s : St) : Prop :=
  ∀ (q : Nat) (y : Tid) (x : Nat) (o : Ord) (v : Option Nat), es[q]? = some (y, Ev.ast (.rowner x) o v) →
    (s.recs x).owner = none ∧ s.rled x ≠ .none ∧ s.rled x ≠ .alloc

/-- `UC` at most one store to the `owner` of a record -/
def UC (es : List (Tid × Ev)) : Prop :=
  ∀ (q q' : Nat) (y y' : Tid) (x : Nat) (o o' : Ord) (v v' : Option Nat), es[q]? = some (y, Ev.ast (.rowner x) o v) →
    es[q']? = some (y', Ev.ast (.rowner x) o' v') → q = q'

theorem ST_step (hi : Inv s) (hled : ∀ z b, s'.led z b = s.led z b ∨ LedNext (s.led z b) (s'.led z b))
    (h : ST es s) (hS : Step s t e s') : ST (es ++ [(t, e)]) s' := by
  intro q y x o v hq
  rcases HB.lq_snoc hq with ⟨_, hq'⟩ | ⟨_, hp⟩
  · obtain ⟨h1, h2, h3⟩ := h q y x o v hq'
    exact ⟨owner_keep hi hS h1 h3, (LedNext.keep (hled true x)).2 h2 h3⟩
  · injection hp with h1 h2; subst h1; subst h2
    obtain ⟨_, _, _, h4, h5, _, _⟩ := uClear_facts hi hS
    have hk := (LedNext.keep (hled true x)).2 (by rw [show s.led true x = _ from h4]; simp) (by rw [show s.led true x = _ from h4]; simp)
    exact ⟨h5, hk⟩

theorem UC_step (hi : Inv s) (hst : ST es s) (h : UC es)
    (hS : Step s t e s') : UC (es ++ [(t, e)]) := by
  have key : ∀ (q : Nat) (y : Tid) (x : Nat) (o o' : Ord) (v v' : Option Nat), es[q]? = some (y, Ev.ast (.rowner x) o v) →
      e = .ast (.rowner x) o' v' → False := by
    intro q y x o o' v v' hq he
    subst he
    have h1 := (hst q y x o v hq).1
    have h2 := (uClear_facts hi hS).2.2.1
    rw [h1] at h2; cases h2
  intro q q' y y' x o o' v v' hq hq'
  rcases HB.lq_snoc hq with ⟨hl, hq1⟩ | ⟨hl, hp⟩
  · rcases HB.lq_snoc hq' with ⟨_, hq2⟩ | ⟨_, hp'⟩
    · exact h q q' y y' x o o' v v' hq1 hq2
    · injection hp' with _ h2
      exact (key q y x o o' v v' hq1 h2.symm).elim
  · rcases HB.lq_snoc hq' with ⟨_, hq2⟩ | ⟨hl', _⟩
    · injection hp with _ h2
      exact (key q' y' x o' o v' v hq2 h2.symm).elim
    · omega

theorem sw_owner (hw : w.OK) (hscd : SCD es) (huc : UC es) {x : Nat} {q : Nat}
    {y t : Tid} {o o' : Ord} {v v' : Option Nat} (hq : es[q]? = some (y, .ast (.rowner x) o v)) (ho' : o'.isSc = true) :
    HB.Sw (hbTrace w sel es ++ [(t, toHB w sel (.ald (.rowner x) o' v'))]) q (hbTrace w sel es).length := by
  refine sw_st_ld hw.stOwner hw.ldOwner hq (hscd.1 q y _ o v hq (.inr ⟨x, rfl⟩)) ho' ?_
  intro k z o2 v2 hk hc
  have := huc q k y z x o o2 v v2 hq hc
  omega

def SK (w : Ords) (sel : Bool) (es : List (Tid × Ev)) (s : St) : Prop :=
  ∀ (t : Tid) (x : Nat), Scanned s t x → ∀ (q : Nat) (y : Tid) (o : Ord) (v : Option Nat),
    es[q]? = some (y, Ev.ast (.rowner x) o v) → Kn (hbTrace w sel es) t q

theorem SK_step (hw : w.OK) {t : Tid} {e : Ev}
    (hi : Inv s) (hi' : Inv s') (hnd : inDtor (s.pc t) = false) (hscd : SCD es) (huc : UC es) (h : SK w sel es s)
    (hS : Step s t e s') : SK w sel (es ++ [(t, e)]) s' := by
  intro u x hsc q y o v hq
  rcases HB.lq_snoc hq with ⟨_, hq'⟩ | ⟨_, hp⟩
  · rcases scanned_step hi hi' hS hnd hsc with h1 | ⟨h1, o', h2, h3⟩
    · exact kn_app _ (h u x h1 q y o v hq')
    · subst h1; subst h2
      rw [hbTrace_snoc]
      exact .of_sw (.inl rfl) (sw_owner hw hscd huc hq' h3)
  · injection hp with h1 h2; subst h1; subst h2
    exfalso
    have hf := uClear_facts hi hS
    rcases scanned_step hi hi' hS hnd hsc with h1 | ⟨_, o', h2, _⟩
    · have := scanned_inactive hi h1
      rw [hf.2.2.1] at this; cases this
    · cases h2


def InScope (s : St) (t : Tid) (a d : Nat) : Prop :=
  ∃ z, (s.recs z).znode = some d ∧ (z ∈ Below s.log a ∨ privRec (BView (s.pc t)) = some z)

inductive Cover (w : Ords) (sel : Bool) (es : List (Tid × Ev)) (s : St) (i d : Nat) : Prop
  | fresh (h1 : d ∉ s.order) (h2 : Pub w sel es s.wmtx i)
  | open_ (v : Tid) (b : Bool) (x : Nat) (h1 : s.hnd v = .reg b x) (h2 : Safe s.eview x d) (h3 : Kn (hbTrace w sel es) v i)
  | closed (x q : Nat) (y : Tid) (o : Ord) (v : Option Nat) (h1 : es[q]? = some (y, Ev.ast (.rowner x) o v))
      (h2 : HBeq (hbTrace w sel es) i q) (h3 : x ∈ s.log) (h4 : Safe s.eview x d)
  | reaped (t : Tid) (a : Nat) (h1 : reaper (BView (s.pc t)) = some a) (h2 : Kn (hbTrace w sel es) t i)
      (h3 : Safe s.eview a d ∨ InScope s t a d)

def TN (w : Ords) (sel : Bool) (es : List (Tid × Ev)) (s : St) : Prop :=
  ∀ (i : Nat) (u : Tid) (e : Ev) (d : Nat), es[i]? = some (u, e) → e.nodeAcc = some d → s.nled d ≠ .freed →
    Cover w sel es s i d

theorem Pub_step {i : Nat} (h : Pub w sel es s.wmtx i) (hS : Step s t e s') :
    Pub w sel (es ++ [(t, e)]) s'.wmtx i := by
  rcases wmtx_cases hS with h0 | ⟨he, h1, h2⟩ | ⟨he, h1, h2⟩
  · rw [h0]; exact h.mono _
  · rw [he, h2]; exact (h1 ▸ h).lock t
  · rw [he, h2]; exact (h1 ▸ h).unlock

theorem cover_fresh (hi : Inv s) (hS : Step s t e s') (h1 : d ∉ s.order)
    (h2 : Pub w sel es s.wmtx i) : Cover w sel (es ++ [(t, e)]) s' i d := by
  by_cases hd' : d ∈ s'.order
  · obtain ⟨g1, g2, g3, _⟩ := link_facts hi hS h1 hd'
    obtain ⟨r, hr⟩ := hi.a.wrW t ((hi.a.wm t).2 g1)
    rw [g1] at h2
    refine .open_ t true r (by rw [g3]; exact hr) (.inl g2) ?_
    exact kn_app _ h2
  · exact .fresh hd' (Pub_step h2 hS)

theorem cover_open (hi : Inv s) (hi' : Inv s') (hnd : inDtor (s.pc t) = false) (hS : Step s t e s') {v : Tid} {b : Bool}
    {x : Nat} (h1 : s.hnd v = .reg b x) (h2 : Safe s.eview x d) (h3 : Kn (hbTrace w sel es) v i) :
    Cover w sel (es ++ [(t, e)]) s' i d := by
  by_cases hreg : s'.hnd v = .reg b x
  · exact .open_ v b x hreg (safe_step_active hi hi' hS hnd h1 hreg h2) (kn_app _ h3)
  · obtain ⟨g1, ⟨o, g2⟩, g3, _⟩ := unreg_cases hi hS h1 hreg
    subst g1; subst g2
    have ox := (hi.b.own1 v b x h1).1
    have ox' : x ∈ s'.log := by rw [g3]; exact ox
    refine .closed x es.length v o none (HB.lq_last _ _) (hbeq_own _ h3) ox' ?_
    rcases safe_step hi hS hnd ox ox' h2 with g | ⟨_, _, k, _⟩
    · exact g
    · exact (k.ast _ _ _ rfl).elim

theorem cover_closed (hi : Inv s) (hzo : ZO s) (hnd : inDtor (s.pc t) = false) (hS : Step s t e s')
    (hSK : SK w sel es s) (hSK' : SK w sel (es ++ [(t, e)]) s') {x q : Nat} {y : Tid} {o : Ord} {v : Option Nat}
    (h1 : es[q]? = some (y, Ev.ast (.rowner x) o v)) (h2 : HBeq (hbTrace w sel es) i q) (h3 : x ∈ s.log)
    (h4 : Safe s.eview x d) : Cover w sel (es ++ [(t, e)]) s' i d := by
  have hnodup : s.log.Nodup := hi.b.logNd
  have h1' := HB.lq_mono [(t, e)] h1
  have h2' := hbeq_app [(t, e)] h2
  by_cases hx' : x ∈ s'.log
  · rcases safe_step hi hS hnd h3 hx' h4 with g | ⟨a, z, k, g4, g5⟩
    · exact .closed x q y o v h1' h2' hx' g
    · -- the zombie record naming `d` is taken off the log: its taker has scanned `x`
      obtain ⟨hr, hxa'⟩ := k.below hi g5
      exact .reaped t a hr (Kn.of_hbeq h2' (hSK' t x (scanned_of_reaper hr hxa') q y o v h1'))
        (.inr ⟨z, by rw [k.recs]; exact g4, .inr k.holds⟩)
  · -- `x` itself is taken off the log
    obtain ⟨a, k⟩ := taken_facts hi hS hnd h3 hx'
    have hl := k.log
    have hk : Kn (hbTrace w sel (es ++ [(t, e)])) t i := by
      refine Kn.of_hbeq h2' ?_
      exact kn_app _ (hSK t x k.scanned q y o v h1)
    have oa := k.own hi
    have hxa := head_mem_below k.head
    have hax : a ≠ x := by intro hc; rw [hc] at hxa; exact not_mem_below_self hnodup hxa
    refine .reaped t a k.reaps hk (.inl ?_)
    rw [safe_iff] at h4 ⊢
    rcases h4 with g | ⟨u, g⟩ | ⟨z, g1, g2, g3⟩
    · exact .inl (by rw [k.lst]; exact g)
    · rcases pend_step hi hS hnd g with ⟨u', g'⟩ | ⟨z, o', a', c', g', _⟩
      · exact .inr (.inl ⟨u', g'⟩)
      · exact (k.cas _ _ _ _ _ g').elim
    · have hzx : z ≠ x := by intro hc; rw [hc] at g3; exact not_mem_below_self hnodup g3
      have hza : z ≠ a := by
        intro hc; subst hc
        have := hzo z (by rw [g2]; simp)
        rw [oa.2] at this; cases this
      rcases below_total g1 oa.1 hza with g4 | g4
      · exfalso
        rcases mem_below_cases hnodup k.head g4 with g5 | g5
        · exact hzx g5
        · exact below_antisymm hnodup g5 g3
      · refine .inr (.inr ⟨z, ?_, by rw [k.recs]; exact g2, ?_⟩)
        · rw [hl]; exact (List.mem_erase_of_ne hzx).2 g1
        · rw [hl, below_erase hnodup hzx]; exact (List.mem_erase_of_ne hax).2 g4

theorem cover_reaped (hi : Inv s) (hi' : Inv s') (hnd : inDtor (s.pc t) = false) (hS : Step s t e s')
    (hd : s.nled d ≠ .freed) {t0 : Tid} {a : Nat} (h1 : reaper (BView (s.pc t0)) = some a)
    (h2 : Kn (hbTrace w sel es) t0 i) (h3 : Safe s.eview a d ∨ InScope s t0 a d) :
    Cover w sel (es ++ [(t, e)]) s' i d := by
  have h2' := kn_app [(t, e)] h2
  have ha := (reaper_facts hi h1).1
  obtain ⟨b, hb⟩ := hi.a.myr t0 a (reaper_myRec h1)
  rcases reaper_step hS hnd h1 with hr | ⟨g1, g2, g3, g4, _⟩
  · have ha' := (reaper_facts hi' hr).1
    -- whoever takes a record off the log in this step is the reclaimer `t0` itself
    have taker : ∀ {a1 z}, Taken s s' t e a1 z → t = t0 := fun k => reaper_unique hi' k.reaps hr
    refine .reaped t0 a hr h2' ?_
    rcases h3 with h3 | ⟨z0, k1, k2⟩
    · rcases safe_step hi hS hnd ha ha' h3 with g | ⟨a1, z, k, _, g5⟩
      · exact .inl g
      · obtain rfl := taker k
        obtain ⟨hr1, hb⟩ := k.below hi g5
        obtain rfl : a1 = a := Option.some.inj (hr1.symm.trans hr)
        exact (not_mem_below_self hi'.b.logNd hb).elim
    · right
      have hzn : (s'.recs z0).znode = (s.recs z0).znode := by
        by_cases htt : t = t0
        · subst htt; exact zn_reaper hS h1 z0
        · apply zn_frame hS
          intro hc
          rcases k2 with k2 | k2
          · exact (hi.b.privOk t z0 hc).1 (mem_of_mem_below k2)
          · exact htt (hi.b.privUq t t0 z0 hc k2)
      refine ⟨z0, by rw [hzn]; exact k1, ?_⟩
      rcases k2 with k2 | k2
      · by_cases hz' : z0 ∈ s'.log
        · exact .inl (below_keep hi hS hnd ha ha' k2 hz')
        · obtain ⟨a1, k⟩ := taken_facts hi hS hnd (mem_of_mem_below k2) hz'
          obtain rfl := taker k
          exact .inr k.holds
      · by_cases htt : t = t0
        · subst htt
          rcases priv_reaper_step hS h1 k2 with g | ⟨⟨nx, g⟩, _⟩
          · exact .inr g
          · exfalso
            have held := hi.d.held t
            simp only [dview_vpc, g, DView, HeldP, dview_zn, dview_nled] at held
            exact hd (held d k1)
        · right; rw [hS.pc_other (Ne.symm htt)]; exact k2
  · -- the reclaimer has nothing left below its record: it is an ordinary open section again
    subst g1
    have hre := hi.b.reap t0
    simp only [bview_vpc, g2, BView, ReapP, bview_log] at hre
    have hsafe : Safe s.eview a d := by
      rcases h3 with h3 | ⟨z0, _, k2⟩
      · exact h3
      · exfalso
        rcases k2 with k2 | k2
        · rw [hre.2] at k2; simp at k2
        · simp [g2, BView, privRec] at k2
    have hb' : s'.hnd t0 = .reg b a := by rw [g4]; exact hb
    exact .open_ t0 b a hb' (safe_step_active hi hi' hS hnd hb hb' hsafe) h2'

theorem TN_step (hx : InvX s) (hi' : Inv s') (hzo : ZO s) (hnd : inDtor (s.pc t) = false)
    (hled : ∀ z b, s'.led z b = s.led z b ∨ LedNext (s.led z b) (s'.led z b)) (hSK : SK w sel es s)
    (hSK' : SK w sel (es ++ [(t, e)]) s') (h : TN w sel es s) (hS : Step s t e s') : TN w sel (es ++ [(t, e)]) s' := by
  have hi := hx.i
  intro j u e' d hj hacc hd'
  rcases HB.lq_snoc hj with ⟨_, hj'⟩ | ⟨hl, hp⟩
  · have hd : s.nled d ≠ .freed := fun hc => hd' ((LedNext.keep (hled false d)).1 hc)
    cases h j u e' d hj' hacc hd with
    | fresh h1 h2 => exact cover_fresh hi hS h1 h2
    | open_ v b x h1 h2 h3 => exact cover_open hi hi' hnd hS h1 h2 h3
    | closed x q y o v h1 h2 h3 h4 => exact cover_closed hi hzo hnd hS hSK hSK' h1 h2 h3 h4
    | reaped t0 a h1 h2 h3 => exact cover_reaped hi hi' hnd hS hd h1 h2 h3
  · injection hp with g1 g2; subst g1; subst g2; subst hl
    obtain ⟨k1, k2, k3, k4⟩ := touch_keep hi hS hacc
    rcases touch_safe hx hS hnd hacc with ⟨g1, g2⟩ | ⟨b, x, g1, g2⟩
    · refine .fresh (k4 g1) ?_
      rw [k3, g2]; exact Pub.self es u e'
    · have hb' : s'.hnd u = .reg b x := by rw [k1]; exact g1
      exact .open_ u b x hb' (safe_step_active hi hi' hS hnd g1 hb' g2) (.self (hbTrace_get (HB.lq_last _ _)))

theorem node_end_last (hx : InvX s) (hdt : s.dt = false) (h : TN w sel es s) (hS : Step s t e s') (hend : e.nodeEnd = some d)
    {u : Tid} {ei : Ev} (hq : es[i]? = some (u, ei)) (hacc : ei.nodeAcc = some d) :
    HB.HB (hbTrace w sel (es ++ [(t, e)])) i es.length := by
  have hi := hx.i
  have hnd := hi.a.not_inDtor hdt t
  have hil := HB.lq_lt hq
  have fin : Kn (hbTrace w sel es) t i → HB.HB (hbTrace w sel (es ++ [(t, e)])) i es.length := fun hk => hb_last e hk hil
  have held := hi.d.held t
  simp only [dview_vpc] at held
  -- the reclaimer's case: `d` is named by the zombie record `m` it holds privately
  have reap : ∀ a m, reaper (BView (s.pc t)) = some a → privRec (BView (s.pc t)) = some m → privLed (BView (s.pc t)) = .cons →
      (s.recs m).znode = some d → s.nled d ≠ .freed → HB.HB (hbTrace w sel (es ++ [(t, e)])) i es.length := by
    intro a m hr hp hl hz hd
    have hc : s.rled m = .cons := priv_live hi hp hl
    cases h i u ei d hq hacc hd with
    | fresh h1 _ => exact (h1 (hi.d.znOrd m d hz)).elim
    | open_ v b x _ h2 _ => exact (not_safe_private hi hr hp hc hz x h2).elim
    | closed x q y o v _ _ _ h4 => exact (not_safe_private hi hr hp hc hz x h4).elim
    | reaped t0 a0 h1 h2 _ =>
      have := reaper_unique hi h1 hr
      subst this; exact fin h2
  induction hS with
  | rDesN r m _ hpc | rFreN r m _ hpc =>
    cases hend
    rw [hpc] at held
    exact reap r m (by rw [hpc]; rfl) (by rw [hpc]; rfl) (by rw [hpc]; rfl) held.1 (by rw [show s.nled _ = _ from held.2]; exact Led.noConfusion)
  | pThrow _ _ _ n hpc =>
    obtain rfl : n = d := Option.some.inj hend
    rw [hpc] at held
    have wr := hi.c.wr t
    rw [cview_vpc, hpc] at wr
    have hm := (hi.a.wm t).1 (by rw [hpc]; rfl)
    cases h i u ei n hq hacc (by rw [show s.nled n = _ from held]; exact Led.noConfusion) with
    | fresh _ h2 => rw [hm] at h2; exact fin h2
    | open_ v b x _ h2 _ => exact (not_safe_fresh hx wr.1 x h2).elim
    | closed x q y o v _ _ _ h4 => exact (not_safe_fresh hx wr.1 x h4).elim
    | reaped t0 a0 h1 _ h3 =>
      exfalso
      rcases h3 with h3 | ⟨z, h3, _⟩
      · exact not_safe_fresh hx wr.1 a0 h3
      · exact wr.1 (hi.d.znOrd z n h3)
  | _ => cases hend <;> exact dtor_edge hnd ‹_› rfl

structure HInvC (w : Ords) (sel : Bool) (es : List (Tid × Ev)) (s : St) : Prop where
  base : HInv w sel es s
  st : ST es s
  uc : UC es
  sk : SK w sel es s
  tn : TN w sel es s

theorem hinvC_init (w : Ords) (sel : Bool) : HInvC w sel [] init := by
  refine ⟨hinv_init w sel, ?_, ?_, ?_, ?_⟩
  · intro q y x o v hq; simp at hq
  · intro q q' y y' x o o' v v' hq; simp at hq
  · intro t x _ q y o v hq; simp at hq
  · intro i u e d hi; simp at hi

theorem hinvC_step (hw : w.OK) {t : Tid} {e : Ev}
    (hx : InvX s) (hi' : Inv s') (hzo : ZO s) (hdt : s.dt = false)
    (hled : ∀ z b, s'.led z b = s.led z b ∨ LedNext (s.led z b) (s'.led z b)) (h : HInvC w sel es s) (hS : Step s t e s') :
    HInvC w sel (es ++ [(t, e)]) s' := by
  have hi := hx.i
  have hnd := hi.a.not_inDtor hdt t
  have hsk := SK_step hw hi hi' hnd h.base.scd h.uc h.sk hS
  exact ⟨hinv_step hw hi hi' hdt h.base hS, ST_step hi hled h.st hS, UC_step hi h.st h.uc hS, hsk,
    TN_step hx hi' hzo hnd hled h.sk hsk h.tn hS⟩

end ConcVerif.Rcu
