import ConcVerif.Proof.CowRel
import ConcVerif.Proof.CowLR
/-! Frame facts about single steps of the cow model (no invariant needed): who can change what. -/
namespace ConcVerif.Cow
open ConcVerif.LR (lk LK Side)

variable {s s' : St} {t : Tid} {e : Ev}

/-- thread `t` makes zero or more steps of the left-right model -/
inductive LRStar (t : Tid) : LR.St → LR.St → Prop
  | refl (a : LR.St) : LRStar t a a
  | step {a b c : LR.St} {e : LR.Ev} : LR.step a t e = some b → LRStar t b c → LRStar t a c

theorem LRStar.one {t : Tid} {a b : LR.St} {e : LR.Ev} (h : LR.step a t e = some b) : LRStar t a b := .step h (.refl b)

theorem lrGot_star {k : Nat} {x : Side} {l : LR.St} (h : lrGot s t k x = some l) : LRStar t s.lr l := by
  simp only [lrGot, Option.bind_eq_some_iff] at h
  obtain ⟨l1, h1, h2⟩ := h
  exact .step h1 (.one h2)

theorem lrRel_star {c : Side} {old : Nat} {l : LR.St} (h : lrRel s t c old = some l) : LRStar t s.lr l := by
  simp only [lrRel, Option.bind_eq_some_iff] at h
  obtain ⟨l2, ⟨l1, h1, h2⟩, h3⟩ := h
  exact .step h1 (.step h2 (.one h3))

theorem lrRd_star {s : St} {t : Tid} {x : Side} {l : LR.St} (h : lrRd s t x = some l) : LRStar t s.lr l := .one h

/-- split an accepted step `hs : step s t e = some s'` by pc and event, unfold the per-pc step function (dead
combinations disappear), run `tac` on every surviving arm -/
macro "cow_step_cases " hs:ident e:ident " => " tac:tactic : tactic => `(tactic|
  (unfold step at $hs:ident
   split at $hs:ident <;>
   (cases $e:ident with
    | call c => cases c <;> (try simp [stepIdle, stepRdA, stepRdH, stepRdP, stepRdD, stepDr, stepLkCalled, stepLkA, stepLkH, stepLkC,
        stepLkD, stepLkT, stepLkTD, stepLkExc, stepWHold, stepRelA, stepRelB, stepRelC, stepRelU, stepCn] at $hs:ident) <;> $tac
    | ret c => cases c <;> (try simp [stepIdle, stepRdA, stepRdH, stepRdP, stepRdD, stepDr, stepLkCalled, stepLkA, stepLkH, stepLkC,
        stepLkD, stepLkT, stepLkTD, stepLkExc, stepWHold, stepRelA, stepRelB, stepRelC, stepRelU, stepCn] at $hs:ident) <;> $tac
    | retGot c v => cases c <;> (try simp [stepIdle, stepRdA, stepRdH, stepRdP, stepRdD, stepDr, stepLkCalled, stepLkA, stepLkH, stepLkC,
        stepLkD, stepLkT, stepLkTD, stepLkExc, stepWHold, stepRelA, stepRelB, stepRelC, stepRelU, stepCn] at $hs:ident) <;> $tac
    | exc c => cases c <;> (try simp [stepIdle, stepRdA, stepRdH, stepRdP, stepRdD, stepDr, stepLkCalled, stepLkA, stepLkH, stepLkC,
        stepLkD, stepLkT, stepLkTD, stepLkExc, stepWHold, stepRelA, stepRelB, stepRelC, stepRelU, stepCn] at $hs:ident) <;> $tac
    | lr e' => cases e' <;> (try simp [stepIdle, stepRdA, stepRdH, stepRdP, stepRdD, stepDr, stepLkCalled, stepLkA, stepLkH, stepLkC,
        stepLkD, stepLkT, stepLkTD, stepLkExc, stepWHold, stepRelA, stepRelB, stepRelC, stepRelU, stepCn, neutral] at $hs:ident) <;>
        $tac
    | _ => (try simp [stepIdle, stepRdA, stepRdH, stepRdP, stepRdD, stepDr, stepLkCalled, stepLkA, stepLkH, stepLkC,
        stepLkD, stepLkT, stepLkTD, stepLkExc, stepWHold, stepRelA, stepRelB, stepRelC, stepRelU, stepCn] at $hs:ident) <;>
        (try (split at $hs:ident <;> simp at $hs:ident)) <;> $tac)))

theorem lrGot_same {k : Nat} {x : Side} {l : LR.St} (h : lrGot s t k x = some l) : LR.Same s.lr l := by
  simp only [lrGot, Option.bind_eq_some_iff] at h
  obtain ⟨l1, h1, h2⟩ := h
  exact (LR.same_of_quiet rfl h1).trans (LR.same_of_quiet rfl h2)

theorem lrRel_same {c : Side} {old : Nat} {l : LR.St} (h : lrRel s t c old = some l) : LR.Same s.lr l := by
  simp only [lrRel, Option.bind_eq_some_iff] at h
  obtain ⟨l2, ⟨l1, h1, h2⟩, h3⟩ := h
  exact ((LR.same_of_quiet rfl h1).trans (LR.same_of_quiet rfl h2)).trans (LR.same_of_quiet rfl h3)

theorem lrRd_same {x : Side} {l : LR.St} (h : lrRd s t x = some l) : LR.Same s.lr l :=
  LR.same_of_quiet rfl h

theorem neutral_quiet {e : LR.Ev} (h : neutral e = true) : LR.quietEv e = true := by
  cases e <;> simp [neutral] at h <;> rfl

/-- how cow event `e` of thread `t` moves the embedded left-right state to `l` -/
structure LRFrame (s : St) (t : Tid) (e : Ev) (l : LR.St) : Prop where
  star : LRStar t s.lr l
  committed : (∀ y, e ≠ .lr (.stRL y)) → l.committed = s.lr.committed
  val : (∀ x, e ≠ .stCtl x) → ∀ x, l.val x = s.lr.val x

theorem LRFrame.same {l : LR.St} (h1 : LRStar t s.lr l) (h2 : LR.Same s.lr l) : LRFrame s t e l :=
  ⟨h1, fun _ => h2.committed, fun _ => h2.val⟩

theorem LRFrame.lr {e' : LR.Ev} {l : LR.St} (hl : LR.step s.lr t e' = some l) (h1 : ∀ y v, e' ≠ .fEnd y v)
    (h2 : ∀ y v, e' ≠ .cpEnd y v) : LRFrame s t (.lr e') l :=
  ⟨.one hl, fun hne => LR.committed_keep hl fun y h => hne y (congrArg Ev.lr h), fun _ x => LR.step_val_keep x hl h1 h2⟩

/-- the end of a write window, shown as the store of the control-block word -/
theorem LRFrame.stCtl {x : Side} {v : List LR.OpId} {l : LR.St} (hl : LR.step s.lr t (.fEnd x v) = some l) :
    LRFrame s t (.stCtl x) l :=
  ⟨.one hl, fun _ => LR.committed_keep hl nofun, fun hne => absurd rfl (hne x)⟩

theorem Step.lrFrame (h : Step s t e s') : LRFrame s t e s'.lr := by
  cases h with
  | rdA_ldRL _ hl | lkA_ldRL _ hl => exact .same (lrGot_star hl) (lrGot_same hl)
  | rdH_ldPtr _ _ hl | rdH_ldCtl _ hl | lkH_ldPtr _ _ hl => exact .same (.one hl) (lrRd_same hl)
  | rdP_dec _ hl | lkC_dec _ hl | lkT_dec _ hl => exact .same (lrRel_star hl) (lrRel_same hl)
  | idle_callShared _ hl | lkCalled_olock _ _ hl | wHold_callRelease _ hl | relA_stPtr _ hl | relB_stPtr _ hl
  | relC_ounlock _ _ hl => exact .same (.one hl) (LR.same_of_quiet rfl hl)
  | rdA_ldCL _ hl | rdA_inc _ hl | lkA_ldCL _ hl | lkA_inc _ hl | relA_lock _ hl | relB_stRL _ hl | relB_unlock _ hl =>
    exact .lr hl nofun nofun
  | relA_neutral _ hn hl | relB_neutral _ hn hl => exact .same (.one hl) (LR.same_of_quiet (neutral_quiet hn) hl)
  | relA_stCtl _ _ _ hl | relB_stCtl _ _ _ hl => exact .stCtl hl
  | _ => exact .same (.refl _) (.refl _)

/-- what one accepted step of thread `t` can change -/
structure Frame (s s' : St) (t : Tid) (e : Ev) : Prop where
  /-- the embedded left-right state moves by steps of `t` only -/
  star : LRStar t s.lr s'.lr
  /-- `committed` is changed only by the store that flips `m_readingLeft` -/
  committed : (∀ y, e ≠ .lr (.stRL y)) → s'.lr.committed = s.lr.committed
  /-- payload values are written only by `pwr` (the write handle) and `pcp` (a fresh copy) -/
  cont : (∀ v c, e ≠ .pwr v c) → (∀ n a c, e ≠ .pcp n a c) → s'.cont = s.cont
  /-- versions are destroyed only by `pdt` -/
  dead : (∀ v, e ≠ .pdt v) → s'.dead = s.dead
  other : ∀ u, u ≠ t → s'.pc u = s.pc u
  /-- a snapshot handle disappears only when its owner drops it -/
  snaps : ∀ u v, (u, v) ∈ s.snaps → ¬ (u = t ∧ e = .call (.drop v)) → (u, v) ∈ s'.snaps

theorem Step.cont (h : Step s t e s') (h1 : ∀ v c, e ≠ .pwr v c) (h2 : ∀ n a c, e ≠ .pcp n a c) : s'.cont = s.cont := by
  cases h with
  | wHold_pwr => exact absurd rfl (h1 _ _)
  | lkH_pcp => exact absurd rfl (h2 _ _ _)
  | _ => rfl

theorem Step.dead (h : Step s t e s') (h1 : ∀ v, e ≠ .pdt v) : s'.dead = s.dead := by
  cases h with
  | dr_pdt | relB_pdt | cn_pdt => exact absurd rfl (h1 _)
  | _ => rfl

theorem Step.pc (h : Step s t e s') : ∃ p', s'.pc = upd s.pc t p' := by
  cases h <;> exact ⟨_, rfl⟩

theorem Step.pc_other (h : Step s t e s') {u : Tid} (hu : u ≠ t) : s'.pc u = s.pc u := by
  obtain ⟨p', hpc⟩ := h.pc
  rw [hpc]; exact upd_other _ _ _ _ hu

theorem Step.snaps (h : Step s t e s') {u : Tid} {v : Ver} (hm : (u, v) ∈ s.snaps) (hne : ¬ (u = t ∧ e = .call (.drop v))) :
    (u, v) ∈ s'.snaps := by
  cases h with
  | idle_callDrop =>
    exact (List.mem_erase_of_ne fun heq => hne ⟨congrArg Prod.fst heq, congrArg (fun p => Ev.call (.drop p.2)) heq.symm⟩).mpr hm
  | rdH_ldPtr => exact List.mem_cons_of_mem _ hm
  | _ => exact hm

theorem frame_step (hs : step s t e = some s') : Frame s s' t e :=
  have h := Step.of_step hs
  ⟨h.lrFrame.star, h.lrFrame.committed, h.cont, h.dead, fun _ => h.pc_other, fun _ _ => h.snaps⟩

theorem LRStar.inv {P : LR.St → Prop} (hP : ∀ a b u e, P a → LR.step a u e = some b → P b) {t : Tid} {a b : LR.St}
    (h : LRStar t a b) (ha : P a) : P b := by
  induction h with
  | refl => exact ha
  | step h1 _ ih => exact ih (hP _ _ _ _ ha h1)

theorem LRStar.deleg {t : Tid} {a b : LR.St} (h : LRStar t a b) : LR.Deleg a b t := by
  induction h with
  | refl => exact .refl _ _
  | step h1 _ ih => exact (LR.Deleg.of_step h1).trans ih

theorem LRStar.pc_other {t u : Tid} {a b : LR.St} (h : LRStar t a b) (hu : u ≠ t) : b.pc u = a.pc u := by
  induction h with
  | refl => rfl
  | step h1 _ ih => rw [ih, LR.step_pc_other h1 hu]

/-- a property of the left-right state that every LR step of any thread preserves is preserved by every cow step -/
theorem step_lr_inv {P : LR.St → Prop} (hP : ∀ a b u e, P a → LR.step a u e = some b → P b) {e : Ev}
    (hs : step s t e = some s') (h : P s.lr) : P s'.lr := (frame_step hs).star.inv hP h

theorem run_lr_inv {P : LR.St → Prop} (hP : ∀ a b u e, P a → LR.step a u e = some b → P b)
    {es : List (Tid × Ev)} (hr : run s es = some s') (h : P s.lr) : P s'.lr :=
  runFrom_inv (Inv := fun s => P s.lr) (fun _ _ _ _ hi hst => step_lr_inv hP hst hi) h hr

theorem step_committed_le (hs : step s t e = some s') : s.lr.committed <+: s'.lr.committed :=
  step_lr_inv (P := fun a => s.lr.committed <+: a.committed) (fun _ _ _ _ h hst => h.trans (LR.step_committed_le hst)) hs
    (List.prefix_refl _)

theorem reachable_run {es : List (Tid × Ev)} (h : Reachable s) (hr : run s es = some s') : Reachable s' := by
  obtain ⟨b, es0, h0⟩ := h
  exact ⟨b, es0 ++ es, runFrom_append_eq_some.mpr ⟨s, h0, hr⟩⟩

end ConcVerif.Cow
