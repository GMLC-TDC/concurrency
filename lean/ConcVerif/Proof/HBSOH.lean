import ConcVerif.Proof.SOH
import ConcVerif.Proof.HBLock
import ConcVerif.Proof.HBUtil
import ConcVerif.Proof.HBComplete
/-! Connection of the SearchableObjectHolder model to the happens-before layer.

Every trace ACCEPTED by `SOH.step`, mapped to happens-before events (`mlk` / `mul` = exclusive
acquire / release of `mapLock`; every plain access `mac` to one of the two `std::map` objects = a WRITE
of ONE plain location, the strongest reading: any two map accesses conflict), is consistent with mutex
semantics.  While the holder exists every map access is made under `mapLock`.

The destructor is the exception the model allows: after its FINAL release of `mapLock` (the `mul`
that leaves `dLocked c` with the object map empty or after 7 rounds) the members are destroyed
WITHOUT the lock.  What the model guarantees there, and what is proved below:
* the final release is unique, and every map access before it is made under the lock;
* after it no thread ever locks or unlocks `mapLock` again, nobody holds it, and the ONLY thread that
  touches the maps is the destructor's thread;
* so each late access is ordered after every earlier access by
  `access → unlock (other thread) → lock (destructor) → final unlock (destructor) → late access`.
Hence every accepted trace is data-race free, although the lockset discipline does NOT hold for the
late accesses. -/
namespace ConcVerif.SOH
open HB (lq_lt lq_mono lq_snoc lq_last)

/-- happens-before content of a model event: `mapLock` = mutex 0, the two maps = plain location 0,
every access counted as a write -/
def toHB : Ev → HB.Ev
  | .mlk => .acq 0 .X
  | .mul => .rel 0 .X
  | .mac => .wr 0
  | _ => .nop

def hbTrace (es : List (Tid × Ev)) : HB.Trace := es.map (fun p => (p.1, toHB p.2))

variable {es : List (Tid × Ev)} {s s' : St} {t u d : Tid} {e : Ev} {p n : Nat} {q : Pc} {tr : HB.Trace}

theorem hbTrace_snoc (es : List (Tid × Ev)) (t : Tid) (e : Ev) :
    hbTrace (es ++ [(t, e)]) = hbTrace es ++ [(t, toHB e)] := by simp [hbTrace]

theorem hbTrace_append (es ext : List (Tid × Ev)) : hbTrace (es ++ ext) = hbTrace es ++ hbTrace ext := by
  simp [hbTrace]

@[simp] theorem hbTrace_length (es : List (Tid × Ev)) : (hbTrace es).length = es.length := by simp [hbTrace]

theorem hbTrace_get {i : Nat} (h : es[i]? = some (t, e)) :
    (hbTrace es)[i]? = some (t, toHB e) := by simp [hbTrace, h]

theorem hbTrace_take (es : List (Tid × Ev)) (n : Nat) : (hbTrace es).take n = hbTrace (es.take n) := by
  simp [hbTrace, List.map_take]

theorem hbTrace_access {i : Nat} {ei : HB.Ev} {x : HB.Loc}
    (h : (hbTrace es)[i]? = some (t, ei)) (ha : ei.accesses x) : x = 0 ∧ ei = .wr 0 ∧ es[i]? = some (t, .mac) := by
  rw [hbTrace, List.getElem?_map, Option.map_eq_some_iff] at h
  obtain ⟨⟨u, e⟩, hk, hp⟩ := h
  obtain ⟨rfl, rfl⟩ := Prod.mk.inj hp
  cases e with
  | mac => rcases ha with ha | ha <;> cases ha; exact ⟨rfl, rfl, hk⟩
  | _ => rcases ha with ha | ha <;> cases ha

/-- the thread is inside the destructor, before its final release -/
def Pc.isD : Pc → Bool
  | .dCalled | .dLocked _ | .dWait _ | .dRelock _ => true
  | _ => false

/-- destructor bookkeeping; not a component of `Inv` (Proof/SOH.lean), since only this file needs it: `jinv_reachable` -/
structure JInv (s : St) : Prop where
  run : ∀ u, (s.pc u).isD = true → s.dt = true ∧ s.gone = false
  one : ∀ u v, (s.pc u).isD = true → (s.pc v).isD = true → u = v
  free : s.gone = true → s.lock = none

theorem jinv_init : JInv init :=
  ⟨fun u h => by simp [init, Pc.isD] at h, fun u v h => by simp [init, Pc.isD] at h, fun h => by simp [init] at h⟩

theorem jinv_same {x : St} (h : JInv s) (hpc : x.pc = s.pc) (hq : q.isD = (s.pc t).isD) (hdt : x.dt = s.dt)
    (hg : x.gone = s.gone) (hl : s.gone = true → x.lock = none) : JInv (x.setPc t q) := by
  have hd : ∀ u, (upd x.pc t q u).isD = (s.pc u).isD :=
    upd_forall (P := fun u (p : Pc) => p.isD = (s.pc u).isD) hq fun u _ => by rw [hpc]
  refine ⟨fun u hu => ?_, fun u v hu hv => h.one u v (hd u ▸ hu) (hd v ▸ hv), fun hg' => hl (hg ▸ hg')⟩
  rw [setPc_dt, setPc_gone, hdt, hg]; exact h.run u (hd u ▸ hu)

theorem jinv_tr (h : JInv s) (htr : Tr s t e s') : JInv s' := by
  cases htr with
  | mac => exact h
  | pdt | rel => exact ⟨h.run, h.one, h.free⟩
  | mulCs _ _ hp | mulThrown _ hp | dRetry _ hp => exact jinv_same h rfl (by rw [hp]; rfl) rfl rfl (fun _ => rfl)
  | lin _ hp _ hg => exact jinv_same h rfl (by rw [hp]; rfl) rfl rfl (fun hg' => Bool.noConfusion (hg.symm.trans hg'))
  | dLock hp | dRelock _ hp =>
    have hg := (h.run t (by rw [hp]; rfl)).2
    exact jinv_same h rfl (by rw [hp]; rfl) rfl rfl (fun hg' => Bool.noConfusion (hg.symm.trans hg'))
  | callD hp hg hd =>
    -- no destructor was running (`dt = false`): `t` becomes the only one
    have key : ∀ w, (upd s.pc t .dCalled w).isD = true → w = t :=
      upd_forall (P := fun w (p : Pc) => p.isD = true → w = t) (fun _ => rfl)
        fun w _ hw => Bool.noConfusion (hd.symm.trans (h.run w hw).1)
    exact ⟨fun _ _ => ⟨rfl, hg⟩, fun u v hu hv => (key u hu).trans (key v hv).symm, h.free⟩
  | dFinal c hp hl hc =>
    -- `t` was the only destructor thread: nobody is left inside
    have key : ∀ w, (upd s.pc t .dDone w).isD ≠ true :=
      upd_forall (P := fun _ (p : Pc) => p.isD ≠ true) Bool.noConfusion fun w hwt hw => hwt (h.one w t hw (by rw [hp]; rfl))
    exact ⟨fun u hu => absurd hu (key u), fun u _ hu => absurd hu (key u), fun _ => rfl⟩
  | _ => exact jinv_same h rfl (by rw [‹s.pc t = _›]; rfl) rfl rfl h.free

theorem jinv_reachable (h : Reachable s) : JInv s :=
  let ⟨_, hes⟩ := h
  runFrom_inv (fun _ _ _ _ hi hs => jinv_tr hi (step_tr hs)) jinv_init hes

def ofLock (l : Option Tid) (u : Tid) : Option HB.Mode := if l = some u then some .X else none

theorem ofLock_none (u : Tid) : ofLock none u = none := rfl
theorem ofLock_self (t : Tid) : ofLock (some t) t = some .X := HB.ofOwner_self t
theorem ofLock_other (h : u ≠ t) : ofLock (some t) u = none := HB.ofOwner_other h

/-- event `p` is the destructor's FINAL release of `mapLock` by thread `d`: the `mul` that the model accepts by the edge
`Tr.dFinal`, after which `~SearchableObjectHolder` destroys the two maps without the lock -/
def FinalAt (es : List (Tid × Ev)) (p : Nat) (d : Tid) : Prop :=
  ∃ s1 c, run (es.take p) = some s1 ∧ s1.pc d = .dLocked c ∧ (s1.maps.objs = [] ∨ 7 ≤ c) ∧ es[p]? = some (d, Ev.mul)

theorem FinalAt.get (h : FinalAt es p d) : es[p]? = some (d, Ev.mul) := by
  obtain ⟨_, _, _, _, _, h4⟩ := h; exact h4

theorem FinalAt.mono (ext : List (Tid × Ev)) (h : FinalAt es p d) :
    FinalAt (es ++ ext) p d := by
  obtain ⟨s1, c, h1, h2, h3, h4⟩ := h
  refine ⟨s1, c, ?_, h2, h3, lq_mono ext h4⟩
  rw [List.take_append_of_le_length (Nat.le_of_lt (lq_lt h4))]; exact h1

def Quiet (es : List (Tid × Ev)) (p : Nat) (d : Tid) : Prop :=
  ∀ n u e, p < n → es[n]? = some (u, e) → e ≠ Ev.mlk ∧ e ≠ Ev.mul ∧ (e = Ev.mac → u = d)

/-- the trace-level facts about an accepted trace whose destructor made its final release at `p` -/
structure After (es : List (Tid × Ev)) (p : Nat) (d : Tid) : Prop where
  fin : FinalAt es p d
  /-- every map access before the final release is made under `mapLock` -/
  before : ∀ n, n < p → HB.lockedAt (hbTrace es) 0 0 n
  quiet : Quiet es p d
  free : ∀ n, p < n → n ≤ es.length → ∀ u, HB.held ((hbTrace es).take n) u 0 = none

theorem After.snoc (h : After es p d) (h1 : e ≠ .mlk)
    (h2 : e ≠ .mul) (h3 : e = .mac → t = d) (hfree : ∀ u, HB.held (hbTrace (es ++ [(t, e)])) u 0 = none) :
    After (es ++ [(t, e)]) p d := by
  have hp := lq_lt h.fin.get
  refine ⟨h.fin.mono _, ?_, ?_, ?_⟩
  · intro n hn
    rw [hbTrace_snoc]
    exact (HB.lockedAt_old _ (by simp; omega)).mpr (h.before n hn)
  · intro n u e' hn hg
    rcases lq_snoc hg with ⟨_, hg⟩ | ⟨_, hg⟩
    · exact h.quiet n u e' hn hg
    · injection hg with hu he; subst hu; subst he; exact ⟨h1, h2, h3⟩
  · intro n hn hle u
    simp at hle
    by_cases hlt : n ≤ es.length
    · rw [hbTrace_snoc, List.take_append_of_le_length (by simp; exact hlt)]
      exact h.free n hn hlt u
    · have : n = (hbTrace (es ++ [(t, e)])).length := by simp; omega
      rw [this, List.take_length]; exact hfree u

structure Sim (es : List (Tid × Ev)) (s : St) : Prop where
  /-- the happens-before layer's notion of "holds mutex 0" is the model's `lock` field -/
  A : HB.Agrees (hbTrace es) 0 (ofLock s.lock)
  /-- while the holder exists: lockset discipline for every access -/
  L : s.gone = false → HB.LockSet (hbTrace es) 0 0
  /-- afterwards: the final release is a position of the trace, … and the thread past it is its thread -/
  F : s.gone = true → ∃ p d, After es p d ∧ ∀ u, s.pc u = .dDone → u = d

theorem gone_step (htr : Tr s t e s') (hg : s.gone = true) : s'.gone = true := by
  cases htr with
  | dFinal => rfl
  | _ => exact hg

theorem mirror_step (hA : HB.Agrees (hbTrace es) 0 (ofLock s.lock)) (htr : Tr s t e s') :
    HB.Agrees (hbTrace (es ++ [(t, e)])) 0 (ofLock s'.lock) := by
  rw [hbTrace_snoc]
  cases htr with
  | lin _ _ hl | dLock _ hl | dRelock _ _ hl => exact HB.Agrees.lock (hl ▸ hA)
  | mulCs _ _ _ _ hl | mulThrown _ _ hl | dFinal _ _ hl | dRetry _ _ hl => exact HB.Agrees.unlock (hl ▸ hA)
  | _ => exact hA.inert (fun _ _ => HB.Ev.noConfusion) (fun _ _ => HB.Ev.noConfusion)

/-- `mac` is accepted from the lock holder or from a thread at `dDone`; while the holder exists no thread is at `dDone` -/
theorem ls_step (hL : s.gone = false → HB.LockSet (hbTrace es) 0 0)
    (hH : ∀ u, HB.held (hbTrace es) u 0 = ofLock s.lock u) (hd : DInv s) (htr : Tr s t e s') (hg' : s'.gone = false) :
    HB.LockSet (hbTrace (es ++ [(t, e)])) 0 0 := by
  have hg : s.gone = false := by
    cases h : s.gone with
    | false => rfl
    | true => exact (gone_step htr h).symm.trans hg'
  rw [hbTrace_snoc]
  cases e with
  | mac =>
    cases htr with
    | mac hl =>
      have hlk : s.lock = some t := hl.resolve_right fun h => Bool.noConfusion (hg.symm.trans (hd t h))
      exact HB.lockSet_snoc (hL hg) HB.Ev.noConfusion (fun _ => by rw [hH, hlk]; exact HB.ofOwner_self t)
  | _ => exact HB.lockSet_snoc (hL hg) (fun h => nomatch h) (fun h => nomatch h)

theorem after_final {x : St} (hr : run es = some s) (hL : HB.LockSet (hbTrace es) 0 0) (hd : DInv s) (hg : s.gone = false)
    (hH' : ∀ u, HB.held (hbTrace (es ++ [(t, .mul)])) u 0 = none) {c : Nat} (hp : s.pc t = .dLocked c)
    (hc : s.maps.objs = [] ∨ 7 ≤ c) (hx : x.pc = s.pc) :
    After (es ++ [(t, .mul)]) es.length t ∧ ∀ u, (x.setPc t .dDone).pc u = .dDone → u = t := by
  refine ⟨⟨⟨s, c, by rw [List.take_left' rfl]; exact hr, hp, hc, lq_last _ _⟩, fun n hn => ?_,
    fun n u e' hn hget => ?_, fun n hn hle u => ?_⟩,
    upd_forall (P := fun u (p : Pc) => p = .dDone → u = t) (fun _ => rfl)
      fun u _ h => Bool.noConfusion (hg.symm.trans (hd u (hx ▸ h)))⟩
  · rw [hbTrace_snoc]
    exact (HB.lockedAt_old _ (by simp; exact hn)).mpr (hL n (by simp; exact hn))
  · have := lq_lt hget; simp at this; omega
  · simp at hle
    have : n = (hbTrace (es ++ [(t, .mul)])).length := by simp; omega
    rw [this, List.take_length]; exact hH' u

theorem dd_setPc {x : St} (hq : q ≠ .dDone) : ∀ u, (x.setPc t q).pc u = .dDone → x.pc u = .dDone :=
  upd_forall (P := fun u (p : Pc) => p = .dDone → x.pc u = .dDone) (fun h => absurd h hq) fun _ _ h => h

/-- after the final release no lock operation is possible any more, and only the destructor's thread,
the one at `dDone`, may still touch the maps -/
theorem after_gone (haf : After es p d) (hone : ∀ u, s.pc u = .dDone → u = d) (hj : JInv s) (hg : s.gone = true)
    (htr : Tr s t e s') (hH' : ∀ u, HB.held (hbTrace (es ++ [(t, e)])) u 0 = ofLock s'.lock u) :
    After (es ++ [(t, e)]) p d ∧ ∀ u, s'.pc u = .dDone → u = d := by
  have hl0 := hj.free hg
  have hfree : s'.lock = s.lock → ∀ u, HB.held (hbTrace (es ++ [(t, e)])) u 0 = none :=
    fun hl u => by rw [hH' u, hl, hl0]; rfl
  cases htr with
  | lin _ _ _ hg0 => cases hg.symm.trans hg0
  | dLock hp | dRelock _ hp => cases hg.symm.trans (hj.run t (by rw [hp]; rfl)).2
  | mulCs _ _ _ _ hl | mulThrown _ _ hl | dFinal _ _ hl | dRetry _ _ hl => cases hl0.symm.trans hl
  | mac hl =>
    have htd : t = d := hone t (hl.resolve_left fun h => nomatch hl0.symm.trans h)
    exact ⟨haf.snoc Ev.noConfusion Ev.noConfusion (fun _ => htd) (hfree rfl), hone⟩
  | pdt | rel => exact ⟨haf.snoc Ev.noConfusion Ev.noConfusion Ev.noConfusion (hfree rfl), hone⟩
  | _ =>
    exact ⟨haf.snoc Ev.noConfusion Ev.noConfusion Ev.noConfusion (hfree rfl),
      fun u hu => hone u (dd_setPc Pc.noConfusion u hu)⟩

theorem sim_step (hr : run es = some s) (hsim : Sim es s)
    (hs : step s t e = some s') : Sim (es ++ [(t, e)]) s' := by
  have hd : DInv s := (inv_reachable ⟨es, hr⟩).d
  have htr := step_tr hs
  have hA := mirror_step hsim.A htr
  refine ⟨hA, ls_step hsim.L hsim.A.1 hd htr, fun hg' => ?_⟩
  cases hg : s.gone with
  | true =>
    obtain ⟨p, d, haf, hone⟩ := hsim.F hg
    exact ⟨p, d, after_gone haf hone (jinv_reachable ⟨es, hr⟩) hg htr hA.1⟩
  | false =>
    cases htr with
    | dFinal c hp hl hc =>
      exact ⟨es.length, t, after_final hr (hsim.L hg) hd hg (fun u => by rw [hA.1 u]; rfl) hp hc rfl⟩
    | _ => exact Bool.noConfusion (hg'.symm.trans hg)

theorem soh_sim (h : run es = some s) : Sim es s :=
  runFrom_trace_inv ⟨HB.Agrees.nil fun _ => rfl, fun _ => HB.lockSet_nil 0 0, Bool.noConfusion⟩
    (fun _ _ _ _ _ hr hsim hs => sim_step hr hsim hs) h

theorem lockedAt_mac (hn : es[n]? = some (u, Ev.mac))
    (h : HB.lockedAt (hbTrace es) 0 0 n) : HB.held ((hbTrace es).take n) u 0 = some .X := by
  have hget : (hbTrace es)[n]? = some (u, .wr 0) := hbTrace_get hn
  simp only [HB.lockedAt, hget] at h
  exact h trivial

theorem After.access {es : List (Tid × Ev)} {p n : Nat} {d u : Tid} (h : After es p d) (hn : es[n]? = some (u, Ev.mac)) :
    (n < p ∧ HB.held ((hbTrace es).take n) u 0 = some .X) ∨
    (p < n ∧ u = d ∧ ∀ v, HB.held ((hbTrace es).take n) v 0 = none) := by
  rcases Nat.lt_trichotomy n p with hlt | heq | hgt
  · exact .inl ⟨hlt, lockedAt_mac hn (h.before n hlt)⟩
  · subst heq; rw [h.fin.get] at hn; cases hn
  · exact .inr ⟨hgt, (h.quiet n u _ hgt hn).2.2 rfl, h.free n hgt (Nat.le_of_lt (lq_lt hn))⟩

theorem After.unique {es : List (Tid × Ev)} {p p' : Nat} {d d' : Tid} (h : After es p d) (h' : FinalAt es p' d') :
    p' = p ∧ d' = d := by
  rcases Nat.lt_trichotomy p' p with hlt | heq | hgt
  · -- `gone` is set at `p'` and never reset, but at `p` thread `d` is still inside the destructor
    exfalso
    obtain ⟨s1, c, h1, h2, h3, h4⟩ := h'
    obtain ⟨t1, c1, k1, k2, _, _⟩ := h.fin
    obtain ⟨s1', s2, r1, hst, hrun⟩ :=
      runFrom_split_at k1 (show (es.take p)[p']? = some (d', Ev.mul) by rw [List.getElem?_take, if_pos hlt, h4])
    rw [List.take_take, Nat.min_eq_left (Nat.le_of_lt hlt)] at r1
    cases h1.symm.trans r1
    have hg2 : s2.gone = true := by
      cases step_tr hst with
      | mulCs _ _ hp | mulThrown _ hp => cases h2.symm.trans hp
      | dFinal => rfl
      | dRetry c' hp _ hc => cases h2.symm.trans hp; exact absurd h3 hc
    have hmono : s2.gone = true → t1.gone = true :=
      runFrom_rel (R := fun a b : St => a.gone = true → b.gone = true) (fun _ h => h) (fun _ _ _ f g h => g (f h))
        (fun _ _ _ _ hs => gone_step (step_tr hs)) hrun
    exact Bool.noConfusion ((hmono hg2).symm.trans ((jinv_reachable ⟨_, k1⟩).run d (by rw [k2]; rfl)).2)
  · subst heq
    exact ⟨rfl, (Prod.mk.inj (Option.some.inj (h'.get.symm.trans h.fin.get))).1⟩
  · exact absurd rfl (h.quiet p' d' _ hgt h'.get).2.1

/-- **C07 for SearchableObjectHolder (model level).**  In every accepted trace any two map accesses
are ordered by happens-before, the destructor's late accesses included. -/
theorem soh_hb (h : run es = some s) {i j : Nat} (hij : i < j)
    (hc : HB.ConflictOn (hbTrace es) 0 i j) : HB.HB (hbTrace es) i j := by
  have hsim := soh_sim h
  cases hg : s.gone with
  | false => exact HB.lockset_hb hsim.A.2 (hsim.L hg) hij hc
  | true =>
    obtain ⟨p, d, haf, _⟩ := hsim.F hg
    obtain ⟨t, u, ei, ej, h1, h2, ha1, ha2, _⟩ := hc
    obtain ⟨_, _, hi⟩ := hbTrace_access h1 ha1
    obtain ⟨_, _, hj⟩ := hbTrace_access h2 ha2
    by_cases htu : t = u
    · subst htu; exact .po hij h1 h2
    · rcases haf.access hj with ⟨hjp, hju⟩ | ⟨hpj, hud, _⟩
      · rcases haf.access hi with ⟨_, hit⟩ | ⟨hpi, _, _⟩
        · exact HB.held_hb hsim.A.2 hij h1 h2 htu hit hju (.inl rfl)
        · omega
      · subst hud
        rcases haf.access hi with ⟨hip, hit⟩ | ⟨_, htd, _⟩
        · -- `i` under the lock → … → the destructor's final critical section → `j`
          have hp : (hbTrace es)[p]? = some (u, .rel 0 .X) := hbTrace_get haf.fin.get
          have hup : HB.held ((hbTrace es).take p) u 0 = some .X :=
            HB.okAt_rel (hsim.A.2 p (HB.lq_lt hp)) hp
          exact .trans (HB.held_hb hsim.A.2 hip h1 hp htu hit hup (.inl rfl)) (.po hpj hp h2)
        · exact absurd htd htu

theorem soh_no_race (h : run es = some s) : ¬ HB.Race (hbTrace es) := by
  intro ⟨i, j, hij, ⟨x, hc⟩, hn⟩
  have hx : x = 0 := by
    obtain ⟨t, u, ei, ej, h1, _, ha, _⟩ := hc
    exact (hbTrace_access h1 ha).1
  subst hx
  exact hn (soh_hb h hij hc)

end ConcVerif.SOH
