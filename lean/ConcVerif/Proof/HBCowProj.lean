import ConcVerif.Proof.HBCow
/-! cow_guarded and happens-before, part 2: every accepted cow trace projects to an accepted left-right trace
(`P`: the delegated left-right events, each tagged with the position of the cow event it belongs to) whose
happens-before image embeds into the cow trace's (`cow_embed`); hence the left-right theorem (`LR.lr_order`) orders the
accesses of the two `shared_ptr` copies in the cow trace (`cow_lr_order`). -/
namespace ConcVerif.Cow
open ConcVerif.LR (Side)

abbrev PEv := Nat × Tid × LR.Ev

structure ProjP (o : LR.Ords) (pay : Bool) (b : Bool) (es : List (Tid × Ev)) (s : St) (P : List PEv) : Prop where
  run : LR.run (LR.init b) (P.map (fun x => x.2)) = some s.lr
  sorted : ∀ (i j : Nat) (a c : PEv), i ≤ j → P[i]? = some a → P[j]? = some c → a.1 ≤ c.1
  bound : ∀ (i : Nat) (a : PEv), P[i]? = some a → a.1 < es.length
  thr : ∀ (i k : Nat) (t : Tid) (e : LR.Ev), P[i]? = some (k, t, e) →
    ∃ ce, es[k]? = some (t, ce) ∧ (LR.toHB o e = .nop ∨ LR.toHB o e = toHBc o pay ce)
  one : ∀ (i j k : Nat) (t u : Tid) (e e' : LR.Ev), i < j → P[i]? = some (k, t, e) → P[j]? = some (k, u, e') →
    LR.toHB o e = .nop ∨ LR.toHB o e' = .nop
  st : ∀ (k : Nat) (t : Tid) (ce : Ev) (a : HB.Loc) (od : HB.Ord), es[k]? = some (t, ce) → toHBc o pay ce = .st a od →
    ∃ (i : Nat) (e : LR.Ev), P[i]? = some (k, t, e) ∧ LR.toHB o e = .st a od
  wr : ∀ (k : Nat) (t : Tid) (x : Side) (v : Ver), es[k]? = some (t, Ev.stPtr x v) → ∃ (i : Nat), P[i]? = some (k, t, LR.Ev.fBegin x)
  rd : ∀ (k : Nat) (t : Tid) (x : Side) (v : Ver), es[k]? = some (t, Ev.ldPtr x v) →
    ∃ (i : Nat) (val : List LR.OpId), P[i]? = some (k, t, LR.Ev.rd x val)

theorem projP_init (o : LR.Ords) (pay b : Bool) : ProjP o pay b [] (init b) [] := by
  refine ⟨rfl, ?_, ?_, ?_, ?_, ?_, ?_, ?_⟩ <;> intros <;> simp at *

theorem get_map_inv {α β : Type} {g : α → β} {l : List α} {j : Nat} {b : β} (h : (l.map g)[j]? = some b) :
    ∃ a, l[j]? = some a ∧ b = g a := by
  rw [List.getElem?_map] at h
  obtain ⟨a, h1, h2⟩ := Option.map_eq_some_iff.mp h
  exact ⟨a, h1, h2.symm⟩

theorem projP_step {o : LR.Ords} {pay b : Bool} {es : List (Tid × Ev)} {s s' : St} {t : Tid} {ce : Ev} {P : List PEv}
    {block : List LR.Ev} (h : ProjP o pay b es s P) (B : Blk o pay s t ce s' block) :
    ProjP o pay b (es ++ [(t, ce)]) s' (P ++ block.map (fun e => (es.length, t, e))) := by
  -- an element of the extended projection is an old one or comes from the block of the new event
  have split : ∀ {i : Nat} {a : PEv}, (P ++ block.map (fun e => ((es.length, t, e) : PEv)))[i]? = some a →
      P[i]? = some a ∨ (P.length ≤ i ∧ ∃ e, block[i - P.length]? = some e ∧ a = (es.length, t, e)) := by
    intro i a hi
    by_cases hl : i < P.length
    · exact .inl (List.getElem?_append_left hl ▸ hi)
    · rw [List.getElem?_append_right (by omega)] at hi
      exact .inr ⟨by omega, get_map_inv hi⟩
  have newAt : ∀ {j : Nat} {e : LR.Ev}, block[j]? = some e →
      (P ++ block.map (fun e => ((es.length, t, e) : PEv)))[P.length + j]? = some (es.length, t, e) := by
    intro j e hj
    rw [List.getElem?_append_right (by omega)]
    simp [hj]
  constructor
  case run =>
    simp only [List.map_append, List.map_map, LR.run, runFrom_append]
    have := h.run
    simp only [LR.run] at this
    rw [this]
    simpa [LR.run, Function.comp_def] using B.run
  case sorted =>
    intro i j a c hij hi hj
    rcases split hi with h1 | ⟨g1, e, _, rfl⟩
    · rcases split hj with h2 | ⟨_, e, _, rfl⟩
      · exact h.sorted i j a c hij h1 h2
      · exact Nat.le_of_lt (h.bound i a h1)
    · rcases split hj with h2 | ⟨_, e', _, rfl⟩
      · have := HB.lq_lt h2; omega
      · exact Nat.le_refl _
  case bound =>
    intro i a hi
    rcases split hi with h1 | ⟨_, e, _, rfl⟩
    · have := h.bound i a h1; simp; omega
    · simp
  case thr =>
    intro i k u e hi
    rcases split hi with h1 | ⟨_, e', g2, g3⟩
    · obtain ⟨ce', g2, g3⟩ := h.thr i k u e h1
      exact ⟨ce', HB.lq_mono _ g2, g3⟩
    · cases g3
      exact ⟨ce, HB.lq_last _ _, B.img e (List.mem_of_getElem? g2)⟩
  case one =>
    intro i j k u u' e e' hij hi hj
    rcases split hi with h1 | ⟨g1, e1, k1, g3⟩
    · rcases split hj with h2 | ⟨_, e2, _, g4⟩
      · exact h.one i j k u u' e e' hij h1 h2
      · cases g4
        have := h.bound i _ h1
        simp at this
    · rcases split hj with h2 | ⟨_, e2, k2, g4⟩
      · have := HB.lq_lt h2; omega
      · cases g3; cases g4
        obtain ⟨h1, e1⟩ := List.getElem?_eq_some_iff.mp k1
        obtain ⟨h2, e2⟩ := List.getElem?_eq_some_iff.mp k2
        exact e1 ▸ e2 ▸ List.pairwise_iff_getElem.mp B.one _ _ h1 h2 (by omega)
  case st =>
    intro k u ce' a od hk hst
    rcases HB.lq_snoc hk with ⟨_, hk'⟩ | ⟨hl, hp⟩
    · obtain ⟨i, e, g1, g2⟩ := h.st k u ce' a od hk' hst
      exact ⟨i, e, HB.lq_mono _ g1, g2⟩
    · cases hp; subst hl
      obtain ⟨e, he, g2⟩ := B.st a od hst
      obtain ⟨j, hj⟩ := List.getElem?_of_mem he
      exact ⟨P.length + j, e, newAt hj, g2⟩
  case wr =>
    intro k u x v hk
    rcases HB.lq_snoc hk with ⟨_, hk'⟩ | ⟨hl, hp⟩
    · obtain ⟨i, g1⟩ := h.wr k u x v hk'
      exact ⟨i, HB.lq_mono _ g1⟩
    · cases hp; subst hl
      obtain ⟨j, hj⟩ := List.getElem?_of_mem (B.wr x v rfl)
      exact ⟨P.length + j, newAt hj⟩
  case rd =>
    intro k u x v hk
    rcases HB.lq_snoc hk with ⟨_, hk'⟩ | ⟨hl, hp⟩
    · obtain ⟨i, val, g1⟩ := h.rd k u x v hk'
      exact ⟨i, val, HB.lq_mono _ g1⟩
    · cases hp; subst hl
      obtain ⟨val, hv⟩ := B.rd x v rfl
      obtain ⟨j, hj⟩ := List.getElem?_of_mem hv
      exact ⟨P.length + j, val, newAt hj⟩

theorem projP_run (o : LR.Ords) (pay : Bool) {b : Bool} {es : List (Tid × Ev)} {s : St} (h : run (init b) es = some s) :
    ∃ P, ProjP o pay b es s P :=
  runFrom_trace_inv (P := fun es s => ∃ P, ProjP o pay b es s P) ⟨[], projP_init o pay b⟩
    (fun _ _ _ _ _ _ ⟨_, hP⟩ hs => have ⟨_, B⟩ := blk_step hs; ⟨_, projP_step hP B⟩) h

/-- cow position of a projected left-right event -/
def pf (P : List PEv) (i : Nat) : Nat :=
  match P[i]? with
  | some a => a.1
  | none => 0

theorem toHB_nofork (o : LR.Ords) (e : LR.Ev) (u : Tid) : LR.toHB o e ≠ .fork u ∧ LR.toHB o e ≠ .join u := by
  cases e <;> simp [LR.toHB]

theorem proj_get {P : List PEv} {i : Nat} {t : Tid} {e : LR.Ev} (h : (P.map (fun x => x.2))[i]? = some (t, e)) :
    ∃ k, P[i]? = some (k, t, e) := by
  obtain ⟨a, h1, h2⟩ := get_map_inv h
  obtain ⟨k, t', e'⟩ := a
  injection h2 with h3 h4
  exact ⟨k, by rw [h1, h3, h4]⟩

theorem cow_embed {o : LR.Ords} {pay b : Bool} {es : List (Tid × Ev)} {s : St} {P : List PEv} (h : ProjP o pay b es s P) :
    HB.Embed (LR.hbTrace o (P.map (fun x => x.2))) (hbTraceC o pay es) (pf P) := by
  refine ⟨?_, ?_, ?_, ?_, ?_, ?_⟩
  · intro i j hij hj
    simp only [LR.hbTrace_length, List.length_map] at hj
    have hi : i < P.length := by omega
    simp only [pf, List.getElem?_eq_getElem hi, List.getElem?_eq_getElem hj]
    exact h.sorted i j _ _ hij (List.getElem?_eq_getElem hi) (List.getElem?_eq_getElem hj)
  · intro i t he hi
    obtain ⟨e, h1, _⟩ := LR.hbTrace_get_inv hi
    obtain ⟨k, hk⟩ := proj_get h1
    obtain ⟨ce, h2, _⟩ := h.thr i k t e hk
    exact ⟨toHBc o pay ce, by simp only [pf, hk]; exact hbTraceC_get h2⟩
  · intro i t he hi hne
    obtain ⟨e, h1, h3⟩ := LR.hbTrace_get_inv hi
    obtain ⟨k, hk⟩ := proj_get h1
    obtain ⟨ce, h2, h4⟩ := h.thr i k t e hk
    rcases h4 with h4 | h4
    · rw [h4] at h3; exact absurd h3.symm hne
    · simp only [pf, hk]; rw [← h3, h4]; exact hbTraceC_get h2
  · intro i j t u he he' hij hi hj n1 n2
    obtain ⟨e, h1, h3⟩ := LR.hbTrace_get_inv hi
    obtain ⟨e', h1', h3'⟩ := LR.hbTrace_get_inv hj
    obtain ⟨k, hk⟩ := proj_get h1
    obtain ⟨k', hk'⟩ := proj_get h1'
    simp only [pf, hk, hk']
    have hle := h.sorted i j _ _ (Nat.le_of_lt hij) hk hk'
    rcases Nat.lt_or_eq_of_le hle with g | g
    · exact g
    · exfalso
      simp only at g
      subst g
      rcases h.one i j k t u e e' hij hk hk' with g | g
      · exact n1 (by rw [← h3, g])
      · exact n2 (by rw [← h3', g])
  · intro p t a od hp
    obtain ⟨ce, h1, h2⟩ := hbTraceC_get_inv hp
    obtain ⟨i, e, h3, h4⟩ := h.st p t ce a od h1 h2
    refine ⟨i, by simp [pf, h3], ?_⟩
    have : (P.map (fun x => x.2))[i]? = some (t, e) := by simp [h3]
    rw [← h4]; exact LR.hbTrace_get this
  · intro i t u
    refine ⟨?_, ?_⟩ <;> intro hc <;> obtain ⟨e, _, h3⟩ := LR.hbTrace_get_inv hc
    · exact (toHB_nofork o e u).1 h3
    · exact (toHB_nofork o e u).2 h3

/-- two cow events that access the same `shared_ptr` copy of `m_data` through the left-right model, at least one of
them inside an assignment window of a release.  Only the pointer-word events appear: they are what the publication of a
version rests on (`cow_read_after_write`); about the control-word accesses (`ldCtl`, `stCtl`), which lie inside the same
read handle / assignment window, no ordering statement is made. -/
def SideConf (e1 e2 : Ev) : Prop :=
  ∃ x, ((∃ v, e1 = .stPtr x v) ∧ ((∃ v, e2 = .stPtr x v) ∨ ∃ v, e2 = .ldPtr x v)) ∨
       ((∃ v, e1 = .ldPtr x v) ∧ ∃ v, e2 = .stPtr x v)

/-- **the two `shared_ptr` copies**: the store that opens an assignment window on a side happens-after every earlier
load of that side's pointer word under a read handle and every earlier window on it; a load of the pointer word
happens-after every earlier window on that side (`LR.lr_order` through the projection) -/
theorem cow_lr_order {o : LR.Ords} (ho : o.OK) {pay b : Bool} {es : List (Tid × Ev)} {s : St} (h : run (init b) es = some s)
    {q r : Nat} {t0 u : Tid} {e1 e2 : Ev} (hqr : q < r) (hq : es[q]? = some (t0, e1)) (hr : es[r]? = some (u, e2))
    (hc : SideConf e1 e2) : HB.HB (hbTraceC o pay es) q r := by
  obtain ⟨P, hP⟩ := projP_run o pay h
  have E := cow_embed hP
  have key : ∀ (i j : Nat) (a a' : LR.Ev), P[i]? = some (q, t0, a) → P[j]? = some (r, u, a') → LR.LRConf a a' →
      LR.toHB o a ≠ .nop → LR.toHB o a' ≠ .nop → HB.HB (hbTraceC o pay es) q r := by
    intro i j a a' hi hj hconf n1 n2
    have hij : i < j := by
      apply Classical.byContradiction
      intro hn
      have := hP.sorted j i _ _ (by omega) hj hi
      simp at this; omega
    have li : (P.map (fun x => x.2))[i]? = some (t0, a) := by simp [hi]
    have lj : (P.map (fun x => x.2))[j]? = some (u, a') := by simp [hj]
    have hb := LR.lr_order ho hP.run hij li lj hconf
    have := E.hb hb (LR.hbTrace_get li) (LR.hbTrace_get lj) n1 n2
    simpa [pf, hi, hj] using this
  obtain ⟨x, ⟨⟨v, rfl⟩, ⟨v', rfl⟩ | ⟨v', rfl⟩⟩ | ⟨⟨v, rfl⟩, ⟨v', rfl⟩⟩⟩ := hc
  · obtain ⟨i, hi⟩ := hP.wr q t0 x v hq
    obtain ⟨j, hj⟩ := hP.wr r u x v' hr
    exact key i j _ _ hi hj ⟨x, .inl ⟨rfl, .inl rfl⟩⟩ (by simp [LR.toHB]) (by simp [LR.toHB])
  · obtain ⟨i, hi⟩ := hP.wr q t0 x v hq
    obtain ⟨j, val, hj⟩ := hP.rd r u x v' hr
    exact key i j _ _ hi hj ⟨x, .inl ⟨rfl, .inr rfl⟩⟩ (by simp [LR.toHB]) (by simp [LR.toHB])
  · obtain ⟨i, val, hi⟩ := hP.rd q t0 x v hq
    obtain ⟨j, hj⟩ := hP.wr r u x v' hr
    exact key i j _ _ hi hj ⟨x, .inr ⟨.inr rfl, rfl⟩⟩ (by simp [LR.toHB]) (by simp [LR.toHB])

end ConcVerif.Cow
