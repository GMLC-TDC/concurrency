import ConcVerif.Proof.HB
/-! Completeness of the vector clocks and of the race checker: happens-before is reflected by the
clocks (`HB tr i j` ⇒ the clock of `j` dominates the clock of `i`), hence a trace without a race (in
the declarative sense) is accepted by `raceFree`: the checker raises no false alarm. -/
namespace ConcVerif.HB

theorem vstep_lx_mono (k : Clk) (t : Tid) (e : Ev) (m : Loc) : VLe (k.lx m) ((vstep k t e).lx m) := by
  cases e with
  | rel m' md =>
    cases md
    · simp only [vstep, setLX_lx]; split
      next h => exact h ▸ .join_l _ _
      next => exact .refl _
    · exact .refl _
  | acq m' md => cases md <;> exact .refl _
  | _ => exact .refl _

theorem vstep_ls_mono (k : Clk) (t : Tid) (e : Ev) (m : Loc) : VLe (k.ls m) ((vstep k t e).ls m) := by
  cases e with
  | rel m' md =>
    cases md
    · exact .refl _
    · simp only [vstep, setLS_ls]; split
      next h => exact h ▸ .join_l _ _
      next => exact .refl _
  | acq m' md => cases md <;> exact .refl _
  | _ => exact .refl _

/-- a release-sequence clock shrinks only at a plain store to its location -/
theorem vstep_r_mono (k : Clk) (t : Tid) (e : Ev) (a : Loc) (hne : ∀ o, e ≠ .st a o) : VLe (k.r a) ((vstep k t e).r a) := by
  cases e with
  | st a' o =>
    simp only [vstep, setR_r]; split
    next h => exact absurd (h ▸ rfl) (hne o)
    next => exact .refl _
  | rmw a' o =>
    simp only [vstep, setR_r]; split
    next h =>
      subst h; split
      · exact .join_l _ _
      · exact .refl _
    next => exact .refl _
  | acq m' md => cases md <;> exact .refl _
  | rel m' md => cases md <;> exact .refl _
  | _ => exact .refl _

theorem vstep_acq_lx (k : Clk) (t : Tid) (m : Loc) (md : Mode) : VLe (k.lx m) ((vstep k t (.acq m md)).c t) := by
  cases md <;> simp only [vstep, setC_self]
  · exact (VLe.join_l _ _).trans (.join_r _ _)
  · exact .join_r _ _

theorem vstep_acq_ls (k : Clk) (t : Tid) (m : Loc) : VLe (k.ls m) ((vstep k t (.acq m .X)).c t) := by
  simp only [vstep, setC_self]; exact (VLe.join_r _ _).trans (.join_r _ _)

theorem vstep_rel_lx (k : Clk) (t : Tid) (m : Loc) : VLe ((vstep k t (.rel m .X)).c t) ((vstep k t (.rel m .X)).lx m) := by
  simp only [vstep, setLX_c, setLX_lx, setC_self, ↓reduceIte]; exact .join_r _ _

theorem vstep_rel_ls (k : Clk) (t : Tid) (m : Loc) : VLe ((vstep k t (.rel m .S)).c t) ((vstep k t (.rel m .S)).ls m) := by
  simp only [vstep, setLS_c, setLS_ls, setC_self, ↓reduceIte]; exact .join_r _ _

theorem vstep_acq_r (k : Clk) (t : Tid) (e : Ev) (a : Loc) (h : AcqRead e a) : VLe (k.r a) ((vstep k t e).c t) := by
  obtain ⟨o, ho, rfl | rfl⟩ := h <;> simp only [vstep, setR_c, setC_self, acqClock, ho, ↓reduceIte] <;> exact .join_r _ _

theorem vstep_rel_r (k : Clk) (t : Tid) (e : Ev) (a : Loc) (h : RelWrite e a) :
    VLe ((vstep k t e).c t) ((vstep k t e).r a) := by
  obtain ⟨o, ho, rfl | rfl⟩ := h <;> simp only [vstep, setR_c, setR_r, setC_self, ho, ↓reduceIte]
  · exact .refl _
  · exact .join_r _ _

theorem vstep_fork (k : Clk) (t u : Tid) : VLe ((vstep k t (.fork u)).c t) ((vstep k t (.fork u)).c u) := by
  by_cases hu : t = u
  · subst hu; exact .refl _
  · simp only [vstep, setC_c, if_neg hu, ↓reduceIte]; exact .join_r _ _

theorem vstep_join (k : Clk) (t u : Tid) : VLe (k.c u) ((vstep k t (.join u)).c t) := by
  simp only [vstep, setC_self]; exact .join_r _ _

def clocksAfter (tr : Trace) (n : Nat) : Clk := vrun {} (tr.take n)

theorem clocksAfter_succ {tr : Trace} {n : Nat} {t : Tid} {e : Ev} (h : tr[n]? = some (t, e)) :
    clocksAfter tr (n + 1) = vstep (clocksAfter tr n) t e := by
  rw [clocksAfter, take_succ_get h, vrun_snoc]; rfl

/-- a clock component that no event satisfying `ok` shrinks does not shrink along a stretch of such events -/
theorem clocksAfter_mono {tr : Trace} (sel : Clk → VC) (ok : Ev → Prop)
    (hstep : ∀ k t e, ok e → VLe (sel k) (sel (vstep k t e))) {n n' : Nat} (h : n ≤ n') (hn : n' ≤ tr.length)
    (hok : ∀ l t e, n ≤ l → l < n' → tr[l]? = some (t, e) → ok e) : VLe (sel (clocksAfter tr n)) (sel (clocksAfter tr n')) := by
  induction n' with
  | zero => exact Nat.le_zero.mp h ▸ .refl _
  | succ n' ih =>
    rcases Nat.lt_or_eq_of_le h with hlt | rfl
    · obtain ⟨t, e, hte⟩ := get_of_lt (Nat.lt_of_succ_le hn)
      rw [clocksAfter_succ hte]
      exact (ih (Nat.le_of_lt_succ hlt) (Nat.le_of_succ_le hn) fun l t e h1 h2 => hok l t e h1 (Nat.lt_succ_of_lt h2)).trans
        (hstep _ t e (hok n' t e (Nat.le_of_lt_succ hlt) (Nat.lt_succ_self n') hte))
    · exact .refl _

def clockOf (tr : Trace) (i : Nat) : VC :=
  match tr[i]? with
  | some (t, _) => (clocksAfter tr (i + 1)).c t
  | none => []

theorem clockOf_eq {tr : Trace} {i : Nat} {t : Tid} {e : Ev} (h : tr[i]? = some (t, e)) : clockOf tr i = (clocksAfter tr (i + 1)).c t := by
  rw [clockOf, h]

/-- the shape of every edge: the event at `i` leaves its clock in the component `sel`, which no event strictly
between `i` and `j` shrinks, and the event at `j` takes it over -/
theorem edge_clock {tr : Trace} {i j : Nat} {t u : Tid} {ei ej : Ev} (sel : Clk → VC) (ok : Ev → Prop) (hij : i < j)
    (hi : tr[i]? = some (t, ei)) (hj : tr[j]? = some (u, ej))
    (hrel : ∀ k, VLe ((vstep k t ei).c t) (sel (vstep k t ei)))
    (hstep : ∀ k t e, ok e → VLe (sel k) (sel (vstep k t e)))
    (hok : ∀ l v e, i < l → l < j → tr[l]? = some (v, e) → ok e)
    (hacq : ∀ k, VLe (sel k) ((vstep k u ej).c u)) : VLe (clockOf tr i) (clockOf tr j) := by
  rw [clockOf_eq hi, clockOf_eq hj, clocksAfter_succ hj]
  exact ((clocksAfter_succ hi ▸ hrel (clocksAfter tr i)).trans (clocksAfter_mono sel ok hstep hij (Nat.le_of_lt (lq_lt hj)) hok)).trans (hacq _)

theorem sw_clock {tr : Trace} {i j : Nat} (hsw : Sw tr i j) : VLe (clockOf tr i) (clockOf tr j) := by
  -- the implicit arguments of the constructors of `Sw` are named in the order of their declaration in Base/HB.lean
  cases hsw with
  | @mutex t u m md md' hij h1 h2 hm =>
    cases md with
    | X =>
      exact edge_clock (·.lx m) (fun _ => True) hij h1 h2 (fun k => vstep_rel_lx k t m) (fun k t e _ => vstep_lx_mono k t e m) (fun _ _ _ _ _ _ => trivial)
        (fun k => vstep_acq_lx k u m md')
    | S =>
      obtain rfl : md' = .X := hm.resolve_left nofun
      exact edge_clock (·.ls m) (fun _ => True) hij h1 h2 (fun k => vstep_rel_ls k t m) (fun k t e _ => vstep_ls_mono k t e m) (fun _ _ _ _ _ _ => trivial)
        (fun k => vstep_acq_ls k u m)
  | @atomic t u a ei ej hij h1 h2 hr ha hb =>
    exact edge_clock (·.r a) (fun e => ∀ o, e ≠ .st a o) hij h1 h2 (fun k => vstep_rel_r k t ei a hr)
      (fun k t e => vstep_r_mono k t e a) (fun l v e h3 h4 hl o he => hb l v o h3 h4 (he ▸ hl))
      (fun k => vstep_acq_r k u ej a ha)
  | @fork t u e hij h1 h2 =>
    exact edge_clock (·.c u) (fun _ => True) hij h1 h2 (fun k => vstep_fork k t u) (fun k t e _ => vstep_c_mono k t e u) (fun _ _ _ _ _ _ => trivial)
      (fun k => vstep_c_mono k u e u)
  | @join t u e hij h1 h2 =>
    exact edge_clock (·.c u) (fun _ => True) hij h1 h2 (fun _ => .refl _) (fun k t e _ => vstep_c_mono k t e u) (fun _ _ _ _ _ _ => trivial)
      (fun k => vstep_join k t u)
  | @forkJoin t w u hij h1 h2 =>
    exact edge_clock (·.c u) (fun _ => True) hij h1 h2 (fun k => vstep_fork k w u) (fun k t e _ => vstep_c_mono k t e u) (fun _ _ _ _ _ _ => trivial)
      (fun k => vstep_join k t u)

theorem HB.clock_le {tr : Trace} {i j : Nat} (h : HB tr i j) : VLe (clockOf tr i) (clockOf tr j) := by
  induction h with
  | @po i j t _ e' hij h1 h2 =>
    -- program order is an edge carried by the thread's own clock
    exact edge_clock (·.c t) (fun _ => True) hij h1 h2 (fun _ => .refl _) (fun k v e _ => vstep_c_mono k v e t)
      (fun _ _ _ _ _ _ => trivial) (fun k => vstep_c_mono k t e' t)
  | sw hsw => exact sw_clock hsw
  | trans _ _ ih1 ih2 => exact ih1.trans ih2

/-- **Clock completeness.**  Happens-before is reflected by the vector clocks: the clock of the
thread of `j` right after `j` dominates the clock of the thread of `i` right after `i`. -/
theorem hb_clock {tr : Trace} {i j : Nat} (h : HB tr i j) :
    ∀ t u ei ej, tr[i]? = some (t, ei) → tr[j]? = some (u, ej) → VLe ((clocksAfter tr (i + 1)).c t) ((clocksAfter tr (j + 1)).c u) :=
  fun _ _ _ _ hi hj => clockOf_eq hi ▸ clockOf_eq hj ▸ h.clock_le

theorem hb_known {tr : Trace} {i j : Nat} {t u : Tid} {ei ej : Ev} (h : HB tr i j) (hi : tr[i]? = some (t, ei))
    (hj : tr[j]? = some (u, ej)) : lt tr i t ≤ vget ((clocksAfter tr (j + 1)).c u) t :=
  Nat.le_trans (lb_vrun (tr.take (i + 1)) t) (hb_clock h t u ei ej hi hj t)

/-- the own entry of a thread's clock is at most its local time (`lb_vrun` is the other half) -/
theorem own_le_lt (tr : Trace) (n : Nat) (t : Tid) : vget ((clocksAfter tr (n + 1)).c t) t ≤ lt tr n t :=
  ((just_vrun (tr.take (n + 1))).jC t).1 t

/-- a recorded write epoch is at most the local time of a write among the first `n` positions -/
def SeenW (tr : Trace) (n : Nat) (x : Loc) (o : Option (Tid × Nat)) : Prop :=
  ∀ (w : Tid) (nn : Nat), o = some (w, nn) → ∃ iw : Nat, iw < n ∧ tr[iw]? = some (w, Ev.wr x) ∧ nn ≤ lt tr iw w

/-- a non-zero entry of the read clock is at most the local time of a read among the first `n` positions -/
def SeenR (tr : Trace) (n : Nat) (x : Loc) (r : VC) : Prop :=
  ∀ u : Tid, 0 < vget r u → ∃ i : Nat, i < n ∧ tr[i]? = some (u, Ev.rd x) ∧ vget r u ≤ lt tr i u

theorem SeenW.succ {tr : Trace} {n : Nat} {x : Loc} {o : Option (Tid × Nat)} (h : SeenW tr n x o) : SeenW tr (n + 1) x o :=
  fun w nn ho => let ⟨iw, h1, h2⟩ := h w nn ho; ⟨iw, Nat.lt_succ_of_lt h1, h2⟩

theorem SeenR.succ {tr : Trace} {n : Nat} {x : Loc} {r : VC} (h : SeenR tr n x r) : SeenR tr (n + 1) x r :=
  fun u hu => let ⟨i, h1, h2⟩ := h u hu; ⟨i, Nat.lt_succ_of_lt h1, h2⟩

theorem SeenR.read {tr : Trace} {n : Nat} {x : Loc} {r : VC} {t : Tid} {v : Nat} (h : SeenR tr n x r)
    (hn : tr[n]? = some (t, .rd x)) (hv : v ≤ lt tr n t) : SeenR tr (n + 1) x (vset r t v) := by
  intro u hu
  rw [vget_vset] at hu ⊢
  split
  next h' => subst h'; exact ⟨n, Nat.lt_succ_self n, hn, hv⟩
  next h' => rw [if_neg h'] at hu; exact h.succ u hu

/-- what the access history records about the first `n` positions (exact enough for completeness) -/
structure Exact (tr : Trace) (n : Nat) (s : St) : Prop where
  clk : s.clk = clocksAfter tr n
  w : ∀ x, SeenW tr n x (s.a x).w
  r : ∀ x, SeenR tr n x (s.a x).r

theorem run_snoc (tr : Trace) (t : Tid) (e : Ev) : run (tr ++ [(t, e)]) = (run tr).bind (fun s => step s t e) :=
  runFrom_snoc step {} tr t e

theorem run_take_of_no_race {tr : Trace} (hnr : ¬ Race tr) :
    ∀ n, n ≤ tr.length → ∃ s, run (tr.take n) = some s ∧ Exact tr n s := by
  intro n
  induction n with
  | zero => exact fun _ => ⟨{}, rfl, rfl, fun _ _ _ h => by simp [St.a, lget] at h, fun _ _ h => by simp [St.a, lget] at h⟩
  | succ n ih =>
    intro hn
    obtain ⟨s, hrun, hex⟩ := ih (Nat.le_of_succ_le hn)
    obtain ⟨t, e, hte⟩ := get_of_lt (Nat.lt_of_succ_le hn)
    rw [take_succ_get hte, run_snoc, hrun, Option.bind_some]
    have hk : vstep s.clk t e = clocksAfter tr (n + 1) := by rw [clocksAfter_succ hte, hex.clk]
    -- an earlier conflicting access is known to the clock of the new event
    have known : ∀ i u ei, i < n → tr[i]? = some (u, ei) → Conflict tr i n →
        lt tr i u ≤ vget ((vstep s.clk t e).c t) u := fun i u ei hin hi hc =>
      hk ▸ hb_known (Classical.byContradiction fun hno => hnr ⟨i, n, hin, hc, hno⟩) hi hte
    have hown : vget ((vstep s.clk t e).c t) t ≤ lt tr n t := hk ▸ own_le_lt tr n t
    have hwok : ∀ x, (e = .rd x ∨ e = .wr x) → wOK (s.a x).w ((vstep s.clk t e).c t) = true := by
      intro x hacc
      cases hw : (s.a x).w with
      | none => rfl
      | some p =>
        obtain ⟨iw, h1, h2, h3⟩ := hex.w x p.1 p.2 hw
        exact decide_eq_true (Nat.le_trans h3 (known iw p.1 _ h1 h2 ⟨x, p.1, t, _, e, h2, hte, .inr rfl, hacc, .inl rfl⟩))
    cases e with
    | rd x =>
      refine ⟨_, by simp only [step, hwok x (.inl rfl), if_true]; rfl, ?_⟩
      refine ⟨hk, fun y => ?_, fun y => ?_⟩
      · rw [St.a_mk, a_lset_same Acc.w (by rfl)]; exact (hex.w y).succ
      · rw [St.a_mk, a_lset]; split
        next hy => subst hy; exact (hex.r y).read hte hown
        next => exact (hex.r y).succ
    | wr x =>
      have hvle : vle (s.a x).r ((vstep s.clk t (.wr x)).c t) = true := by
        refine vle_iff.mpr fun u => ?_
        rcases Nat.eq_zero_or_pos (vget (s.a x).r u) with h0 | h0
        · exact h0 ▸ Nat.zero_le _
        · obtain ⟨i, h1, h2, h3⟩ := hex.r x u h0
          exact Nat.le_trans h3 (known i u _ h1 h2 ⟨x, u, t, _, _, h2, hte, .inl rfl, .inr rfl, .inr rfl⟩)
      refine ⟨_, by simp only [step, hwok x (.inr rfl), hvle, Bool.and_self, if_true]; rfl, ?_⟩
      refine ⟨hk, fun y => ?_, fun y => ?_⟩
      · rw [St.a_mk, a_lset]; split
        next hy => subst hy; exact fun w nn ho => by cases ho; exact ⟨n, Nat.lt_succ_self n, hte, hown⟩
        next => exact (hex.w y).succ
      · rw [St.a_mk, a_lset_same Acc.r (by rfl)]; exact (hex.r y).succ
    | _ => exact ⟨_, rfl, hk, fun y => (hex.w y).succ, fun y => (hex.r y).succ⟩

/-- **Completeness of the checker**: a trace without a data race is accepted. -/
theorem raceFree_complete {tr : Trace} (h : ¬ Race tr) : raceFree tr = true := by
  obtain ⟨s, hs, _⟩ := run_take_of_no_race h tr.length (Nat.le_refl _)
  rw [List.take_length] at hs
  rw [raceFree, hs]; rfl

/-- a rejection by the checker is a race of the declarative definition -/
theorem race_of_not_raceFree {tr : Trace} (h : raceFree tr = false) : Race tr :=
  Classical.byContradiction fun hn => Bool.noConfusion ((raceFree_complete hn).symm.trans h)

theorem raceFree_iff (tr : Trace) : raceFree tr = true ↔ ¬ Race tr :=
  ⟨raceFree_sound, raceFree_complete⟩

end ConcVerif.HB
