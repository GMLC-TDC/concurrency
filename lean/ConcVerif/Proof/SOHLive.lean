import ConcVerif.Proof.SOH
import ConcVerif.Base.Live
/-! Two-level ranking for `SearchableObjectHolder` (instance of the lexicographic form in `Base/Live.lean`).

Environment events (`isEnv`): the calls (`call`, `callD`), the client dropping a reference (`rel`), the
payload destructor (`pdt`, user code) and the plain-access tap observation `mac` (a stutter step of the
model).  Library steps: `mlk`, every predicate invocation `pcl` of a scan, `uth`, `mul`, `ret`/`exc`, the
destructor's `yld`/`slp`/`retD`.

The number of predicate invocations of a scan is fixed only when the call takes `mapLock` (it is the length
of the scan over the map as it is then), and other threads may still enlarge the map before that; so the
first level `α` counts "has not taken the lock yet" and the second level `μ` is the remaining work once
inside: `pend.length + 3` in a critical section, `3·(7 − c) + …` in the destructor's retry loop.

Second part: enabledness of library steps (`holder_lib`: the lock holder has one; `free_lib`: with the lock free,
so has every thread inside a call), each by exhibiting the edge of `Tr`. -/
namespace ConcVerif.SOH

def isEnv : Ev → Bool
  | .call _ | .callD | .rel _ | .pdt _ | .mac => true
  | _ => false

def Pc.alpha : Pc → Nat
  | .called _ => 1
  | _ => 0

/-- Library steps still to come, counted from the end: `unlocked` 1 (`ret`/`exc`), `thrown` 2 (`mul` first), `cs` with
`pend` invocations left `pend.length + 3` (each `pcl`, then `uth`, `mul`, `exc` in the longest case).  The destructor makes
at most 7 rounds of three steps `mul`, `yld`/`slp`, `mlk` (`dLocked c` → `dWait (c+1)` → `dRelock (c+1)` → `dLocked (c+1)`),
hence `3·(7 − c)` plus what is left of the current round and the final `mul`, `retD`; `dCalled` is one `mlk` before
`dLocked 0` (23), so 24. -/
def Pc.rank : Pc → Nat
  | .idle => 0
  | .called _ => 0
  | .cs _ _ pend => pend.length + 3
  | .thrown _ => 2
  | .unlocked _ _ => 1
  | .dCalled => 24
  | .dLocked c => 3 * (7 - c) + 2
  | .dWait c => 3 * (7 - c) + 4
  | .dRelock c => 3 * (7 - c) + 3
  | .dDone => 1

def α (s : St) (t : Tid) : Nat := (s.pc t).alpha
def μ (s : St) (t : Tid) : Nat := (s.pc t).rank

/-- a library step lowers `α` of the stepping thread (the lock acquisition of a call), or keeps it and lowers
its `μ` (every other library edge: one unit of the remaining work is done) -/
theorem tr_dec {s s' : St} {t : Tid} {e : Ev} (h : Tr s t e s') (he : isEnv e = false) :
    (s'.pc t).alpha < (s.pc t).alpha ∨ ((s'.pc t).alpha = (s.pc t).alpha ∧ (s'.pc t).rank < (s.pc t).rank) := by
  cases h with
  | lin _ hp => rw [setPc_pc_same, hp]; exact .inl Nat.zero_lt_one
  | pdt | callNew | call | rel | callD | mac => cases he
  | dFinal _ hp => rw [setPc_pc_same, hp]; exact .inr ⟨rfl, Nat.lt_add_left _ Nat.one_lt_two⟩
  | dRetry c hp _ hc =>
    have : c < 7 := Nat.lt_of_not_le fun h => hc (.inr h)
    rw [setPc_pc_same, hp]; exact .inr ⟨rfl, by simp only [Pc.rank]; omega⟩
  | _ => rw [setPc_pc_same, ‹s.pc t = _›]; exact .inr ⟨rfl, by simp [Pc.rank]⟩

theorem rankedLex : Live.RankedLex step (fun _ => True) isEnv α μ where
  good := fun _ _ _ _ _ _ _ => trivial
  dec := by
    intro s t e s' _ hs he
    have htr := step_tr hs
    rcases tr_dec htr he with h | ⟨h1, h2⟩
    · exact Or.inl h
    · exact Or.inr ⟨h1, h2, fun u hu => by simp [μ, tr_pc_other htr hu]⟩
  frame := by
    intro s t e s' u _ hs _ hu
    simp [α, tr_pc_other (step_tr hs) hu]

def LibEnabled (s : St) (t : Tid) : Prop := ∃ e, isEnv e = false ∧ (step s t e).isSome = true

theorem Tr.enabled {s s' : St} {t : Tid} {e : Ev} (h : Tr s t e s') : (step s t e).isSome = true := by
  rw [tr_step h]; rfl

theorem Tr.lib {s s' : St} {t : Tid} {e : Ev} (h : Tr s t e s') (he : isEnv e = false) : LibEnabled s t :=
  ⟨e, he, h.enabled⟩

theorem holder_lib {s : St} (hi : Inv s) {t : Tid} (hl : s.lock = some t) : LibEnabled s t := by
  have hcs := (hi.lk t).mp hl
  cases hp : s.pc t with
  | idle | called | unlocked | dCalled | dWait | dRelock | dDone => rw [hp] at hcs; cases hcs
  | cs op res pend =>
    cases pend with
    | cons k r => exact (Tr.pcl op res k r hp).lib rfl
    | nil =>
      by_cases hr : res = .threw
      · exact (Tr.uth op (hr ▸ hp)).lib rfl
      · exact (Tr.mulCs op res hp hr hl).lib rfl
  | thrown op => exact (Tr.mulThrown op hp hl).lib rfl
  | dLocked c =>
    by_cases hc : s.maps.objs = [] ∨ 7 ≤ c
    · exact (Tr.dFinal c hp hl hc).lib rfl
    · exact (Tr.dRetry c hp hl hc).lib rfl

/-- when `mapLock` is free, every thread inside a call has an enabled library step — except a call that
races with the completed destructor of the holder (a use after destruction by the client) -/
theorem free_lib {s : St} (hi : Inv s) (hl : s.lock = none) (t : Tid) :
    s.pc t = .idle ∨ LibEnabled s t ∨ (s.gone = true ∧ ∃ op, s.pc t = .called op) := by
  cases hp : s.pc t with
  | idle => exact .inl rfl
  | cs | thrown | dLocked => cases hl.symm.trans ((hi.lk t).mpr (by rw [hp]; rfl))
  | called op =>
    cases hg : s.gone with
    | false => exact .inr (.inl ((Tr.lin op hp hl hg).lib rfl))
    | true => exact .inr (.inr ⟨rfl, op, rfl⟩)
  | unlocked op res =>
    by_cases hr : res = .threw
    · exact .inr (.inl ((Tr.exc op (hr ▸ hp)).lib rfl))
    · exact .inr (.inl ((Tr.ret op res hp hr).lib rfl))
  | dCalled => exact .inr (.inl ((Tr.dLock hp hl).lib rfl))
  | dWait c =>
    by_cases hc : c % 2 = 1
    · exact .inr (.inl ((Tr.dYld c hp hc).lib rfl))
    · exact .inr (.inl ((Tr.dSlp c hp (by omega)).lib rfl))
  | dRelock c => exact .inr (.inl ((Tr.dRelock c hp hl).lib rfl))
  | dDone => exact .inr (.inl ((Tr.retD hp).lib rfl))

end ConcVerif.SOH
