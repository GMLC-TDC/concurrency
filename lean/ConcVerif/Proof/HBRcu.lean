import ConcVerif.Proof.RcuAll
import ConcVerif.Proof.HBKn
/-! Connection of the rcu_list model (`Model/Rcu.lean`) to the happens-before layer, part 1: the map from
model events to happens-before events and the synchronises-with edges the protocol uses:

* `unlock → lock` of the write mutex;
* a store to a link (`m_head`, `next`) → a load of that link which reads from it (publication of nodes);
* a successful CAS on `m_zombie_head` → every later successful CAS on it: `m_zombie_head` is only ever written
  by RMWs, so no release sequence on it is broken (publication of log records, however relaxed the initial
  load of `m_zombie_head` and the store of the new record's `next` are);
* `owner.store(nullptr)` → a load of that `owner` which reads from it (the grace period).

The memory orders are a parameter (`Ords`) wherever the model insists on `seq_cst` (today's code: `Ords.sc`);
the three accesses the model accepts with any order (`m_zombie_head.load` before a push, `rec->next.store`
before the publishing CAS, `m_tail.load` under the mutex) keep the order the trace shows unless that is `seq_cst`
(then the order under study, as everywhere: `pick`) — the proofs never use an edge through them. -/
namespace ConcVerif.Rcu
open HB (HBeq Kn)

/-- memory orders of the kinds of atomic operation of rcu_list the model requires to be `seq_cst` -/
structure Ords where
  ldLink : HB.Ord := .sc    -- loads of m_head / m_tail / next / back
  stLink : HB.Ord := .sc    -- stores to m_head / m_tail / next / back
  cas : HB.Ord := .sc       -- successful CAS on m_zombie_head
  casFail : HB.Ord := .sc   -- failed CAS on m_zombie_head (a load)
  ldZh : HB.Ord := .sc      -- m_zombie_head.load() of the destructor
  ldRNext : HB.Ord := .sc   -- loads of a record's next
  stRNext : HB.Ord := .sc   -- m_zombie->next.store(n) at the end of a reclaim
  ldOwner : HB.Ord := .sc   -- loads of a record's owner
  stOwner : HB.Ord := .sc   -- m_zombie->owner.store(nullptr)

/-- what the happens-before argument needs of them -/
structure Ords.OK (o : Ords) : Prop where
  stLink : o.stLink.isRel = true
  ldLink : o.ldLink.isAcq = true
  casR : o.cas.isRel = true
  casA : o.cas.isAcq = true
  stOwner : o.stOwner.isRel = true
  ldOwner : o.ldOwner.isAcq = true

/-- today's code: everything seq_cst -/
def Ords.sc : Ords := {}

theorem Ords.sc_ok : Ords.sc.OK := ⟨rfl, rfl, rfl, rfl, rfl, rfl⟩

def cv : Ord → HB.Ord
  | .rlx => .rlx | .con => .con | .acq => .acq | .rel => .rel | .ar => .ar | .sc => .sc

/-- an access written `seq_cst` gets the order under study, any other the order it shows -/
def pick (o : Ord) (x : HB.Ord) : HB.Ord := if o.isSc = true then x else cv o

theorem pick_sc {o : Ord} (x : HB.Ord) (h : o.isSc = true) : pick o x = x := by simp [pick, h]

/-- atomic locations -/
def fldLoc : Fld → Nat
  | .head => 0 | .tail => 1 | .zhead => 2
  | .nnext n => 4 * n + 4 | .nback n => 4 * n + 5 | .rnext r => 4 * r + 6 | .rowner r => 4 * r + 7

def locFld (n : Nat) : Fld :=
  if n < 3 then (if n = 0 then .head else if n = 1 then .tail else .zhead)
  else if n % 4 = 0 then .nnext (n / 4 - 1) else if n % 4 = 1 then .nback (n / 4 - 1)
  else if n % 4 = 2 then .rnext (n / 4 - 1) else .rowner (n / 4 - 1)

theorem locFld_fldLoc (f : Fld) : locFld (fldLoc f) = f := by
  cases f with
  | head | tail | zhead => rfl
  | nnext n =>
    obtain ⟨h1, h2, h3⟩ : ¬ (4 * n + 4 < 3) ∧ (4 * n + 4) % 4 = 0 ∧ (4 * n + 4) / 4 - 1 = n := by omega
    show locFld (4 * n + 4) = _; unfold locFld; rw [if_neg h1, h2, h3]; rfl
  | nback n =>
    obtain ⟨h1, h2, h3⟩ : ¬ (4 * n + 5 < 3) ∧ (4 * n + 5) % 4 = 1 ∧ (4 * n + 5) / 4 - 1 = n := by omega
    show locFld (4 * n + 5) = _; unfold locFld; rw [if_neg h1, h2, h3]; rfl
  | rnext n =>
    obtain ⟨h1, h2, h3⟩ : ¬ (4 * n + 6 < 3) ∧ (4 * n + 6) % 4 = 2 ∧ (4 * n + 6) / 4 - 1 = n := by omega
    show locFld (4 * n + 6) = _; unfold locFld; rw [if_neg h1, h2, h3]; rfl
  | rowner n =>
    obtain ⟨h1, h2, h3⟩ : ¬ (4 * n + 7 < 3) ∧ (4 * n + 7) % 4 = 3 ∧ (4 * n + 7) / 4 - 1 = n := by omega
    show locFld (4 * n + 7) = _; unfold locFld; rw [if_neg h1, h2, h3]; rfl

theorem fldLoc_inj {f g : Fld} (h : fldLoc f = fldLoc g) : f = g := by
  rw [← locFld_fldLoc f, h, locFld_fldLoc]

def Fld.isLink : Fld → Bool
  | .head | .tail | .nnext _ | .nback _ => true
  | _ => false

def Fld.ldOrd (w : Ords) : Fld → HB.Ord
  | .head | .tail | .nnext _ | .nback _ => w.ldLink
  | .zhead => w.ldZh
  | .rnext _ => w.ldRNext
  | .rowner _ => w.ldOwner

def Fld.stOrd (w : Ords) : Fld → HB.Ord
  | .head | .tail | .nnext _ | .nback _ => w.stLink
  | .zhead => .sc
  | .rnext _ => w.stRNext
  | .rowner _ => w.stOwner

/-- plain locations: `data` and `deleted` of a node, `zombie_node` of a record -/
def dataLoc (n : Nat) : Nat := 3 * n
def delLoc (n : Nat) : Nat := 3 * n + 1
def znLoc (r : Nat) : Nat := 3 * r + 2

/-- the plain location a whole-node event (construction, destruction, deallocation) is shown at: `sel`
chooses the field, the theorems hold for both choices -/
def nodeLoc (sel : Bool) (n : Nat) : Nat := if sel = true then dataLoc n else delLoc n

/-- happens-before content of a model event (write mutex = mutex 0) -/
def toHB (w : Ords) (sel : Bool) : Ev → HB.Ev
  | .mlk => .acq 0 .X
  | .mul => .rel 0 .X
  | .ald f o _ => .ld (fldLoc f) (pick o (f.ldOrd w))
  | .ast f o _ => .st (fldLoc f) (pick o (f.stOrd w))
  | .cas o _ _ true _ => .rmw 2 (pick o w.cas)
  | .cas o _ _ false _ => .ld 2 (pick o w.casFail)
  | .conN n _ => .wr (nodeLoc sel n)
  | .des false n => .wr (nodeLoc sel n)
  | .fre false n => .wr (nodeLoc sel n)
  | .pldData n _ => .rd (dataLoc n)
  | .pstData n _ => .wr (dataLoc n)
  | .pldDel n _ => .rd (delLoc n)
  | .pstDel n _ => .wr (delLoc n)
  | .conR r _ _ => .wr (znLoc r)
  | .des true r => .wr (znLoc r)
  | .fre true r => .wr (znLoc r)
  | .pldZn r _ => .rd (znLoc r)
  | .pstZn r _ => .wr (znLoc r)
  | _ => .nop

def hbTrace (w : Ords) (sel : Bool) (es : List (Tid × Ev)) : HB.Trace := es.map (fun p => (p.1, toHB w sel p.2))

theorem hbTrace_append (w : Ords) (sel : Bool) (es ext : List (Tid × Ev)) :
    hbTrace w sel (es ++ ext) = hbTrace w sel es ++ hbTrace w sel ext := by simp [hbTrace]

theorem hbTrace_snoc (w : Ords) (sel : Bool) (es : List (Tid × Ev)) (t : Tid) (e : Ev) :
    hbTrace w sel (es ++ [(t, e)]) = hbTrace w sel es ++ [(t, toHB w sel e)] := by simp [hbTrace]

@[simp] theorem hbTrace_length (w : Ords) (sel : Bool) (es : List (Tid × Ev)) : (hbTrace w sel es).length = es.length := by
  simp [hbTrace]

theorem hbTrace_get {w : Ords} {sel : Bool} {es : List (Tid × Ev)} {i : Nat} {t : Tid} {e : Ev} (h : es[i]? = some (t, e)) :
    (hbTrace w sel es)[i]? = some (t, toHB w sel e) := by simp [hbTrace, h]

theorem hbTrace_get_inv {w : Ords} {sel : Bool} {es : List (Tid × Ev)} {i : Nat} {t : Tid} {he : HB.Ev}
    (h : (hbTrace w sel es)[i]? = some (t, he)) : ∃ e, es[i]? = some (t, e) ∧ toHB w sel e = he :=
  HB.map_get_inv h

theorem toHB_st {w : Ords} {sel : Bool} {e : Ev} {f : Fld} {od : HB.Ord} (h : toHB w sel e = .st (fldLoc f) od) :
    ∃ o v, e = .ast f o v := by
  cases e with
  | ast g o v =>
    simp only [toHB] at h
    injection h with h1 _
    rw [fldLoc_inj h1]; exact ⟨o, v, rfl⟩
  | cas o a b ok c => cases ok <;> simp [toHB] at h
  | des z n => cases z <;> simp [toHB] at h
  | fre z n => cases z <;> simp [toHB] at h
  | _ => simp [toHB] at h

/-- no store to field `f` after position `q` -/
def LatestSt (es : List (Tid × Ev)) (f : Fld) (q : Nat) : Prop := ∀ k w o v, q < k → es[k]? ≠ some (w, Ev.ast f o v)

theorem LatestSt.snoc {es : List (Tid × Ev)} {f : Fld} {q : Nat} {t : Tid} {e : Ev} (h : LatestSt es f q)
    (he : ∀ o v, e ≠ .ast f o v) : LatestSt (es ++ [(t, e)]) f q := by
  intro k w o v hqk hk
  rcases HB.lq_snoc hk with ⟨_, hk'⟩ | ⟨_, hp⟩
  · exact h k w o v hqk hk'
  · injection hp with _ h2; exact he o v h2.symm

theorem LatestSt.last (es : List (Tid × Ev)) (f : Fld) (x : Tid × Ev) : LatestSt (es ++ [x]) f es.length := by
  intro k w o v hk hc
  have := HB.lq_lt hc
  simp at this; omega

/-! ### the synchronises-with edges -/

theorem sw_mutex {w : Ords} {sel : Bool} {es : List (Tid × Ev)} {k : Nat} {v t : Tid} (hk : es[k]? = some (v, .mul)) :
    HB.Sw (hbTrace w sel es ++ [(t, toHB w sel .mlk)]) k (hbTrace w sel es).length := by
  have hlt : k < (hbTrace w sel es).length := by simp; exact HB.lq_lt hk
  exact .mutex (md := .X) (md' := .X) hlt (HB.lq_mono _ (hbTrace_get hk)) (HB.lq_last _ _) (.inl rfl)

theorem sw_st_ld {w : Ords} {sel : Bool} {es : List (Tid × Ev)} {f : Fld} {q : Nat} {u t : Tid} {o o' : Ord}
    {v v' : Option Nat} (hr : (f.stOrd w).isRel = true) (ha : (f.ldOrd w).isAcq = true)
    (hq : es[q]? = some (u, .ast f o v)) (ho : o.isSc = true) (ho' : o'.isSc = true) (hl : LatestSt es f q) :
    HB.Sw (hbTrace w sel es ++ [(t, toHB w sel (.ald f o' v'))]) q (hbTrace w sel es).length := by
  have hlt : q < (hbTrace w sel es).length := by simp; exact HB.lq_lt hq
  refine .atomic (a := fldLoc f) hlt (HB.lq_mono _ (hbTrace_get hq)) (HB.lq_last _ _)
    ⟨f.stOrd w, hr, .inl (by simp [toHB, pick_sc _ ho])⟩ ⟨f.ldOrd w, ha, .inl (by simp [toHB, pick_sc _ ho'])⟩ ?_
  intro k x od h1 h2 hc
  rw [List.getElem?_append_left h2] at hc
  obtain ⟨e, he, hm⟩ := hbTrace_get_inv hc
  obtain ⟨o2, v2, rfl⟩ := toHB_st hm
  exact hl k x o2 v2 h1 he

/-- `m_zombie_head` is never stored to (it is only written by CAS) -/
def NoZhSt (es : List (Tid × Ev)) : Prop := ∀ (k : Nat) (u : Tid) (o : Ord) (v : Option Nat), es[k]? ≠ some (u, Ev.ast .zhead o v)

/-- every earlier successful CAS on `m_zombie_head` synchronises with the successful CAS that has just
been performed: no release sequence on `m_zombie_head` is ever broken -/
theorem sw_cas {w : Ords} (hw : w.OK) {sel : Bool} {es : List (Tid × Ev)} (hz : NoZhSt es) {p : Nat} {u t : Tid} {o o' : Ord}
    {a b c a' b' c' : Option Nat} (hp : es[p]? = some (u, .cas o a b true c)) (ho : o.isSc = true) (ho' : o'.isSc = true) :
    HB.Sw (hbTrace w sel es ++ [(t, toHB w sel (.cas o' a' b' true c'))]) p (hbTrace w sel es).length := by
  have hlt : p < (hbTrace w sel es).length := by simp; exact HB.lq_lt hp
  refine .atomic (a := 2) hlt (HB.lq_mono _ (hbTrace_get hp)) (HB.lq_last _ _)
    ⟨w.cas, hw.casR, .inr (by simp [toHB, pick_sc _ ho])⟩ ⟨w.cas, hw.casA, .inr (by simp [toHB, pick_sc _ ho'])⟩ ?_
  intro k x od _ h2 hc
  rw [List.getElem?_append_left h2] at hc
  obtain ⟨e, he, hm⟩ := hbTrace_get_inv hc
  obtain ⟨o2, v2, rfl⟩ := toHB_st (f := .zhead) hm
  exact hz k x o2 v2 he

theorem kn_app {w : Ords} {sel : Bool} {es : List (Tid × Ev)} {t : Tid} {i : Nat} (ext : List (Tid × Ev))
    (h : Kn (hbTrace w sel es) t i) : Kn (hbTrace w sel (es ++ ext)) t i := by
  rw [hbTrace_append]; exact h.mono _

theorem hbeq_own {w : Ords} {sel : Bool} {es : List (Tid × Ev)} {t : Tid} {i : Nat} (e : Ev)
    (h : Kn (hbTrace w sel es) t i) : HBeq (hbTrace w sel (es ++ [(t, e)])) i es.length := by
  rw [hbTrace_snoc]
  have := h.hbeq_of_own (e := toHB w sel e)
  simpa using this

theorem hbeq_app {w : Ords} {sel : Bool} {es : List (Tid × Ev)} {i j : Nat} (ext : List (Tid × Ev))
    (h : HBeq (hbTrace w sel es) i j) : HBeq (hbTrace w sel (es ++ ext)) i j := by
  rw [hbTrace_append]; exact h.mono _

theorem po_hb {w : Ords} {sel : Bool} {es : List (Tid × Ev)} {i j : Nat} {t : Tid} {ei ej : Ev} (hij : i < j)
    (hi : es[i]? = some (t, ei)) (hj : es[j]? = some (t, ej)) : HB.HB (hbTrace w sel es) i j :=
  .po hij (hbTrace_get hi) (hbTrace_get hj)

end ConcVerif.Rcu
