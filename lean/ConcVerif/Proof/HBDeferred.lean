import ConcVerif.Proof.DeferredO
import ConcVerif.Proof.HBUtil
/-! Connection of the `deferred_guarded` model to the happens-before layer: the payload of a queued
task (the closure pushed into `m_pendingList` under its mutex `qm`) reaches the draining thread
through `qm` alone — `unlock qm` of the submitter → `lock qm` of the drainer — so the memory orders of
the pending flag `m_pendingWrites` play no role for data-race freedom (`FlagOrds` is an arbitrary
parameter with no side condition).  They matter for LIVENESS only: the no-stranding theorem (C06)
is about interleavings in which the flag store is seen by the next `do_pending_writes`. -/
namespace ConcVerif.Deferred
open HB (HBeq KnA lq_lt lq_mono lq_snoc lq_last)

/-- memory orders of the two operations on `m_pendingWrites` (today's code: seq_cst) -/
structure FlagOrds where
  ld : HB.Ord := .sc
  st : HB.Ord := .sc

variable {s s' : St} {t u : Tid} {p p' : Pc} {e : Ev} {spur : Bool} {es : List (Tid × Ev)} {o : FlagOrds}

/-- happens-before content of a model event: `m` = mutex 0 (shared-capable), `qm` = mutex 1, the flag =
atomic 0, the wrapped object = plain location 0 -/
def toHB (o : FlagOrds) : Ev → HB.Ev
  | .mtl true => .acq 0 .X
  | .mul => .rel 0 .X
  | .slk => .acq 0 .S
  | .stl true => .acq 0 .S
  | .stf true => .acq 0 .S
  | .sul => .rel 0 .S
  | .fld _ => .ld 0 o.ld
  | .fst _ => .st 0 o.st
  | .qlk => .acq 1 .X
  | .qul => .rel 1 .X
  | .prd _ => .rd 0
  | .pwr _ => .wr 0
  | _ => .nop

def hbTrace (o : FlagOrds) (es : List (Tid × Ev)) : HB.Trace := es.map (fun p => (p.1, toHB o p.2))

theorem hbTrace_snoc (o : FlagOrds) (es : List (Tid × Ev)) (t : Tid) (e : Ev) :
    hbTrace o (es ++ [(t, e)]) = hbTrace o es ++ [(t, toHB o e)] := by simp [hbTrace]

theorem hbTrace_append (o : FlagOrds) (es ext : List (Tid × Ev)) :
    hbTrace o (es ++ ext) = hbTrace o es ++ hbTrace o ext := by simp [hbTrace]

@[simp] theorem hbTrace_length (o : FlagOrds) (es : List (Tid × Ev)) : (hbTrace o es).length = es.length := by
  simp [hbTrace]

theorem hbTrace_get {i : Nat} (h : es[i]? = some (t, e)) :
    (hbTrace o es)[i]? = some (t, toHB o e) := by simp [hbTrace, h]

/-- position `p` is the `unlock qm` that ends the push bracket of task `k`: the thread was at
`qPush k _` (inside `m_pendingList.lock()` … push_back … unlock) -/
def Pushed (spur : Bool) (es : List (Tid × Ev)) (p : Nat) (k : TaskId) : Prop :=
  ∃ s1 u a, run spur (es.take p) = some s1 ∧ s1.pc u = .qPush k a ∧ es[p]? = some (u, Ev.qul)

theorem Pushed.mono {p : Nat} {k : TaskId} (ext : List (Tid × Ev))
    (h : Pushed spur es p k) : Pushed spur (es ++ ext) p k := by
  obtain ⟨s1, u, a, h1, h2, h3⟩ := h
  refine ⟨s1, u, a, ?_, h2, lq_mono ext h3⟩
  rw [List.take_append_of_le_length (Nat.le_of_lt (lq_lt h3))]; exact h1

/-- the holder of `qm` knows the push of every queued task -/
def QA (spur : Bool) (o : FlagOrds) (es : List (Tid × Ev)) (queue : List TaskId) (qm : Option Tid) : Prop :=
  ∀ k ∈ queue, ∃ p, Pushed spur es p k ∧ ∀ d, qm = some d → KnA (hbTrace o es) d p

/-- the exclusive holder of `m` (the drainer) knows the push of every task of its batch -/
def QB (spur : Bool) (o : FlagOrds) (es : List (Tid × Ev)) (batch : List TaskId) (mx : Option Tid) : Prop :=
  ∀ k ∈ batch, ∃ p, Pushed spur es p k ∧ ∀ d, mx = some d → KnA (hbTrace o es) d p

theorem QA_mono {q : List TaskId} {m : Option Tid}
    (x : Tid × Ev) (h : QA spur o es q m) : QA spur o (es ++ [x]) q m := by
  intro k hk
  obtain ⟨p, h1, h2⟩ := h k hk
  exact ⟨p, h1.mono _, fun d hd => by rw [hbTrace_append]; exact (h2 d hd).mono _⟩

theorem QB_mono {b : List TaskId} {m : Option Tid}
    (x : Tid × Ev) (h : QB spur o es b m) : QB spur o (es ++ [x]) b m :=
  QA_mono x h

theorem q_step
    (hr : run spur es = some s) (ha : QA spur o es s.queue s.qm) (hb : QB spur o es s.batch s.mx)
    (hs : step s t e = some s') :
    QA spur o (es ++ [(t, e)]) s'.queue s'.qm ∧ QB spur o (es ++ [(t, e)]) s'.batch s'.mx := by
  have hinv : Inv s := inv_reachable ⟨es, hr⟩
  have ha' := QA_mono (t, e) ha
  have hb' := QB_mono (t, e) hb
  have unheld {l : List TaskId} {m : Option Tid} (h : QA spur o (es ++ [(t, e)]) l m) :
      QA spur o (es ++ [(t, e)]) l none := fun k hk => let ⟨p, h1, _⟩ := h k hk; ⟨p, h1, nofun⟩
  generalize hp : s.pc t = pc
  cases Step.of_step hp hs with
  | qlkM | qlkD =>
    -- the new holder of `qm` learns every queued push through the edge unlock → lock
    refine ⟨fun k hk => ?_, hb'⟩
    obtain ⟨p, h1, _⟩ := ha k hk
    refine ⟨p, h1.mono _, fun d hd => ?_⟩
    cases hd
    obtain ⟨_, u, _, _, _, h3⟩ := h1
    rw [hbTrace_snoc]
    have hlt : p < (hbTrace o es).length := by rw [hbTrace_length]; exact lq_lt h3
    exact KnA.of_last (.inr (.sw (.mutex (md := .X) (md' := .X) hlt (HB.lq_mono _ (hbTrace_get h3)) (HB.lq_last _ _)
      (.inl rfl))))
  | qulM =>
    refine ⟨fun k' hk' => ?_, hb'⟩
    rcases List.mem_append.1 hk' with hk' | hk'
    · exact unheld ha' k' hk'
    · cases List.mem_singleton.1 hk'
      exact ⟨es.length, ⟨s, t, _, by rw [List.take_left' rfl]; exact hr, hp, lq_last _ _⟩, nofun⟩
  | qulD hq =>
    -- the swap: what the holder of `qm` knew about the queue, the holder of `m` (the same thread) knows about the batch
    refine ⟨nofun, fun k hk => ?_⟩
    obtain ⟨p, h1, h2⟩ := ha k hk
    refine ⟨p, h1.mono _, fun d hd => ?_⟩
    have hx : s.mx = some t := (hinv.L.mxP t).2 (by rw [hp]; rfl)
    cases hx.symm.trans hd
    rw [hbTrace_append]; exact (h2 _ hq).mono _
  | ucbD hbb => exact ⟨ha', fun k hk => hb' k (by rw [hbb]; exact List.mem_cons_of_mem _ hk)⟩
  | mtlM hm | mtlS hm =>
    refine ⟨ha', fun k hk => ?_⟩
    have hk : k ∈ s.batch := hk
    rw [hinv.C.no_batch_unless (t := t) (.inl hm)] at hk; cases hk
  | mulS | mulM => exact ⟨ha', unheld hb'⟩
  | _ => exact ⟨ha', hb'⟩

theorem q_run (h : run spur es = some s) :
    QA spur o es s.queue s.qm ∧ QB spur o es s.batch s.mx :=
  runFrom_trace_inv (s0 := init spur) (P := fun es s => QA spur o es s.queue s.qm ∧ QB spur o es s.batch s.mx) ⟨nofun, nofun⟩
    (fun _ _ _ _ _ hr ih hs => q_step hr ih.1 ih.2 hs) h

/-- **the drainer enters the function of a queued task only after that task's push**: either the
thread runs its own function on the direct path (the closure never left the thread), or the push
bracket of the task ended at some `p` that happens-before the entry — for ANY orders of the flag -/
theorem closure_hb (o : FlagOrds) {es : List (Tid × Ev)} {s s' : St} {t : Tid} {j : TaskId}
    (h : run spur es = some s) (hs : step s t (.ucb j) = some s') :
    (s.batch = [] ∧ ∃ a, s.pc t = .dRun (.mod j a)) ∨
    ∃ p, Pushed spur es p j ∧ HB.HB (hbTrace o (es ++ [(t, .ucb j)])) p es.length := by
  generalize hp : s.pc t = pc
  cases Step.of_step hp hs with
  | ucbA hb => exact .inl ⟨hb, _, rfl⟩
  | ucbD hb =>
    right
    obtain ⟨p, h1, h2⟩ := (q_run (o := o) h).2 j (by rw [hb]; exact List.mem_cons_self)
    have hx : s.mx = some t := ((inv_reachable ⟨es, h⟩).L.mxP t).2 (by rw [hp]; rfl)
    refine ⟨p, h1, ?_⟩
    have hk := (h2 t hx).to_last (toHB o (.ucb j))
    rw [hbTrace_length] at hk
    rw [hbTrace_snoc]; exact hk

end ConcVerif.Deferred
