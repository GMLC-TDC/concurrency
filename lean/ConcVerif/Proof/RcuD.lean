import ConcVerif.Proof.RcuC
/-! Layer D of the rcu_list invariant: the allocation ledger of the nodes and the zombie records that name them. -/
namespace ConcVerif.Rcu

/-- pcs relevant to the node ledger, collapsed to one representative per class (the arguments a representative does not
need are set to `none` / `0` / `.beg` and never read; the destructor's record pcs borrow the reclaimer's representatives) -/
def DView : Pc → Pc
  | .pCons k n => .pCons k n
  | .pLoad k n | .pE1 k n | .pF3 k n => .pLoad k n
  | .pF1 k n _ | .pF2 k n _ | .pB1 k n _ | .pB2 k n _ => .pLoad k n
  | .eMark c _ z | .eBack c _ z => .eMark c none z
  | .eNext c _ _ z => .eMark c none z
  | .eUnl c _ _ _ z => .eMark c none z
  | .eFix _ _ _ _ z => .eZh none z
  | .eAlloc c _ => .eAlloc c none
  | .eCons c _ _ => .eAlloc c none
  | .eZh _ z => .eZh none z
  | .pushStore (.erase _) z _ => .eZh none z
  | .pushCas (.erase _) z _ => .eZh none z
  | .regCons _ r => .regCons .beg r
  | .pushStore (.reg _) r _ => .regCons .beg r
  | .pushCas (.reg _) r _ => .regCons .beg r
  | .rZn _ m => .rZn 0 m
  | .dOwner m | .dRNext m => .rZn 0 m
  | .dZn m _ => .rZn 0 m
  | .rDesN _ m d => .rDesN 0 m d
  | .dDesZN m _ d => .rDesN 0 m d
  | .rFreN _ m d => .rFreN 0 m d
  | .dFreZN m _ d => .rFreN 0 m d
  | .rNext _ m => .rNext 0 m
  | .rDesZ _ m _ | .rFreZ _ m _ => .rNext 0 m
  | .dDesZ m _ | .dFreZ m _ => .rNext 0 m
  | .dNext m => .dNext m
  | .dDesN m _ => .dNext m
  | .dFreN m _ => .dFreN m none
  | _ => .idle

structure DSt where
  nled : Nat → Led
  rled : Nat → Led
  zn : Nat → Option Nat        -- `zombie_node` of each record
  del : Nat → Bool             -- `deleted` of each node
  nN : Nat
  lst : List Nat
  order : List Nat
  log : List Nat
  vpc : Tid → Pc

def St.dview (s : St) : DSt :=
  { nled := s.nled, rled := s.rled, zn := fun x => (s.recs x).znode, del := fun n => (s.nodes n).deleted, nN := s.nN,
    lst := s.lst, order := s.order, log := s.log, vpc := fun u => DView (s.pc u) }

def NoRec (d : DSt) (c : Nat) : Prop := ∀ x, d.rled x = .cons → d.zn x ≠ some c

/-- what the holder of a node or of a record knows about its ledger state, by view: every node and every record that is
neither freed nor linked / on the log is held by exactly one thread, and the holder's pc fixes the ledger state -/
def HeldP (d : DSt) : Pc → Prop
  | .pCons _ n => d.nled n = .alloc
  | .pLoad _ n => d.nled n = .cons
  | .eMark c _ z => d.zn z = some c ∧ d.nled c = .cons
  | .eAlloc c _ => NoRec d c ∧ d.nled c = .cons
  | .eZh _ z => ∃ c, d.zn z = some c ∧ d.nled c = .cons
  | .regCons _ r => d.zn r = none
  | .rZn _ m => ∀ c, d.zn m = some c → d.nled c = .cons
  | .rDesN _ m c => d.zn m = some c ∧ d.nled c = .cons
  | .rFreN _ m c => d.zn m = some c ∧ d.nled c = .dest
  | .rNext _ m => ∀ c, d.zn m = some c → d.nled c = .freed
  | .dNext m => d.nled m = .cons
  | .dFreN m _ => d.nled m = .dest
  | _ => True

structure InvDv (d : DSt) : Prop where
  cntN : ∀ n, d.nled n = .none ↔ d.nN ≤ n
  lstCons : ∀ n ∈ d.lst, d.nled n = .cons ∨ ∃ t, d.vpc t = .dFreN n none
  /-- a constructed record names an unlinked node, except the record of an `erase` that has not unlinked its node yet -/
  zdel : ∀ x c, d.rled x = .cons → d.zn x = some c →
    (d.del c = true ∧ c ∈ d.order ∧ c ∉ d.lst) ∨ ∃ t, d.vpc t = .eMark c none x
  zinj : ∀ x y c, d.rled x = .cons → d.rled y = .cons → d.zn x = some c → d.zn y = some c → x = y
  znOrd : ∀ x c, d.zn x = some c → c ∈ d.order
  zlog : ∀ x ∈ d.log, ∀ c, d.zn x = some c → d.nled c = .cons
  held : ∀ t, HeldP d (d.vpc t)
  cls : ∀ n, n < d.nN → d.nled n = .freed ∨ n ∈ d.lst ∨ (∃ t k, d.vpc t = .pCons k n ∨ d.vpc t = .pLoad k n) ∨
    (∃ x, d.rled x = .cons ∧ d.zn x = some n) ∨ (∃ t, d.vpc t = .eAlloc n none)

def InvD (s : St) : Prop := InvDv s.dview

theorem invD_init : InvD init :=
  ⟨fun n => ⟨fun _ => Nat.zero_le n, fun _ => rfl⟩, nofun, (fun _ _ h => nomatch h), (fun _ _ _ h => nomatch h),
    (fun _ _ h => nomatch h), nofun, fun _ => trivial, fun _ h => absurd h (Nat.not_lt_zero _)⟩

theorem invD_of_view {s s' : St} (h : InvD s) (hv : s'.dview = s.dview) : InvD s' := by
  unfold InvD; rw [hv]; exact h

@[simp] theorem dview_nled (s : St) : s.dview.nled = s.nled := rfl
@[simp] theorem dview_rled (s : St) : s.dview.rled = s.rled := rfl
@[simp] theorem dview_zn (s : St) (x : Nat) : s.dview.zn x = (s.recs x).znode := rfl
@[simp] theorem dview_del (s : St) (n : Nat) : s.dview.del n = (s.nodes n).deleted := rfl
@[simp] theorem dview_nN (s : St) : s.dview.nN = s.nN := rfl
@[simp] theorem dview_lst (s : St) : s.dview.lst = s.lst := rfl
@[simp] theorem dview_order (s : St) : s.dview.order = s.order := rfl
@[simp] theorem dview_log (s : St) : s.dview.log = s.log := rfl
@[simp] theorem dview_vpc (s : St) (u : Tid) : s.dview.vpc u = DView (s.pc u) := rfl

/-- the view `v` says something about the ledger state of node `n0` -/
def Mentions (d : DSt) (v : Pc) (n0 : Nat) : Prop :=
  match v with
  | .pCons _ n | .pLoad _ n => n = n0
  | .eMark c _ _ | .eAlloc c _ => c = n0
  | .eZh _ z => d.zn z = some n0
  | .rZn _ m | .rNext _ m => d.zn m = some n0
  | .rDesN _ _ c | .rFreN _ _ c => c = n0
  | .dNext m | .dFreN m _ => m = n0
  | _ => False

/-- `HeldP` only looks at the ledger of the nodes the view mentions -/
theorem heldP_upd_nled {d : DSt} {v : Pc} {n0 : Nat} {l : Led} (h : HeldP d v) (hm : ¬ Mentions d v n0) :
    HeldP { d with nled := upd d.nled n0 l } v := by
  cases v with
  | pCons _ n | pLoad _ n | dNext n | dFreN n _ => exact (upd_other _ _ _ _ hm).trans h
  | eMark c _ z | rDesN _ z c | rFreN _ z c | eAlloc c _ => exact ⟨h.1, (upd_other _ _ _ _ hm).trans h.2⟩
  | eZh _ z =>
    obtain ⟨c, h1, h2⟩ := h
    exact ⟨c, h1, (upd_other _ _ _ _ (fun e : c = n0 => hm (e ▸ h1))).trans h2⟩
  | rZn _ m | rNext _ m => exact fun c hc => (upd_other _ _ _ _ (fun e : c = n0 => hm (e ▸ hc))).trans (h c hc)
  | regCons => exact h
  | _ => trivial

/-- `HeldP` only reads `nled`, `zn` and survives when records stop being constructed -/
theorem heldP_mono {d d' : DSt} {v : Pc} (h : HeldP d v) (h1 : d'.nled = d.nled) (h3 : d'.zn = d.zn)
    (h2 : ∀ x, d'.rled x = .cons → d.rled x = .cons) : HeldP d' v := by
  cases v with
  | pCons _ n | pLoad _ n | dNext n | dFreN n _ => exact (congrFun h1 n).trans h
  | eMark c _ z | rDesN _ z c | rFreN _ z c => exact ⟨(congrFun h3 z).trans h.1, (congrFun h1 c).trans h.2⟩
  | eAlloc c _ => exact ⟨fun x hx hz => h.1 x (h2 x hx) ((congrFun h3 x).symm.trans hz), (congrFun h1 c).trans h.2⟩
  | eZh _ z =>
    obtain ⟨c, h4, h5⟩ := h
    exact ⟨c, (congrFun h3 z).trans h4, (congrFun h1 c).trans h5⟩
  | rZn _ m | rNext _ m => exact fun c hc => (congrFun h1 c).trans (h c ((congrFun h3 m).symm.trans hc))
  | regCons _ r => exact (congrFun h3 r).trans h
  | _ => trivial

/-- general frame lemma of layer D: the node ledger and the `zombie_node` fields do not change; records may stop being
constructed, `deleted` flags may be set, `lst` / `order` / `log` may grow or shrink in the stated ways; `t` changes its view -/
theorem invD_gen {s s' : St} {t : Tid} {p : Pc} (h : InvD s) (p' : Pc) (hpc : s.pc t = p)
    (h1 : s'.nled = s.nled)
    (h2 : ∀ x, s'.rled x = .cons → s.rled x = .cons)
    (h2' : ∀ x, s.rled x = .cons → s'.rled x ≠ .cons → ∀ c, (s.recs x).znode = some c → s.nled c = .freed)
    (h3 : ∀ x, (s'.recs x).znode = (s.recs x).znode)
    (h4 : ∀ c, c ∈ s.order → (s.nodes c).deleted = true → (s'.nodes c).deleted = true)
    (h5 : s'.nN = s.nN)
    (h6a : ∀ x ∈ s'.lst, x ∈ s.lst ∨ (s.nled x = .cons ∧ x ∉ s.order))
    (h6b : ∀ x ∈ s.lst, x ∈ s'.lst ∨ ∃ z, s'.rled z = .cons ∧ (s.recs z).znode = some x)
    (h7 : ∀ x ∈ s.order, x ∈ s'.order)
    (h8 : ∀ x ∈ s'.log, x ∈ s.log ∨ ∀ c, (s.recs x).znode = some c → s.nled c = .cons)
    (h9 : s'.pc = upd s.pc t p')
    (hheld : HeldP s'.dview (DView p'))
    (hlst : ∀ n, DView p = .dFreN n none → DView p' = .dFreN n none ∨ s.nled n = .cons ∨ n ∉ s'.lst)
    (hcls : ∀ n, ((∃ k, DView p = .pCons k n ∨ DView p = .pLoad k n) ∨ DView p = .eAlloc n none) →
      ((∃ k, DView p' = .pCons k n ∨ DView p' = .pLoad k n) ∨ DView p' = .eAlloc n none) ∨
        s.nled n = .freed ∨ n ∈ s'.lst ∨ ∃ x, s'.rled x = .cons ∧ (s.recs x).znode = some n)
    (hzd : ∀ c z, DView p = .eMark c none z →
      DView p' = .eMark c none z ∨ ((s'.nodes c).deleted = true ∧ c ∈ s'.order ∧ c ∉ s'.lst)) : InvD s' := by
  subst hpc
  obtain ⟨d1, d2, d3, d4, d8, d5, d6, d7⟩ := h
  simp only [dview_nled, dview_rled, dview_zn, dview_del, dview_nN, dview_lst, dview_order, dview_log, dview_vpc] at *
  have hzn : s'.dview.zn = s.dview.zn := by funext x; exact h3 x
  refine ⟨?_, ?_, ?_, ?_, ?_, ?_, ?_, ?_⟩
  all_goals simp only [dview_nled, dview_rled, dview_zn, dview_del, dview_nN, dview_lst, dview_order, dview_log, dview_vpc,
    h1, h3, h5, h9]
  · exact d1
  · intro n hn
    rcases h6a n hn with g | g
    · rcases d2 n g with f | ⟨u, hu⟩
      · exact Or.inl f
      · by_cases hut : u = t
        · subst hut
          rcases hlst n hu with g' | g' | g'
          · exact Or.inr ⟨u, by rw [upd_same]; exact g'⟩
          · exact Or.inl g'
          · exact absurd hn g'
        · exact Or.inr ⟨u, by rw [upd_other _ _ _ _ hut]; exact hu⟩
    · exact Or.inl g.1
  · intro x c hx hc
    rcases d3 x c (h2 x hx) hc with ⟨e1, e2, e3⟩ | ⟨u, hu⟩
    · refine Or.inl ⟨h4 c e2 e1, h7 c e2, ?_⟩
      intro hm
      rcases h6a c hm with g | g
      · exact e3 g
      · exact g.2 e2
    · by_cases hut : u = t
      · subst hut
        rcases hzd c x hu with g | g
        · exact Or.inr ⟨u, by rw [upd_same]; exact g⟩
        · exact Or.inl g
      · exact Or.inr ⟨u, by rw [upd_other _ _ _ _ hut]; exact hu⟩
  · intro x y c hx hy; exact d4 x y c (h2 x hx) (h2 y hy)
  · intro x c hc; exact h7 c (d8 x c hc)
  · intro x hx c hc
    rcases h8 x hx with g | g
    · exact d5 x g c hc
    · exact g c hc
  · intro u
    by_cases hut : u = t
    · subst hut; rw [upd_same]; exact hheld
    · rw [upd_other _ _ _ _ hut]
      exact heldP_mono (d := s.dview) (d6 u) h1 hzn h2
  · intro n hn
    have back : ∀ x, s.rled x = .cons → (s.recs x).znode = some n →
        s.nled n = .freed ∨ ∃ x, s'.rled x = .cons ∧ (s.recs x).znode = some n := by
      intro x hx1 hx2
      by_cases hc : s'.rled x = .cons
      · exact Or.inr ⟨x, hc, hx2⟩
      · exact Or.inl (h2' x hx1 hc n hx2)
    have lstc : n ∈ s.lst → n ∈ s'.lst ∨ ∃ z, s'.rled z = .cons ∧ (s.recs z).znode = some n := h6b n
    rcases d7 n hn with f | f | ⟨u, k, hu⟩ | ⟨x, hx1, hx2⟩ | ⟨u, hu⟩
    · exact Or.inl f
    · rcases lstc f with g | g
      · exact Or.inr (Or.inl g)
      · exact Or.inr (Or.inr (Or.inr (Or.inl g)))
    · by_cases hut : u = t
      · subst hut
        rcases hcls n (Or.inl ⟨k, hu⟩) with (⟨k', g⟩ | g) | g | g | g
        · exact Or.inr (Or.inr (Or.inl ⟨u, k', by rw [upd_same]; exact g⟩))
        · exact Or.inr (Or.inr (Or.inr (Or.inr ⟨u, by rw [upd_same]; exact g⟩)))
        · exact Or.inl g
        · exact Or.inr (Or.inl g)
        · exact Or.inr (Or.inr (Or.inr (Or.inl g)))
      · exact Or.inr (Or.inr (Or.inl ⟨u, k, by rw [upd_other _ _ _ _ hut]; exact hu⟩))
    · rcases back x hx1 hx2 with g | g
      · exact Or.inl g
      · exact Or.inr (Or.inr (Or.inr (Or.inl g)))
    · by_cases hut : u = t
      · subst hut
        rcases hcls n (Or.inr hu) with (⟨k', g⟩ | g) | g | g | g
        · exact Or.inr (Or.inr (Or.inl ⟨u, k', by rw [upd_same]; exact g⟩))
        · exact Or.inr (Or.inr (Or.inr (Or.inr ⟨u, by rw [upd_same]; exact g⟩)))
        · exact Or.inl g
        · exact Or.inr (Or.inl g)
        · exact Or.inr (Or.inr (Or.inr (Or.inl g)))
      · exact Or.inr (Or.inr (Or.inr (Or.inr ⟨u, by rw [upd_other _ _ _ _ hut]; exact hu⟩)))

/-- views that the exceptions of `lstCons`, `zdel` and `cls` do not name -/
def quietD : Pc → Prop
  | .dFreN .. | .pCons .. | .pLoad .. | .eAlloc .. | .eMark .. => False
  | _ => True

theorem quietD_ne {v : Pc} (hq : quietD v) : (∀ n o, v ≠ .dFreN n o) ∧ (∀ k n, v ≠ .pCons k n ∧ v ≠ .pLoad k n) ∧
    (∀ n o, v ≠ .eAlloc n o) ∧ ∀ c o z, v ≠ .eMark c o z := by
  refine ⟨fun _ _ e => ?_, fun _ _ => ⟨fun e => ?_, fun e => ?_⟩, fun _ _ e => ?_, fun _ _ _ e => ?_⟩ <;>
    (subst e; exact hq)

/-- `invD_gen` for a thread whose view stays as it is or is named by no exception -/
theorem invD_genq {s s' : St} {t : Tid} {p : Pc} (h : InvD s) (p' : Pc) (hpc : s.pc t = p)
    (hq : DView p' = DView p ∨ quietD (DView p))
    (h1 : s'.nled = s.nled)
    (h2 : ∀ x, s'.rled x = .cons → s.rled x = .cons)
    (h2' : ∀ x, s.rled x = .cons → s'.rled x ≠ .cons → ∀ c, (s.recs x).znode = some c → s.nled c = .freed)
    (h3 : ∀ x, (s'.recs x).znode = (s.recs x).znode)
    (h4 : ∀ c, c ∈ s.order → (s.nodes c).deleted = true → (s'.nodes c).deleted = true)
    (h5 : s'.nN = s.nN)
    (h6a : ∀ x ∈ s'.lst, x ∈ s.lst ∨ (s.nled x = .cons ∧ x ∉ s.order))
    (h6b : ∀ x ∈ s.lst, x ∈ s'.lst ∨ ∃ z, s'.rled z = .cons ∧ (s.recs z).znode = some x)
    (h7 : ∀ x ∈ s.order, x ∈ s'.order)
    (h8 : ∀ x ∈ s'.log, x ∈ s.log ∨ ∀ c, (s.recs x).znode = some c → s.nled c = .cons)
    (h9 : s'.pc = upd s.pc t p')
    (hheld : HeldP s'.dview (DView p')) : InvD s' := by
  refine invD_gen h p' hpc h1 h2 h2' h3 h4 h5 h6a h6b h7 h8 h9 hheld ?_ ?_ ?_
  · intro n hn
    rcases hq with e | hq
    · exact Or.inl (e.trans hn)
    · exact absurd hn ((quietD_ne hq).1 n none)
  · intro n hn
    rcases hq with e | hq
    · exact Or.inl (by rw [e]; exact hn)
    · obtain ⟨_, q2, q3, _⟩ := quietD_ne hq
      rcases hn with ⟨k, hn | hn⟩ | hn
      · exact absurd hn (q2 k n).1
      · exact absurd hn (q2 k n).2
      · exact absurd hn (q3 n none)
  · intro c z hn
    rcases hq with e | hq
    · exact Or.inl (e.trans hn)
    · exact absurd hn ((quietD_ne hq).2.2.2 c none z)

/-- views that belong to the mutex holder -/
def writerV : Pc → Bool
  | .pCons .. | .pLoad .. | .eMark .. | .eAlloc .. | .eZh .. => true
  | _ => false

theorem dview_writer {p : Pc} (h : writerV (DView p) = true) : holdsW p = true := by
  cases p with
  | pushStore c r e => cases c <;> first | rfl | cases h
  | pushCas c r e => cases c <;> first | rfl | cases h
  | _ => first | rfl | cases h

def dtorV : Pc → Bool
  | .dNext .. | .dFreN .. => true
  | _ => false

theorem dview_dtor {p : Pc} (h : dtorV (DView p) = true) : inDtor p = true := by
  cases p with
  | pushStore c r e => cases c <;> cases h
  | pushCas c r e => cases c <;> cases h
  | _ => first | rfl | cases h

def heldRec : Pc → Option Nat
  | .eZh _ z => some z
  | .eMark _ _ z => some z
  | .regCons _ r => some r
  | .rZn _ m | .rDesN _ m _ | .rFreN _ m _ | .rNext _ m => some m
  | _ => none

theorem heldRec_priv {p : Pc} {m : Nat} (h : heldRec (DView p) = some m) : privRec (BView p) = some m := by
  cases p with
  | pushStore c r e => cases c <;> exact h
  | pushCas c r e => cases c <;> exact h
  | _ => first | exact h | cases h

def consV : Pc → Bool
  | .rZn .. | .rDesN .. | .rFreN .. | .eZh .. | .eMark .. => true
  | _ => false

theorem dview_cons {p : Pc} (h : consV (DView p) = true) : privLed (BView p) = .cons := by
  cases p with
  | pushStore c r e => cases c <;> first | rfl | cases h
  | pushCas c r e => cases c <;> first | rfl | cases h
  | _ => first | rfl | cases h

theorem dview_rNext_cases {p : Pc} {m : Nat} (h : DView p = .rNext 0 m) :
    privRec (BView p) = some m ∧ (privLed (BView p) = .cons ∨ privLed (BView p) = .dest) := by
  refine ⟨heldRec_priv (congrArg heldRec h), ?_⟩
  cases p with
  | rFreZ _ _ _ | dFreZ _ _ => exact Or.inr rfl
  | pushStore c r e => cases c <;> cases h
  | pushCas c r e => cases c <;> cases h
  | _ => first | exact Or.inl rfl | cases h

/-- a node held privately by a pusher has never been linked -/
theorem fresh_of_dview {c : CSt} {p : Pc} {k : Op} {n : Nat} (h : DView p = .pCons k n ∨ DView p = .pLoad k n)
    (hw : WriterP c (CView p)) : n ∉ c.order := by
  cases p with
  | pCons _ _ | pLoad _ _ | pE1 _ _ | pF1 _ _ _ | pF2 _ _ _ | pB1 _ _ _ | pB2 _ _ _ =>
    rcases h with h | h <;> cases h <;> first | exact hw.1 | exact hw.1.1
  | pF3 _ _ =>
    obtain ⟨_, hf, _⟩ := hw
    rcases h with h | h <;> cases h; exact hf.1
  | pushStore c _ _ => cases c <;> rcases h with h | h <;> cases h
  | pushCas c _ _ => cases c <;> rcases h with h | h <;> cases h
  | _ => rcases h with h | h <;> cases h

theorem dview_node_fresh {s : St} (hc : InvC s) {u : Tid} {k : Op} {n : Nat}
    (h : DView (s.pc u) = .pCons k n ∨ DView (s.pc u) = .pLoad k n) : n ∉ s.order :=
  fresh_of_dview h (hc.wr u)

/-- layers A–D together (layer E needs them all, see `InvX`) -/
structure Inv (s : St) : Prop where
  a : InvA s
  b : InvB s
  c : InvC s
  d : InvD s

theorem dview_cls (p : Pc) : (isIdleV (DView p) || !isIdleV (BView p) || !isIdleV (CView p)) = true := by
  cases p with
  | called k => cases k <;> rfl
  | retp k => cases k <;> rfl
  | pushStore c r e => cases c <;> rfl
  | pushCas c r e => cases c <;> rfl
  | _ => rfl

theorem dview_nonidle {p : Pc} (h : DView p ≠ .idle) : BView p ≠ .idle ∨ CView p ≠ .idle := by
  have k := dview_cls p
  rw [isIdleV_false h] at k
  by_cases hb : BView p = .idle
  · rw [isIdleV_iff.2 hb] at k
    exact Or.inr fun hc => by rw [isIdleV_iff.2 hc] at k; cases k
  · exact Or.inl hb

theorem others_didle_dt {s : St} {t : Tid} {p : Pc} (ha : InvA s) (hpc : s.pc t = p) (hd : inDtor p = true) :
    ∀ u, u ≠ t → DView (s.pc u) = .idle := by
  subst hpc
  have hdt := ha.dtd t hd
  intro u hut
  apply Classical.byContradiction
  intro hc
  rcases dview_nonidle hc with h1 | h1
  · exact h1 (others_idle ha hdt hd u hut)
  · exact h1 (others_cidle_dt ha hdt hd u hut)

theorem dtor_excl {s : St} {t : Tid} {p : Pc} (ha : InvA s) (hpc : s.pc t = p) (hd : inDtor p = true) (n : Nat) :
    ∀ u, u ≠ t → ¬ Mentions s.dview (DView (s.pc u)) n :=
  fun u hut hm => by rw [others_didle_dt ha hpc hd u hut] at hm; exact hm

/-- nobody else has anything to say about a node that has never been linked and belongs to the writer -/
theorem writer_excl {s : St} {t : Tid} (hi : Inv s) (hw : holdsW (s.pc t) = true) {n0 : Nat} (hn : n0 ∉ s.order) :
    ∀ u, u ≠ t → ¬ Mentions s.dview (DView (s.pc u)) n0 := by
  intro u hut hm
  obtain ⟨hdt, _⟩ := others_cidle hi.a rfl hw
  have hnw : holdsW (s.pc u) = false := by
    cases hc : holdsW (s.pc u) with
    | false => rfl
    | true =>
      have a := (hi.a.wm u).1 hc
      have b := (hi.a.wm t).1 hw
      rw [a] at b; injection b with b; exact absurd b hut
  have hnd : inDtor (s.pc u) = false := by
    cases hc : inDtor (s.pc u) with
    | false => rfl
    | true => have := hi.a.dtd u hc; rw [hdt] at this; cases this
  have hheld : HeldP s.dview (DView (s.pc u)) := hi.d.held u
  have hzo : ∀ x c, (s.recs x).znode = some c → c ∈ s.order := hi.d.znOrd
  cases hv : DView (s.pc u) with
  | pCons | pLoad | eMark | eAlloc | eZh => rw [dview_writer (congrArg writerV hv)] at hnw; cases hnw
  | dNext | dFreN => rw [dview_dtor (congrArg dtorV hv)] at hnd; cases hnd
  | rZn a m | rNext a m => rw [hv] at hm; exact hn (hzo m n0 hm)
  | rDesN a m c | rFreN a m c => rw [hv] at hm hheld; cases hm; exact hn (hzo m _ hheld.1)
  | _ => rw [hv] at hm; exact hm

/-- nobody else has anything to say about the node named by a constructed record that `t` holds privately -/
theorem reaper_excl {s : St} {t : Tid} (hi : Inv s) (hdt : s.dt = false) {m d : Nat}
    (hm : privRec (BView (s.pc t)) = some m) (hcons : s.rled m = .cons) (hz : (s.recs m).znode = some d)
    (hnl : s.nled d = .cons ∨ s.nled d = .dest) :
    ∀ u, u ≠ t → ¬ Mentions s.dview (DView (s.pc u)) d := by
  intro u hut hmu
  have hnd : inDtor (s.pc u) = false := by
    cases hc : inDtor (s.pc u) with
    | false => rfl
    | true => have := hi.a.dtd u hc; rw [hdt] at this; cases this
  have hheld : HeldP s.dview (DView (s.pc u)) := hi.d.held u
  have hzo : ∀ x c, (s.recs x).znode = some c → c ∈ s.order := hi.d.znOrd
  have hdo : d ∈ s.order := hzo m d hz
  have key : ∀ m', privRec (BView (s.pc u)) = some m' → privLed (BView (s.pc u)) = .cons →
      (s.recs m').znode = some d → False := by
    intro m' h1 h2 h3
    have h4 : s.rled m' = .cons := ((hi.b.privOk u m' h1).2 : s.rled m' = _).trans h2
    have := hi.d.zinj m' m d h4 hcons h3 hz
    subst this
    exact hut (hi.b.privUq u t m' h1 hm)
  cases hv : DView (s.pc u) with
  | pCons k n => rw [hv] at hmu; subst hmu; exact dview_node_fresh hi.c (Or.inl hv) hdo
  | pLoad k n => rw [hv] at hmu; subst hmu; exact dview_node_fresh hi.c (Or.inr hv) hdo
  | eAlloc c o => rw [hv] at hmu hheld; subst hmu; exact hheld.1 m hcons hz
  | eMark c _ z | rDesN _ z c | rFreN _ z c =>
    rw [hv] at hmu hheld; subst hmu
    exact key z (heldRec_priv (congrArg heldRec hv)) (dview_cons (congrArg consV hv)) hheld.1
  | eZh _ z | rZn _ z =>
    rw [hv] at hmu
    exact key z (heldRec_priv (congrArg heldRec hv)) (dview_cons (congrArg consV hv)) hmu
  | rNext a m' =>
    rw [hv] at hmu hheld
    have : s.nled d = .freed := hheld d hmu
    rcases hnl with e | e <;> rw [e] at this <;> cases this
  | dNext m' | dFreN m' _ => rw [dview_dtor (congrArg dtorV hv)] at hnd; cases hnd
  | _ => rw [hv] at hmu; exact hmu

/-- a constructed record that a thread other than a not-yet-unlinking `erase` holds privately names an unlinked node -/
theorem zdel_priv {s : St} {t : Tid} (hi : Inv s) {m d : Nat} (hpr : privRec (BView (s.pc t)) = some m)
    (hne : ∀ c z, DView (s.pc t) ≠ .eMark c none z) (hc : s.rled m = .cons) (hz : (s.recs m).znode = some d) :
    (s.nodes d).deleted = true ∧ d ∈ s.order ∧ d ∉ s.lst := by
  rcases hi.d.zdel m d hc hz with g | ⟨u, hu⟩
  · exact g
  · exfalso
    simp only [dview_vpc] at hu
    have hpu := hi.b.privUq u t m
    simp only [bview_vpc] at hpu
    have := hpu (heldRec_priv (congrArg heldRec hu)) hpr
    subst this
    exact hne d m hu

/-- a record on the log names an unlinked node -/
theorem zdel_log {s : St} (hi : Inv s) {x c : Nat} (hx : x ∈ s.log) (hz : (s.recs x).znode = some c) :
    (s.nodes c).deleted = true ∧ c ∈ s.order ∧ c ∉ s.lst := by
  have hlc := hi.b.logCons x hx
  simp only [bview_rled] at hlc
  rcases hi.d.zdel x c hlc hz with g | ⟨u, hu⟩
  · exact g
  · exfalso
    simp only [dview_vpc] at hu
    have := hi.b.privOk u x (by simp only [bview_vpc]; exact heldRec_priv (congrArg heldRec hu))
    simp only [bview_log] at this
    exact this.1 hx

/-- thread `t` changes the ledger state of node `n0` (nobody else mentions `n0`): an allocated node (`nN' = nN`) or the next
fresh one; the node may leave `lst` with the same step -/
theorem invD_nled {s : St} {t : Tid} (h : InvD s) (n0 : Nat) (l : Led) (p' : Pc) (nodes' : Nat → Node) (nN' : Nat)
    (lst' : List Nat)
    (hdel : ∀ c, c ∈ s.order → (s.nodes c).deleted = true → (nodes' c).deleted = true)
    (hoth : ∀ u, u ≠ t → ¬ Mentions s.dview (DView (s.pc u)) n0)
    (hcnt : l ≠ .none ∧ (nN' = s.nN ∧ s.nled n0 ≠ .none ∨ nN' = s.nN + 1 ∧ n0 = s.nN))
    (hsub : ∀ x ∈ lst', x ∈ s.lst) (hsup : ∀ x ∈ s.lst, x ≠ n0 → x ∈ lst')
    (hheld : HeldP { s.dview with nled := upd s.nled n0 l } (DView p'))
    (hlst : n0 ∈ lst' → l = .cons ∨ DView p' = .dFreN n0 none)
    (hlog : ∀ x ∈ s.log, (s.recs x).znode = some n0 → l = .cons)
    (hcls0 : l = .freed ∨ n0 ∈ lst' ∨ (∃ k, DView p' = .pCons k n0 ∨ DView p' = .pLoad k n0) ∨
      (∃ x, s.rled x = .cons ∧ (s.recs x).znode = some n0) ∨ DView p' = .eAlloc n0 none)
    {p : Pc} (hpc : s.pc t = p) (hq : quietD (DView p) ∨ (∃ k, DView p = .pCons k n0) ∨ DView p = .dFreN n0 none) :
    InvD (({ s with nodes := nodes', nN := nN', lst := lst' }.setNled n0 l).setPc t p') := by
  subst hpc
  have hvT : ∀ n, ((∃ k, DView (s.pc t) = .pCons k n ∨ DView (s.pc t) = .pLoad k n) ∨ DView (s.pc t) = .eAlloc n none ∨
      DView (s.pc t) = .dFreN n none) → n = n0 := by
    intro n hn
    rcases hq with hq | ⟨k0, e⟩ | e
    · obtain ⟨q1, q2, q3, _⟩ := quietD_ne hq
      rcases hn with ⟨k, hn | hn⟩ | hn | hn
      · exact absurd hn (q2 k n).1
      · exact absurd hn (q2 k n).2
      · exact absurd hn (q3 n none)
      · exact absurd hn (q1 n none)
    all_goals
      rw [e] at hn
      rcases hn with ⟨k, hn | hn⟩ | hn | hn <;> cases hn
      rfl
  have hne : ∀ c z, DView (s.pc t) ≠ .eMark c none z := by
    intro c z hn
    rcases hq with hq | ⟨k0, e⟩ | e
    · exact (quietD_ne hq).2.2.2 c none z hn
    all_goals rw [e] at hn; cases hn
  obtain ⟨d1, d2, d3, d4, d8, d5, d6, d7⟩ := h
  simp only [dview_nled, dview_rled, dview_zn, dview_del, dview_nN, dview_lst, dview_order, dview_log, dview_vpc] at *
  refine ⟨?_, ?_, ?_, d4, d8, ?_, ?_, ?_⟩
  all_goals simp only [dview_nled, dview_rled, dview_zn, dview_del, dview_nN, dview_lst, dview_order, dview_log, dview_vpc,
    setPc_nled, setPc_rled, setPc_recs, setPc_nodes, setPc_nN, setPc_lst, setPc_order, setPc_log, setPc_pc,
    setNled_nled, setNled_rled, setNled_recs, setNled_nodes, setNled_nN, setNled_lst, setNled_order, setNled_log, setNled_pc]
  · intro n
    by_cases e : n = n0
    · subst e; rw [upd_same]
      refine ⟨fun hc => absurd hc hcnt.1, fun hc => ?_⟩
      rcases hcnt.2 with ⟨e1, e2⟩ | ⟨e1, e2⟩
      · exact absurd ((d1 n).2 (e1 ▸ hc)) e2
      · rw [e1, e2] at hc; exact absurd hc (Nat.not_succ_le_self _)
    · rw [upd_other _ _ _ _ e, d1 n]
      rcases hcnt.2 with ⟨e1, _⟩ | ⟨e1, e2⟩
      · rw [e1]
      · rw [e1]; exact ⟨fun hc => Nat.lt_of_le_of_ne hc fun e' => e (e2 ▸ e'.symm), Nat.le_of_succ_le⟩
  · intro n hn
    by_cases e : n = n0
    · subst e; rw [upd_same]
      rcases hlst hn with g | g
      · exact Or.inl g
      · exact Or.inr ⟨t, by rw [upd_same]; exact g⟩
    · rw [upd_other _ _ _ _ e]
      rcases d2 n (hsub n hn) with f | ⟨u, hu⟩
      · exact Or.inl f
      · by_cases hut : u = t
        · subst hut; exact absurd (hvT n (Or.inr (Or.inr hu))) e
        · exact Or.inr ⟨u, by rw [upd_other _ _ _ _ hut]; exact hu⟩
  · intro x c hx hc
    rcases d3 x c hx hc with ⟨e1, e2, e3⟩ | ⟨u, hu⟩
    · exact Or.inl ⟨hdel c e2 e1, e2, fun hm => e3 (hsub c hm)⟩
    · by_cases hut : u = t
      · subst hut; exact absurd hu (hne c x)
      · exact Or.inr ⟨u, by rw [upd_other _ _ _ _ hut]; exact hu⟩
  · intro x hx c hc
    by_cases e : c = n0
    · subst e; rw [upd_same]; exact hlog x hx hc
    · rw [upd_other _ _ _ _ e]; exact d5 x hx c hc
  · intro u
    by_cases hut : u = t
    · subst hut; rw [upd_same]; exact hheld
    · rw [upd_other _ _ _ _ hut]
      exact heldP_upd_nled (d := s.dview) (d6 u) (hoth u hut)
  · intro n hn
    by_cases e : n = n0
    · subst e; rw [upd_same]
      rcases hcls0 with g | g | ⟨k, g⟩ | g | g
      · exact Or.inl g
      · exact Or.inr (Or.inl g)
      · exact Or.inr (Or.inr (Or.inl ⟨t, k, by rw [upd_same]; exact g⟩))
      · exact Or.inr (Or.inr (Or.inr (Or.inl g)))
      · exact Or.inr (Or.inr (Or.inr (Or.inr ⟨t, by rw [upd_same]; exact g⟩)))
    · rw [upd_other _ _ _ _ e]
      have hn' : n < s.nN := by
        rcases hcnt.2 with ⟨e1, _⟩ | ⟨e1, e2⟩
        · exact e1 ▸ hn
        · rw [e1] at hn; exact Nat.lt_of_le_of_ne (Nat.le_of_lt_succ hn) (e2 ▸ e)
      rcases d7 n hn' with f | f | ⟨u, k, hu⟩ | f | ⟨u, hu⟩
      · exact Or.inl f
      · exact Or.inr (Or.inl (hsup n f e))
      · by_cases hut : u = t
        · subst hut; exact absurd (hvT n (Or.inl ⟨k, hu⟩)) e
        · exact Or.inr (Or.inr (Or.inl ⟨u, k, by rw [upd_other _ _ _ _ hut]; exact hu⟩))
      · exact Or.inr (Or.inr (Or.inr (Or.inl f)))
      · by_cases hut : u = t
        · subst hut; exact absurd (hvT n (Or.inr (Or.inl hu))) e
        · exact Or.inr (Or.inr (Or.inr (Or.inr ⟨u, by rw [upd_other _ _ _ _ hut]; exact hu⟩)))

/-- a view that mentions a node also claims a ledger state for it -/
theorem mentions_allocated {d : DSt} {v : Pc} {n0 : Nat} (h : HeldP d v) (hm : Mentions d v n0) : d.nled n0 ≠ .none := by
  intro hn
  cases v with
  | pCons _ n | pLoad _ n | dNext n | dFreN n _ => cases hm; cases h.symm.trans hn
  | eMark c _ z | rDesN _ z c | rFreN _ z c | eAlloc c _ => cases hm; cases h.2.symm.trans hn
  | eZh _ z =>
    obtain ⟨c, h1, h2⟩ := h
    cases h1.symm.trans hm; cases h2.symm.trans hn
  | rZn _ m | rNext _ m => cases (h _ hm).symm.trans hn
  | _ => exact hm

/-- `con Z r`: the record `t` holds privately becomes constructed, with the fields `R` -/
theorem invD_conR {s : St} {t : Tid} (h : InvD s) (r : Nat) (R : Rec) (p' : Pc)
    (hnc : s.rled r ≠ .cons) (hrl : r ∉ s.log)
    (hoth : ∀ u, u ≠ t → HeldP s.dview (DView (s.pc u)) →
      HeldP { s.dview with rled := upd s.rled r .cons, zn := fun x => ((upd s.recs r R) x).znode } (DView (s.pc u)))
    (hz : ∀ c, R.znode = some c → c ∈ s.order ∧ DView p' = .eMark c none r ∧
      (∀ y, s.rled y = .cons → (s.recs y).znode ≠ some c))
    (hheld : HeldP { s.dview with rled := upd s.rled r .cons, zn := fun x => ((upd s.recs r R) x).znode } (DView p'))
    {p : Pc} (hpc : s.pc t = p) (hq : quietD (DView p) ∨ ∃ n, DView p = .eAlloc n none ∧ R.znode = some n) :
    InvD (({ s with recs := upd s.recs r R }.setRled r .cons).setPc t p') := by
  subst hpc
  have hcls : ∀ n, ((∃ k, DView (s.pc t) = .pCons k n ∨ DView (s.pc t) = .pLoad k n) ∨ DView (s.pc t) = .eAlloc n none) →
      R.znode = some n := by
    intro n hn
    rcases hq with hq | ⟨n0, e, hR⟩
    · obtain ⟨_, q2, q3, _⟩ := quietD_ne hq
      rcases hn with ⟨k, hn | hn⟩ | hn
      · exact absurd hn (q2 k n).1
      · exact absurd hn (q2 k n).2
      · exact absurd hn (q3 n none)
    · rw [e] at hn
      rcases hn with ⟨k, hn | hn⟩ | hn <;> cases hn
      exact hR
  have hnf : ∀ n, DView (s.pc t) ≠ .dFreN n none := by
    intro n hn
    rcases hq with hq | ⟨n0, e, _⟩
    · exact (quietD_ne hq).1 n none hn
    · rw [e] at hn; cases hn
  have hne : ∀ c z, DView (s.pc t) ≠ .eMark c none z := by
    intro c z hn
    rcases hq with hq | ⟨n0, e, _⟩
    · exact (quietD_ne hq).2.2.2 c none z hn
    · rw [e] at hn; cases hn
  obtain ⟨d1, d2, d3, d4, d8, d5, d6, d7⟩ := h
  simp only [dview_nled, dview_rled, dview_zn, dview_del, dview_nN, dview_lst, dview_order, dview_log, dview_vpc] at *
  have hview : (({ s with recs := upd s.recs r R }.setRled r .cons).setPc t p').dview =
      { s.dview with rled := upd s.rled r .cons, zn := fun x => ((upd s.recs r R) x).znode,
                     vpc := fun u => DView (upd s.pc t p' u) } := rfl
  unfold InvD; rw [hview]
  refine ⟨d1, ?_, ?_, ?_, ?_, ?_, ?_, ?_⟩
  all_goals simp only [dview_nled, dview_del, dview_nN, dview_lst, dview_order, dview_log]
  · intro n hn
    rcases d2 n hn with f | ⟨u, hu⟩
    · exact Or.inl f
    · by_cases hut : u = t
      · subst hut; exact absurd hu (hnf n)
      · exact Or.inr ⟨u, by rw [upd_other _ _ _ _ hut]; exact hu⟩
  · intro x c hx hc
    by_cases e : x = r
    · subst e; rw [upd_same] at hc
      exact Or.inr ⟨t, by rw [upd_same]; exact (hz c hc).2.1⟩
    · rw [upd_other _ _ _ _ e] at hx hc
      rcases d3 x c hx hc with g | ⟨u, hu⟩
      · exact Or.inl g
      · by_cases hut : u = t
        · subst hut; exact absurd hu (hne c x)
        · exact Or.inr ⟨u, by rw [upd_other _ _ _ _ hut]; exact hu⟩
  · intro x y c hx hy hcx hcy
    by_cases ex : x = r <;> by_cases ey : y = r
    · rw [ex, ey]
    · subst ex; rw [upd_same] at hcx; rw [upd_other _ _ _ _ ey] at hy hcy
      exact absurd hcy ((hz c hcx).2.2 y hy)
    · subst ey; rw [upd_same] at hcy; rw [upd_other _ _ _ _ ex] at hx hcx
      exact absurd hcx ((hz c hcy).2.2 x hx)
    · rw [upd_other _ _ _ _ ex] at hx hcx; rw [upd_other _ _ _ _ ey] at hy hcy
      exact d4 x y c hx hy hcx hcy
  · intro x c hc
    by_cases e : x = r
    · subst e; rw [upd_same] at hc; exact (hz c hc).1
    · rw [upd_other _ _ _ _ e] at hc; exact d8 x c hc
  · intro x hx c hc
    have e : x ≠ r := fun e => hrl (e ▸ hx)
    rw [upd_other _ _ _ _ e] at hc; exact d5 x hx c hc
  · intro u
    by_cases hut : u = t
    · subst hut; rw [upd_same]; exact hheld
    · rw [upd_other _ _ _ _ hut]; exact hoth u hut (d6 u)
  · intro n hn
    rcases d7 n hn with f | f | ⟨u, k, hu⟩ | ⟨x, hx1, hx2⟩ | ⟨u, hu⟩
    · exact Or.inl f
    · exact Or.inr (Or.inl f)
    · by_cases hut : u = t
      · subst hut
        exact Or.inr (Or.inr (Or.inr (Or.inl ⟨r, by rw [upd_same], by rw [upd_same]; exact hcls n (Or.inl ⟨k, hu⟩)⟩)))
      · exact Or.inr (Or.inr (Or.inl ⟨u, k, by rw [upd_other _ _ _ _ hut]; exact hu⟩))
    · have e : x ≠ r := fun e => hnc (e ▸ hx1)
      exact Or.inr (Or.inr (Or.inr (Or.inl ⟨x, by rw [upd_other _ _ _ _ e]; exact hx1, by rw [upd_other _ _ _ _ e]; exact hx2⟩)))
    · by_cases hut : u = t
      · subst hut
        exact Or.inr (Or.inr (Or.inr (Or.inl ⟨r, by rw [upd_same], by rw [upd_same]; exact hcls n (Or.inr hu)⟩)))
      · exact Or.inr (Or.inr (Or.inr (Or.inr ⟨u, by rw [upd_other _ _ _ _ hut]; exact hu⟩)))

theorem upd_self {α : Type} (f : Tid → α) (t : Tid) : upd f t (f t) = f :=
  ConcVerif.upd_self f t

/-- `HeldP` of a view that does not hold record `r` survives the construction of `r` -/
theorem heldP_conR {d : DSt} {v : Pc} {r : Nat} {zn' : Nat → Option Nat} (h : HeldP d v)
    (hz : ∀ x, x ≠ r → zn' x = d.zn x) (hne : heldRec v ≠ some r)
    (hnr : zn' r = none ∨ ∀ c o, v ≠ .eAlloc c o) :
    HeldP { d with rled := upd d.rled r .cons, zn := zn' } v := by
  have hz' : ∀ x, heldRec v = some x → zn' x = d.zn x := fun x hx => hz x fun e => hne (e ▸ hx)
  cases v with
  | pCons | pLoad | dNext | dFreN => exact h
  | eMark c _ z | rDesN _ z c | rFreN _ z c => exact ⟨(hz' z rfl).trans h.1, h.2⟩
  | eZh _ z =>
    obtain ⟨c, h1, h2⟩ := h
    exact ⟨c, (hz' z rfl).trans h1, h2⟩
  | rZn _ m | rNext _ m => exact fun c hc => h c ((hz' m rfl).symm.trans hc)
  | regCons _ r' => exact (hz' r' rfl).trans h
  | eAlloc c o =>
    refine ⟨fun x hx hzx => ?_, h.2⟩
    by_cases e : x = r
    · subst e
      rcases hnr with g | g
      · cases g.symm.trans hzx
      · exact g c o rfl
    · exact h.1 x ((upd_other _ _ _ _ e).symm.trans hx) ((hz x e).symm.trans hzx)
  | _ => trivial

theorem dview_recs {s : St} {r : Nat} {R : Rec} (h : R.znode = (s.recs r).znode) :
    ({ s with recs := upd s.recs r R } : St).dview = s.dview :=
  congrArg (fun f => { s.dview with zn := f }) (upd_proj_fun s.recs Rec.znode r R h)

theorem dview_nodes {s : St} {n : Nat} {N : Node} (h : N.deleted = (s.nodes n).deleted) :
    ({ s with nodes := upd s.nodes n N } : St).dview = s.dview :=
  congrArg (fun f => { s.dview with del := f }) (upd_proj_fun s.nodes Node.deleted n N h)

theorem invB_priv {s : St} {t : Tid} {p : Pc} {m : Nat} (hb : InvB s) (hpc : s.pc t = p) (hm : privRec (BView p) = some m) :
    m ∉ s.log ∧ s.rled m = privLed (BView p) := by
  subst hpc; exact hb.privOk t m hm

theorem invD_held {s : St} {t : Tid} {p : Pc} (h : InvD s) (hpc : s.pc t = p) : HeldP s.dview (DView p) := by
  subst hpc; exact h.held t

theorem invD_move {s d : St} {t : Tid} {p p' : Pc} (h : InvD s) (hd : d.dview = s.dview) (hpc : s.pc t = p)
    (hp : DView p' = DView p) : InvD (d.setPc t p') := by
  subst hpc
  refine invD_of_view h ?_
  have hv : (fun u => DView (upd d.pc t p' u)) = fun u => DView (s.pc u) := by
    funext u
    by_cases hu : u = t
    · rw [hu, upd_same, hp]
    · rw [upd_other _ _ _ _ hu]; exact congrFun (congrArg DSt.vpc hd) u
  unfold St.dview at hd ⊢
  injection hd with h1 h2 h3 h4 h5 h6 h7 h8
  simp only [setPc_nled, setPc_rled, setPc_recs, setPc_nodes, setPc_nN, setPc_lst, setPc_order, setPc_log, setPc_pc,
    h1, h2, h3, h4, h5, h6, h7, h8, hv]

/-- `t` moves to a new view (from one that stays or that no exception names) while records leave the log, or enter it
naming constructed nodes -/
theorem invD_log {s : St} {t : Tid} {p : Pc} (h : InvD s) (log' : List Nat) (p' : Pc) (hpc : s.pc t = p)
    (hq : DView p' = DView p ∨ quietD (DView p))
    (hlog : ∀ x ∈ log', x ∈ s.log ∨ ∀ c, (s.recs x).znode = some c → s.nled c = .cons)
    (hheld : HeldP s.dview (DView p')) : InvD ({ s with log := log' }.setPc t p') :=
  invD_genq h p' hpc hq rfl (fun _ hx => hx) (fun _ hx hn => absurd hx hn) (fun _ => rfl) (fun _ _ hd => hd) rfl
    (fun _ hx => Or.inl hx) (fun _ hx => Or.inl hx) (fun _ hx => hx) hlog rfl hheld

/-- the ledger state of record `m` changes, not to `cons`; if `m` was constructed the node it names has been freed -/
theorem invD_setRled {s d : St} {t : Tid} {p p' : Pc} {log' : List Nat} (h : InvD s) (m : Nat) (l : Led) (hl : l ≠ .cons)
    (hd : d.dview = { s.dview with rled := upd s.rled m l, log := log' }) (hpcs : d.pc = s.pc)
    (hlog : ∀ x ∈ log', x ∈ s.log) (hpc : s.pc t = p) (hq : DView p' = DView p ∨ quietD (DView p))
    (hfree : s.rled m = .cons → ∀ c, (s.recs m).znode = some c → s.nled c = .freed)
    (hheld : HeldP s.dview (DView p')) : InvD (d.setPc t p') := by
  have e1 : d.nled = s.nled := congrArg DSt.nled hd
  have e2 : d.rled = upd s.rled m l := congrArg DSt.rled hd
  have e3 : ∀ x, (d.recs x).znode = (s.recs x).znode := congrFun (congrArg DSt.zn hd)
  have e4 : ∀ c, (d.nodes c).deleted = (s.nodes c).deleted := congrFun (congrArg DSt.del hd)
  have e5 : d.nN = s.nN := congrArg DSt.nN hd
  have e6 : d.lst = s.lst := congrArg DSt.lst hd
  have e7 : d.order = s.order := congrArg DSt.order hd
  have e8 : d.log = log' := congrArg DSt.log hd
  have h2 : ∀ x, d.rled x = .cons → s.rled x = .cons := by
    intro x hx
    rw [e2] at hx
    by_cases e : x = m
    · subst e; rw [upd_same] at hx; exact absurd hx hl
    · rw [upd_other _ _ _ _ e] at hx; exact hx
  refine invD_genq (s' := d.setPc t p') h p' hpc hq e1 h2 ?_ e3 (fun c _ hc => (e4 c).trans hc) e5
    (fun x hx => Or.inl (e6 ▸ hx)) (fun x hx => Or.inl (e6 ▸ hx)) (fun x hx => e7 ▸ hx)
    (fun x hx => Or.inl (hlog x (e8 ▸ hx))) (congrArg (fun f => upd f t p') hpcs) (heldP_mono hheld e1 (funext e3) h2)
  intro x hx hn c hc
  by_cases e : x = m
  · subst e; exact hfree hx c hc
  · refine absurd ?_ hn
    show d.rled x = .cons
    rw [e2, upd_other _ _ _ _ e]; exact hx

/-- the holder of the constructed private record `m` changes the ledger state of the node `d` that `m` names -/
theorem invD_recNode {s : St} {t : Tid} {p p' : Pc} {m d : Nat} (hi : Inv s) (hpc : s.pc t = p)
    (hpr : privRec (BView p) = some m) (hc : privLed (BView p) = .cons) (hq : quietD (DView p))
    (hz : (s.recs m).znode = some d) (hn : s.nled d ≠ .none) (l : Led) (hl : l ≠ .none)
    (hoth : ∀ u, u ≠ t → ¬ Mentions s.dview (DView (s.pc u)) d)
    (hheld : HeldP { s.dview with nled := upd s.nled d l } (DView p')) : InvD ((s.setNled d l).setPc t p') := by
  subst hpc
  have hp : m ∉ s.log ∧ s.rled m = .cons := hc ▸ invB_priv hi.b rfl hpr
  have hzd := zdel_priv hi hpr (fun c z => (quietD_ne hq).2.2.2 c none z) hp.2 hz
  refine invD_nled hi.d d l p' s.nodes s.nN s.lst (fun _ _ hd => hd) hoth ⟨hl, .inl ⟨rfl, hn⟩⟩ (fun _ hx => hx)
    (fun _ hx _ => hx) hheld (fun hl => absurd hl hzd.2.2) ?_
    (Or.inr (Or.inr (Or.inr (Or.inl ⟨m, hp.2, hz⟩)))) rfl (.inl hq)
  intro x hx hc
  have := hi.d.zinj x m d (hi.b.logCons x hx) hp.2 hc hz
  subst this; exact absurd hx hp.1

theorem invD_step {s s' : St} {t : Tid} {e : Ev} (hi : Inv s) (hs : Step s t e s') : InvD s' := by
  have h := hi.d
  cases hs with
  | regPst | pPstDel | pPstData | ePst | dDesZNpld | dFreZNpld => exact h
  -- the view of `t` and the fields of the view stay as they are
  | callLock | callRel | callBeg | callNxt | callDer | callPush | callErase | callDtor | retLock | relFresh
  | relSome | relNone | regFail | rExc | beg | nxt | der | pushLock | eraseLock | ret | regZh | uOwnerActive
  | uOwnerInactive | uNextSome | rNext | pAloFail | pThrownMul | pExc | pLoadFrontNone | pLoadFrontSome
  | pLoadBackNone | pLoadBackSome | pE2 | pB3 | pUnlock | eOrig | eDelDeleted | eBack | eNext | eFixTail | eZh
  | eUnlock | dNext | dOwner | dRNext =>
    exact invD_move h rfl ‹s.pc t = _› (by rfl)
  | casFail c _ _ _ hpc => cases c <;> exact invD_move h rfl hpc rfl
  | pushStore c _ _ _ hpc => cases c <;> exact invD_move h (dview_recs rfl) hpc rfl
  | uTrunc => exact invD_move h (dview_recs rfl) ‹s.pc t = _› (by rfl)
  | uClear r _ hpc => exact invD_move h (dview_recs (s := s) (r := r) (R := { s.recs r with owner := none }) rfl) hpc rfl
  | pF1 | pF2 | pB1 | eFixNext => exact invD_move h (dview_nodes rfl) ‹s.pc t = _› (by rfl)
  -- a record is allocated, destroyed or freed
  | regAlo _ _ hpc =>
    have hfresh : s.rled s.nR = .none := (hi.b.cntR s.nR).2 (Nat.le_refl _)
    exact invD_setRled h s.nR .alloc nofun rfl rfl (fun _ hx => hx) hpc (.inr trivial)
      (fun hc => by rw [hfresh] at hc; cases hc) trivial
  | eAlo _ _ hpc =>
    have hfresh : s.rled s.nR = .none := (hi.b.cntR s.nR).2 (Nat.le_refl _)
    exact invD_setRled h s.nR .alloc nofun rfl rfl (fun _ hx => hx) hpc (.inl rfl)
      (fun hc => by rw [hfresh] at hc; cases hc) (invD_held h hpc :)
  | rDesZ _ _ _ hpc | dDesZ _ _ hpc =>
    exact invD_setRled h _ .dest nofun rfl rfl (fun _ hx => hx) hpc (.inl rfl) (fun _ => (invD_held h hpc :)) (invD_held h hpc :)
  | rFreZ r m nx hpc =>
    have hp : m ∉ s.log ∧ s.rled m = .dest := invB_priv hi.b hpc rfl
    have hfree : s.rled m = .cons → ∀ c, (s.recs m).znode = some c → s.nled c = .freed := fun hc => by rw [hp.2] at hc; cases hc
    cases nx with
    | none => exact invD_setRled h m .freed nofun rfl rfl (fun _ hx => hx) hpc (.inr trivial) hfree trivial
    | some m' =>
      have hre : _ ∧ _ ∧ some m' = (Below s.log r).head? := (hi.b.thr_at hpc).reap
      exact invD_setRled h m .freed nofun rfl rfl (fun _ hx => List.mem_of_mem_erase hx) hpc (.inr trivial) hfree
        (h.zlog m' (mem_of_mem_below (head_mem_below hre.2.2.symm)))
  | dFreZ m nx hpc =>
    have hp : m ∉ s.log ∧ s.rled m = .dest := invB_priv hi.b hpc rfl
    have hfree : s.rled m = .cons → ∀ c, (s.recs m).znode = some c → s.nled c = .freed := fun hc => by rw [hp.2] at hc; cases hc
    cases nx with
    | none => exact invD_setRled h m .freed nofun rfl rfl (fun _ hx => hx) hpc (.inr trivial) hfree trivial
    | some m' =>
      have hre : some m' = s.log.head? := (hi.b.thr_at hpc).dtr
      exact invD_setRled h m .freed nofun rfl rfl (fun _ hx => List.mem_of_mem_erase hx) hpc (.inr trivial) hfree
        (h.zlog m' (mem_of_head? hre.symm))
  -- a record leaves or enters the log
  | uNextNone r cached m _ hpc =>
    cases cached with
    | none => exact invD_move h rfl hpc rfl
    | some c =>
      have hsc : _ ∧ some c = (Below s.log r).head? ∧ _ := (hi.b.thr_at hpc).scan
      exact invD_log h _ _ hpc (.inr trivial) (fun _ hx => Or.inl (List.mem_of_mem_erase hx))
        (h.zlog c (mem_of_mem_below (head_mem_below hsc.2.1.symm)))
  | dZhead _ hpc =>
    have hzh : s.zhead = s.log.head? := hi.b.zh (Or.inr ⟨t, by rw [bview_vpc, hpc]; rfl⟩)
    cases hz : s.zhead with
    | none => exact invD_move h rfl hpc rfl
    | some m =>
      exact invD_log h _ _ hpc (.inr trivial) (fun _ hx => Or.inl (List.mem_of_mem_erase hx))
        (h.zlog m (mem_of_head? (hzh ▸ hz)))
  | casRegOk k r _ hpc =>
    have hh : (s.recs r).znode = none := invD_held h hpc
    refine invD_of_view (invD_log h (r :: s.log) (.called k) hpc (.inr trivial) ?_ trivial) rfl
    intro x hx
    rcases List.mem_cons.1 hx with e | e
    · subst e; right; intro c hc; rw [hh] at hc; cases hc
    · exact Or.inl e
  | casEraseOk orig r _ hpc =>
    obtain ⟨c, h1, h2⟩ : ∃ c, (s.recs r).znode = some c ∧ s.nled c = .cons := invD_held h hpc
    refine invD_of_view (invD_log h (r :: s.log) (.eUnlock orig) hpc (.inr trivial) ?_ trivial) rfl
    intro x hx
    rcases List.mem_cons.1 hx with e | e
    · subst e; right; intro c' hc'; rw [h1] at hc'; cases hc'; exact h2
    · exact Or.inl e
  -- pure pc moves to another view
  | dtorHead _ hpc =>
    have hidle := others_didle_dt hi.a hpc rfl
    have hw : s.head = s.lst.head? := invC_wr hi.c hpc
    cases hh : s.head with
    | none => exact invD_move h rfl hpc rfl
    | some m =>
      refine invD_of_view (invD_log h s.log (.dNext m) hpc (.inr trivial) (fun _ hx => Or.inl hx) ?_) rfl
      rcases h.lstCons m (mem_of_head? (hw ▸ hh)) with f | ⟨u, hu⟩
      · exact f
      · by_cases hut : u = t
        · subst hut; rw [dview_vpc, hpc] at hu; cases hu
        · rw [dview_vpc, hidle u hut] at hu; cases hu
  | rZnNode _ m d hpc hz | dZnNode m _ d hpc hz =>
    have hh : ∀ c, (s.recs m).znode = some c → s.nled c = .cons := invD_held h hpc
    refine invD_of_view (invD_log h s.log _ hpc (.inr trivial) (fun _ hx => Or.inl hx) ?_) rfl
    exact ⟨hz, hh d hz⟩
  | rZnNull _ m hpc hz | dZnNull m _ hpc hz =>
    refine invD_of_view (invD_log h s.log _ hpc (.inr trivial) (fun _ hx => Or.inl hx) ?_) rfl
    exact fun c hc => by rw [dview_zn, hz] at hc; cases hc
  | eAloFail c _ hpc =>
    have hw : c ∈ s.lst ∧ _ := invC_wr hi.c hpc
    refine invD_gen (s' := s.setPc t (.pThrown (.erase true))) h _ hpc rfl (fun _ hx => hx) (fun _ hx hn => absurd hx hn)
      (fun _ => rfl) (fun _ _ hd => hd) rfl (fun _ hy => Or.inl hy) (fun _ hy => Or.inl hy) (fun _ hy => hy)
      (fun _ hy => Or.inl hy) rfl trivial nofun ?_ nofun
    rintro n (⟨k, hn | hn⟩ | hn) <;> cases hn
    exact Or.inr (Or.inr (Or.inl hw.1))
  | eDelFresh c orig hpc hv =>
    obtain ⟨hdt, _⟩ := others_cidle hi.a hpc rfl
    obtain ⟨_, _, _, _, fdel⟩ := invC_writer_facts hi.a hi.c hpc rfl
    have hw : c ∈ s.order ∧ _ := invC_wr hi.c hpc
    have hcl : c ∈ s.lst := (fdel c hw.1).elim (fun f => f.2 hv) nofun
    refine invD_of_view (invD_log h s.log (.eAlloc c orig) hpc (.inr trivial) (fun _ hx => Or.inl hx) ⟨?_, ?_⟩) rfl
    · intro x hx hc
      rcases h.zdel x c hx hc with g | ⟨u, hu⟩
      · have : (s.nodes c).deleted = true := g.1
        rw [hv] at this; cases this
      · rw [dview_vpc] at hu
        have a := (hi.a.wm u).1 (dview_writer (congrArg writerV hu))
        have b := (hi.a.wm t).1 (hpc ▸ rfl)
        rw [a] at b; injection b with b; subst b
        rw [hpc] at hu; cases hu
    · rcases h.lstCons c hcl with f | ⟨u, hu⟩
      · exact f
      · have := hi.a.dtd u (dview_dtor (congrArg dtorV hu))
        rw [hdt] at this; cases this
  -- the ledger state of a node changes
  | pAlo k hpc =>
    have hfresh : s.nled s.nN = .none := (h.cntN s.nN).2 (Nat.le_refl _)
    refine invD_nled (t := t) h s.nN .alloc (.pCons k s.nN) s.nodes (s.nN + 1) s.lst (fun _ _ hd => hd)
      (fun u _ hm => mentions_allocated (h.held u) hm hfresh) ⟨nofun, .inr ⟨rfl, rfl⟩⟩ (fun _ hx => hx) (fun _ hx _ => hx)
      (upd_same ..) (fun hl => ?_) (fun x hx hc => ?_) (Or.inr (Or.inr (Or.inl ⟨k, Or.inl rfl⟩))) hpc (.inl trivial)
    · rcases h.lstCons _ hl with f | ⟨u, hu⟩
      · cases hfresh.symm.trans f
      · have hu' : HeldP s.dview (s.dview.vpc u) := h.held u
        rw [hu] at hu'; cases hfresh.symm.trans hu'
    · cases hfresh.symm.trans (h.zlog x hx _ hc)
  | pCon f em x n hpc =>
    have hw : n ∉ s.order ∧ n < s.nN := invC_wr hi.c hpc
    have hh : s.nled n = .alloc := invD_held h hpc
    refine invD_nled (t := t) h n .cons (.pLoad (.push f em x) n) _ s.nN s.lst ?_ (writer_excl hi (hpc ▸ rfl) hw.1)
      ⟨nofun, .inl ⟨rfl, by rw [hh]; nofun⟩⟩ (fun _ hx => hx) (fun _ hx _ => hx) (upd_same ..) (fun _ => Or.inl rfl) (fun _ _ _ => rfl)
      (Or.inr (Or.inr (Or.inl ⟨.push f em x, Or.inr rfl⟩))) hpc (.inr (.inl ⟨_, rfl⟩))
    intro c hc hd
    rw [upd_other _ _ _ _ (fun e : c = n => hw.1 (e ▸ hc))]; exact hd
  | pThrow f em x n hpc =>
    have hw : n ∉ s.order ∧ n < s.nN := invC_wr hi.c hpc
    have hh : s.nled n = .alloc := invD_held h hpc
    exact invD_nled (t := t) h n .freed (.pThrown (.push f em x)) s.nodes s.nN s.lst (fun _ _ hd => hd)
      (writer_excl hi (hpc ▸ rfl) hw.1) ⟨nofun, .inl ⟨rfl, by rw [hh]; nofun⟩⟩ (fun _ hx => hx) (fun _ hx _ => hx) trivial
      (fun hl => absurd (hi.c.sub n hl) hw.1) (fun x _ hc => absurd (h.znOrd x n hc) hw.1) (Or.inl rfl) hpc (.inr (.inl ⟨_, rfl⟩))
  | rDesN r m d hpc =>
    obtain ⟨w, hw⟩ := hi.a.myr t r (hpc ▸ rfl)
    have hh : (s.recs m).znode = some d ∧ s.nled d = .cons := invD_held h hpc
    exact invD_recNode hi hpc rfl rfl trivial hh.1 (by rw [hh.2]; nofun) .dest nofun
      (reaper_excl hi (dt_false_of_hnd hi.a (t := t) (by rw [hw]; nofun)) (hpc ▸ rfl) (invB_priv hi.b hpc rfl).2 hh.1
        (Or.inl hh.2)) ⟨hh.1, upd_same ..⟩
  | rFreN r m d hpc =>
    obtain ⟨w, hw⟩ := hi.a.myr t r (hpc ▸ rfl)
    have hh : (s.recs m).znode = some d ∧ s.nled d = .dest := invD_held h hpc
    exact invD_recNode hi hpc rfl rfl trivial hh.1 (by rw [hh.2]; nofun) .freed nofun
      (reaper_excl hi (dt_false_of_hnd hi.a (t := t) (by rw [hw]; nofun)) (hpc ▸ rfl) (invB_priv hi.b hpc rfl).2 hh.1
        (Or.inr hh.2)) (fun c hc => by rw [dview_zn, hh.1] at hc; cases hc; exact upd_same ..)
  | dDesZN m nx d hpc =>
    have hh : (s.recs m).znode = some d ∧ s.nled d = .cons := invD_held h hpc
    exact invD_recNode hi hpc rfl rfl trivial hh.1 (by rw [hh.2]; nofun) .dest nofun
      (dtor_excl hi.a hpc rfl _) ⟨hh.1, upd_same ..⟩
  | dFreZN m nx d hpc =>
    have hh : (s.recs m).znode = some d ∧ s.nled d = .dest := invD_held h hpc
    exact invD_recNode hi hpc rfl rfl trivial hh.1 (by rw [hh.2]; nofun) .freed nofun
      (dtor_excl hi.a hpc rfl _)
      (fun c hc => by rw [dview_zn, hh.1] at hc; cases hc; exact upd_same ..)
  | dDesN m nx hpc =>
    have hh : s.nled m = .cons := invD_held h hpc
    have hw : s.lst.head? = some m ∧ _ := invC_wr hi.c hpc
    have hml : m ∈ s.lst := mem_of_head? hw.1
    exact invD_nled (t := t) h m .dest (.dFreN m nx) s.nodes s.nN s.lst (fun _ _ hd => hd)
      (dtor_excl hi.a hpc rfl _) ⟨nofun, .inl ⟨rfl, by rw [hh]; nofun⟩⟩ (fun _ hx => hx)
      (fun _ hx _ => hx) (upd_same ..) (fun _ => Or.inr rfl)
      (fun x hx hc => absurd hml (zdel_log hi hx hc).2.2) (Or.inr (Or.inl hml)) hpc (.inl trivial)
  | dFreN m nx hpc =>
    have hidle := others_didle_dt hi.a hpc rfl
    have hw : s.lst.head? = some m ∧ nx = (Below s.lst m).head? := invC_wr hi.c hpc
    have hnd : s.lst.Nodup := hi.c.lstNd
    have hml : m ∈ s.lst := mem_of_head? hw.1
    have hh : s.nled m = .dest := invD_held h hpc
    have hcons : ∀ n ∈ s.lst, n ≠ m → s.nled n = .cons := by
      intro n hn hne
      rcases h.lstCons n hn with f | ⟨u, hu⟩
      · exact f
      · by_cases hut : u = t
        · rw [dview_vpc, hut, hpc] at hu; cases hu; exact absurd rfl hne
        · rw [dview_vpc, hidle u hut] at hu; cases hu
    have key : ∀ p', HeldP { s.dview with nled := upd s.nled m .freed } (DView p') →
        InvD ({ (s.setNled m .freed) with lst := s.lst.erase m }.setPc t p') := fun p' hheld =>
      invD_nled (t := t) h m .freed p' s.nodes s.nN (s.lst.erase m) (fun _ _ hd => hd)
        (dtor_excl hi.a hpc rfl _) ⟨nofun, .inl ⟨rfl, by rw [hh]; nofun⟩⟩
        (fun _ hx => List.mem_of_mem_erase hx) (fun x hx hne => (List.mem_erase_of_ne hne).2 hx) hheld
        (fun hl => absurd rfl ((List.Nodup.mem_erase_iff hnd).1 hl).1) (fun x hx hc => absurd hml (zdel_log hi hx hc).2.2)
        (Or.inl rfl) hpc (.inr (.inr rfl))
    cases nx with
    | none => exact key .dZhead trivial
    | some m' =>
      have hb : m' ∈ Below s.lst m := head_mem_below hw.2.symm
      have hne : m' ≠ m := fun e => not_mem_below_self hnd (e ▸ hb)
      exact key (.dNext m') ((upd_other _ _ _ _ hne).trans (hcons m' (mem_of_mem_below hb) hne))
  -- a record is constructed
  | regCon k r hpc =>
    have hp : r ∉ s.log ∧ s.rled r = .alloc := invB_priv hi.b hpc rfl
    refine invD_conR (t := t) h r { next := none, owner := some t, znode := none } (.regCons k r)
      (by rw [hp.2]; nofun) hp.1 ?_ nofun (congrArg Rec.znode (upd_same ..)) hpc (.inl trivial)
    intro u hut hu
    refine heldP_conR (d := s.dview) hu (fun x hx => by rw [upd_other _ _ _ _ hx]; rfl) ?_ (Or.inl (by rw [upd_same]))
    intro hc
    exact hut (hi.b.privUq u t r (heldRec_priv hc) (by rw [bview_vpc, hpc]; rfl))
  | eCon c orig z hpc =>
    have hp : z ∉ s.log ∧ s.rled z = .alloc := invB_priv hi.b hpc rfl
    have hh : NoRec s.dview c ∧ s.nled c = .cons := invD_held h hpc
    have hw : c ∈ s.lst ∧ _ := invC_wr hi.c hpc
    refine invD_conR (t := t) h z { next := none, owner := none, znode := some c } (.eMark c orig z)
      (by rw [hp.2]; nofun) hp.1 ?_ ?_ ⟨congrArg Rec.znode (upd_same ..), hh.2⟩ hpc (.inr ⟨c, rfl, rfl⟩)
    · intro u hut hu
      refine heldP_conR (d := s.dview) hu (fun x hx => by rw [upd_other _ _ _ _ hx]; rfl) ?_ (Or.inr ?_)
      · intro hc
        exact hut (hi.b.privUq u t z (heldRec_priv hc) (by rw [bview_vpc, hpc]; rfl))
      · intro c' o' hv
        have a := (hi.a.wm u).1 (dview_writer (p := s.pc u) (congrArg writerV hv))
        have b := (hi.a.wm t).1 (hpc ▸ rfl)
        rw [a] at b; injection b with b; exact hut b
    · intro c' hc'
      cases hc'
      exact ⟨hi.c.sub _ hw.1, rfl, hh.1⟩
  -- the list changes
  | pE1 k n _ hpc | pF3 k n _ hpc =>
    have hh : s.nled n = .cons := invD_held h hpc
    have hn : n ∉ s.order := fresh_of_dview (k := k) (Or.inr rfl) (invC_wr hi.c hpc)
    refine invD_gen (t := t) h _ hpc rfl (fun _ hx => hx) (fun _ hx hn => absurd hx hn) (fun _ => rfl)
      (fun _ _ hd => hd) rfl ?_ (fun x hx => Or.inl (List.mem_cons_of_mem _ hx)) (fun x hx => List.mem_cons_of_mem _ hx)
      (fun x hx => Or.inl hx) rfl trivial nofun ?_ nofun
    · intro x hx
      rcases List.mem_cons.1 hx with e | e
      · subst e; exact Or.inr ⟨hh, hn⟩
      · exact Or.inl e
    · rintro n' (⟨k', hn' | hn'⟩ | hn') <;> cases hn'
      exact Or.inr (Or.inr (Or.inl List.mem_cons_self))
  | pB2 k n h0 _ hpc =>
    have hh : s.nled n = .cons := invD_held h hpc
    have hw : FreshN s.cview n none (some h0) ∧ _ := invC_wr hi.c hpc
    refine invD_gen (t := t) h (.pB3 k n) hpc rfl (fun _ hx => hx) (fun _ hx hn => absurd hx hn) (fun _ => rfl)
      ?_ rfl ?_ (fun x hx => Or.inl (List.mem_append_left _ hx)) (fun x hx => List.mem_append_left _ hx)
      (fun x hx => Or.inl hx) rfl trivial nofun ?_ nofun
    · intro c _ hd
      exact (congrFun (upd_proj_fun s.nodes Node.deleted h0 { s.nodes h0 with next := some n } rfl) c).trans hd
    · intro x hx
      rcases List.mem_append.1 hx with e | e
      · exact Or.inl e
      · rw [List.mem_singleton.1 e]; exact Or.inr ⟨hh, hw.1.1⟩
    · rintro n' (⟨k', hn' | hn'⟩ | hn') <;> cases hn'
      exact Or.inr (Or.inr (Or.inl (List.mem_append_right _ List.mem_cons_self)))
  | eMark c orig z hpc =>
    refine invD_genq (t := t) h (.eBack c orig z) hpc (.inl rfl) rfl (fun _ hx => hx) (fun _ hx hn => absurd hx hn)
      (fun _ => rfl) ?_ rfl (fun _ hy => Or.inl hy) (fun _ hy => Or.inl hy) (fun _ hy => hy) (fun _ hy => Or.inl hy) rfl
      (heldP_mono (d := s.dview) (v := .eMark c none z) (invD_held h hpc) rfl rfl (fun _ hx => hx))
    intro c' _ hd
    show ((upd s.nodes c { s.nodes c with deleted := true }) c').deleted = true
    by_cases e : c' = c
    · subst e; rw [upd_same]
    · rw [upd_other _ _ _ _ e]; exact hd
  | eUnlPrev c orig pp x z _ hpc =>
    have hh : (s.recs z).znode = some c ∧ s.nled c = .cons := invD_held h hpc
    have hp : z ∉ s.log ∧ s.rled z = .cons := invB_priv hi.b hpc rfl
    have hw : c ∈ s.lst ∧ (s.nodes c).deleted = true ∧ _ ∧ NextIs s.lst (some pp) (some c) ∧ _ := invC_wr hi.c hpc
    have hnd : s.lst.Nodup := hi.c.lstNd
    have hppc : pp ≠ c := fun e => not_mem_below_self hnd (e ▸ head_mem_below hw.2.2.2.1.2)
    refine invD_gen (t := t) h (.eFix c orig (some pp) x z) hpc rfl (fun _ hx => hx) (fun _ hx hn => absurd hx hn)
      (fun _ => rfl) ?_ rfl (fun y hy => Or.inl (List.mem_of_mem_erase hy)) ?_ (fun y hy => hy)
      (fun y hy => Or.inl hy) rfl ⟨c, hh.1, hh.2⟩ nofun (by rintro n (⟨k, hn | hn⟩ | hn) <;> cases hn) ?_
    · intro c' _ hd
      exact (congrFun (upd_proj_fun s.nodes Node.deleted pp { s.nodes pp with next := x } rfl) c').trans hd
    · intro y hy
      by_cases e : y = c
      · subst e; exact Or.inr ⟨z, hp.2, hh.1⟩
      · exact Or.inl ((List.mem_erase_of_ne e).2 hy)
    · intro c' z' hv
      cases hv
      refine Or.inr ⟨?_, hi.c.sub _ hw.1, fun hm => (List.Nodup.mem_erase_iff hnd).1 hm |>.1 rfl⟩
      exact (congrFun (upd_proj_fun s.nodes Node.deleted pp { s.nodes pp with next := x } rfl) c).trans hw.2.1
  | eUnlHead c orig x z _ hpc =>
    have hh : (s.recs z).znode = some c ∧ s.nled c = .cons := invD_held h hpc
    have hp : z ∉ s.log ∧ s.rled z = .cons := invB_priv hi.b hpc rfl
    have hw : c ∈ s.lst ∧ (s.nodes c).deleted = true ∧ _ := invC_wr hi.c hpc
    have hnd : s.lst.Nodup := hi.c.lstNd
    refine invD_gen (t := t) h (.eFix c orig none x z) hpc rfl (fun _ hx => hx) (fun _ hx hn => absurd hx hn)
      (fun _ => rfl) (fun _ _ hd => hd) rfl (fun y hy => Or.inl (List.mem_of_mem_erase hy)) ?_ (fun y hy => hy)
      (fun y hy => Or.inl hy) rfl ⟨c, hh.1, hh.2⟩ nofun (by rintro n (⟨k, hn | hn⟩ | hn) <;> cases hn) ?_
    · intro y hy
      by_cases e : y = c
      · subst e; exact Or.inr ⟨z, hp.2, hh.1⟩
      · exact Or.inl ((List.mem_erase_of_ne e).2 hy)
    · intro c' z' hv
      cases hv
      exact Or.inr ⟨hw.2.1, hi.c.sub _ hw.1, fun hm => (List.Nodup.mem_erase_iff hnd).1 hm |>.1 rfl⟩

end ConcVerif.Rcu
