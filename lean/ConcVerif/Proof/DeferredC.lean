import ConcVerif.Proof.Deferred
/-! Group C of the `deferred_guarded` invariants: conservation and ownership of tasks. -/
namespace ConcVerif.Deferred

variable {s s' : St} {t u : Tid} {p p' : Pc} {e : Ev} {spur : Bool} {es : List (Tid × Ev)}

/-- the task is published: in the queue, in the drainer's batch, or applied -/
def St.inSeq (s : St) (k : TaskId) : Prop := k ∈ s.applied ∨ k ∈ s.batch ∨ k ∈ s.queue

def BatchX (s : St) : Prop := s.batch ≠ [] → ∃ d, s.mx = some d ∧ (s.pc d).runs = true

structure InvC (s : St) : Prop where
  nodup : (s.applied ++ s.batch ++ s.queue).Nodup
  own : ∀ u k, (s.pc u).task = some k → s.sub k = some u
  cons : ∀ k u, s.sub k = some u → s.inSeq k ∨ (s.pc u).prePub = some k
  pre : ∀ u k, (s.pc u).prePub = some k → ¬ s.inSeq k
  seqSub : ∀ k, s.inSeq k → s.sub k ≠ none
  doneSub : ∀ k, k ∈ s.done → s.sub k ≠ none
  notDone : ∀ u k, (s.pc u).task = some k → k ∉ s.done
  retd : ∀ k u, s.sub k = some u → k ∈ s.done ∨ (s.pc u).task = some k
  bef : ∀ k a, a ∈ s.before k → a ∈ s.done
  batchX : BatchX s

theorem St.inSeq_iff {k : TaskId} : s.inSeq k ↔ k ∈ s.applied ++ s.batch ++ s.queue := by
  simp only [St.inSeq, List.mem_append, or_assoc]

theorem invC_init (spur : Bool) : InvC (init spur) := by
  constructor <;> simp [init, St.inSeq, BatchX, Pc.task, Pc.prePub]

theorem batchX_keep (h : BatchX s) (hp : s.pc t = p) (hpc : s'.pc = upd s.pc t p')
    (hb : s'.batch = s.batch) (hmx : s'.mx = s.mx) (hr : p.runs = true → p'.runs = true) : BatchX s' := by
  subst hp
  intro hne
  rw [hb] at hne
  obtain ⟨d, hd, hrd⟩ := h hne
  refine ⟨d, by rw [hmx]; exact hd, ?_⟩
  rw [hpc]
  by_cases hdt : d = t
  · subst hdt; simp [hr hrd]
  · simp [hdt, hrd]

theorem batchX_nil (hb : s'.batch = []) : BatchX s' := fun hne => absurd hb hne

theorem InvC.task_inj (h : InvC s) {t u : Tid} {k : TaskId} (ht : (s.pc t).task = some k)
    (hu : (s.pc u).task = some k) : u = t := by
  have a := h.own t k ht
  have b := h.own u k hu
  rw [a] at b; injection b with b; exact b.symm

theorem invC_call {k : TaskId} {a : Bool} (h : InvC s) (hp : s.pc t = .idle false)
    (hsub : s.sub k = none) (hpc : s'.pc = upd s.pc t (.mTry k a))
    (hsb : s'.sub = upd s.sub k (some t)) (hbf : s'.before = upd s.before k s.done)
    (ha : s'.applied = s.applied) (hb : s'.batch = s.batch) (hq : s'.queue = s.queue) (hdone : s'.done = s.done)
    (hmx : s'.mx = s.mx) : InvC s' := by
  have hbx : BatchX s' := batchX_keep h.batchX hp hpc hb hmx nofun
  obtain ⟨h1, h2, h3, h4, h5, h6, h7, h8, h9, _⟩ := h
  have hseq : ∀ k', s'.inSeq k' ↔ s.inSeq k' := by intro k'; simp [St.inSeq, ha, hb, hq]
  have hnseq : ¬ s.inSeq k := fun hin => h5 k hin hsub
  have hndone : k ∉ s.done := fun hin => h6 k hin hsub
  have hsub' : ∀ k', k' ≠ k → s'.sub k' = s.sub k' := by intro k' hk; rw [hsb]; simp [upd, hk]
  have hsubk : s'.sub k = some t := by rw [hsb]; simp [upd]
  have hpct : s'.pc t = .mTry k a := by rw [hpc]; simp
  have hpcu : ∀ u, u ≠ t → s'.pc u = s.pc u := by intro u hu; rw [hpc]; simp [hu]
  refine ⟨by rw [ha, hb, hq]; exact h1, ?_, ?_, ?_, ?_, ?_, ?_, ?_, ?_, hbx⟩
  · intro u k' hk'
    by_cases hu : u = t
    · subst hu; rw [hpct] at hk'; simp only [Pc.task, Option.some.injEq] at hk'; subst hk'; exact hsubk
    · rw [hpcu u hu] at hk'
      have := h2 u k' hk'
      have hne : k' ≠ k := by intro he; subst he; rw [hsub] at this; cases this
      rw [hsub' k' hne]; exact this
  · intro k' u hs'
    rw [hseq]
    by_cases hk : k' = k
    · subst hk; rw [hsubk] at hs'; injection hs' with hs'; subst hs'; right; rw [hpct]; simp [Pc.prePub]
    · rw [hsub' k' hk] at hs'
      rcases h3 k' u hs' with hin | hpre
      · exact Or.inl hin
      · by_cases hu : u = t
        · subst hu; rw [hp] at hpre; simp [Pc.prePub] at hpre
        · right; rw [hpcu u hu]; exact hpre
  · intro u k' hk'
    rw [hseq]
    by_cases hu : u = t
    · subst hu; rw [hpct] at hk'; simp only [Pc.prePub, Option.some.injEq] at hk'; subst hk'; exact hnseq
    · rw [hpcu u hu] at hk'; exact h4 u k' hk'
  · intro k' hin
    rw [hseq] at hin
    by_cases hk : k' = k
    · subst hk; rw [hsubk]; simp
    · rw [hsub' k' hk]; exact h5 k' hin
  · intro k' hin
    rw [hdone] at hin
    by_cases hk : k' = k
    · subst hk; rw [hsubk]; simp
    · rw [hsub' k' hk]; exact h6 k' hin
  · intro u k' hk'
    rw [hdone]
    by_cases hu : u = t
    · subst hu; rw [hpct] at hk'; simp only [Pc.task, Option.some.injEq] at hk'; subst hk'; exact hndone
    · rw [hpcu u hu] at hk'; exact h7 u k' hk'
  · intro k' u hs'
    rw [hdone]
    by_cases hk : k' = k
    · subst hk; rw [hsubk] at hs'; injection hs' with hs'; subst hs'; right; rw [hpct]; simp [Pc.task]
    · rw [hsub' k' hk] at hs'
      rcases h8 k' u hs' with hin | htk
      · exact Or.inl hin
      · by_cases hu : u = t
        · subst hu; rw [hp] at htk; simp [Pc.task] at htk
        · right; rw [hpcu u hu]; exact htk
  · intro k' a' hin
    rw [hdone]
    rw [hbf] at hin
    by_cases hk : k' = k
    · subst hk; simpa [upd] using hin
    · simp only [upd, hk, if_false] at hin; exact h9 k' a' hin

/-- publishing the caller's own task `k` (push to the queue, or direct application): `k` moves from
`prePub` into the sequence; all other memberships are kept -/
theorem invC_publish {k : TaskId} (h : InvC s) (hp : s.pc t = p)
    (hpc : s'.pc = upd s.pc t p') (hold : p.prePub = some k) (htask : p'.task = some k) (hpre : p'.prePub = none)
    (hperm : (s'.applied ++ s'.batch ++ s'.queue).Perm (k :: (s.applied ++ s.batch ++ s.queue)))
    (hsub : s'.sub = s.sub) (hdone : s'.done = s.done) (hbef : s'.before = s.before)
    (hbx : BatchX s') : InvC s' := by
  subst hp
  have hnd := hperm.nodup_iff.2 (List.nodup_cons.2 ⟨fun hin => h.pre t k hold (St.inSeq_iff.2 hin), h.nodup⟩)
  have hseq (k' : TaskId) : s'.inSeq k' ↔ (s.inSeq k' ∨ k' = k) := by
    rw [St.inSeq_iff, hperm.mem_iff, List.mem_cons, St.inSeq_iff, or_comm]
  have hinj := fun u hu => h.task_inj (t := t) (u := u) (Pc.prePub_task hold) hu
  obtain ⟨h1, h2, h3, h4, h5, h6, h7, h8, h9, _⟩ := h
  have htk : ∀ u, (s'.pc u).task = (s.pc u).task := by
    intro u; rw [hpc]; exact upd_proj Pc.task s.pc t p' (by rw [htask, Pc.prePub_task hold]) u
  refine ⟨hnd, ?_, ?_, ?_, ?_, ?_, ?_, ?_, ?_, hbx⟩
  · intro u k'; rw [htk, hsub]; exact h2 u k'
  · intro k' u hs'
    rw [hsub] at hs'
    rw [hseq, hpc]
    rcases h3 k' u hs' with hin | hp
    · exact Or.inl (Or.inl hin)
    · by_cases hu : u = t
      · subst hu; rw [hold] at hp; injection hp with hp; exact Or.inl (Or.inr hp.symm)
      · right; simp [hu, hp]
  · intro u k' hk'
    rw [hpc] at hk'
    by_cases hu : u = t
    · subst hu; simp [hpre] at hk'
    · simp only [upd_other _ _ _ _ hu] at hk'
      rw [hseq]
      intro hin
      rcases hin with hin | hin
      · exact h4 u k' hk' hin
      · subst hin; exact hu (hinj u (Pc.prePub_task hk'))
  · intro k' hin
    rw [hsub]
    rcases (hseq k').1 hin with hin | hin
    · exact h5 k' hin
    · subst hin; rw [h2 t k' (Pc.prePub_task hold)]; simp
  · intro k'; rw [hdone, hsub]; exact h6 k'
  · intro u k'; rw [htk, hdone]; exact h7 u k'
  · intro k' u; rw [hsub, hdone, htk]; exact h8 k' u
  · intro k' a; rw [hbef, hdone]; exact h9 k' a

theorem invC_shift (h : InvC s) (hp : s.pc t = p) (hpc : s'.pc = upd s.pc t p')
    (htask : p'.task = p.task) (hpre : p'.prePub = p.prePub)
    (hperm : (s'.applied ++ s'.batch ++ s'.queue).Perm (s.applied ++ s.batch ++ s.queue))
    (hsub : s'.sub = s.sub) (hdone : s'.done = s.done) (hbef : s'.before = s.before)
    (hbx : BatchX s') : InvC s' := by
  subst hp
  have hnd := hperm.nodup_iff.2 h.nodup
  have hseq (k' : TaskId) : s'.inSeq k' ↔ s.inSeq k' := by rw [St.inSeq_iff, hperm.mem_iff, St.inSeq_iff]
  obtain ⟨h1, h2, h3, h4, h5, h6, h7, h8, h9, _⟩ := h
  have htk : ∀ u, (s'.pc u).task = (s.pc u).task := by
    intro u; rw [hpc]; exact upd_proj Pc.task s.pc t p' htask u
  have hpp : ∀ u, (s'.pc u).prePub = (s.pc u).prePub := by
    intro u; rw [hpc]; exact upd_proj Pc.prePub s.pc t p' hpre u
  refine ⟨hnd, ?_, ?_, ?_, ?_, ?_, ?_, ?_, ?_, hbx⟩
  · intro u k; rw [htk, hsub]; exact h2 u k
  · intro k u; rw [hsub, hseq, hpp]; exact h3 k u
  · intro u k; rw [hpp, hseq]; exact h4 u k
  · intro k; rw [hseq, hsub]; exact h5 k
  · intro k; rw [hdone, hsub]; exact h6 k
  · intro u k; rw [htk, hdone]; exact h7 u k
  · intro k u; rw [hsub, hdone, htk]; exact h8 k u
  · intro k a; rw [hbef, hdone]; exact h9 k a

theorem invC_move (h : InvC s) (hp : s.pc t = p) (hpc : s'.pc = upd s.pc t p')
    (htask : p'.task = p.task) (hpre : p'.prePub = p.prePub)
    (ha : s'.applied = s.applied) (hb : s'.batch = s.batch) (hq : s'.queue = s.queue)
    (hsub : s'.sub = s.sub) (hdone : s'.done = s.done) (hbef : s'.before = s.before)
    (hbx : BatchX s') : InvC s' :=
  invC_shift h hp hpc htask hpre (by rw [ha, hb, hq]) hsub hdone hbef hbx

theorem invC_done {k : TaskId} {a thr : Bool} (h : InvC s) (hp : s.pc t = .mRet k a thr)
    (hpc : s'.pc = upd s.pc t (.idle false)) (hdone : s'.done = k :: s.done)
    (hsb : s'.sub = s.sub) (hbf : s'.before = s.before)
    (ha : s'.applied = s.applied) (hb : s'.batch = s.batch) (hq : s'.queue = s.queue)
    (hmx : s'.mx = s.mx) : InvC s' := by
  have hbx : BatchX s' := batchX_keep h.batchX hp hpc hb hmx nofun
  have htk : (s.pc t).task = some k := by simp [hp, Pc.task]
  have hinj := fun u hu => h.task_inj (t := t) (u := u) htk hu
  obtain ⟨h1, h2, h3, h4, h5, h6, h7, h8, h9, _⟩ := h
  have hseq : ∀ k', s'.inSeq k' ↔ s.inSeq k' := by intro k'; simp [St.inSeq, ha, hb, hq]
  have hpct : s'.pc t = .idle false := by rw [hpc]; simp
  have hpcu : ∀ u, u ≠ t → s'.pc u = s.pc u := by intro u hu; rw [hpc]; simp [hu]
  refine ⟨by rw [ha, hb, hq]; exact h1, ?_, ?_, ?_, ?_, ?_, ?_, ?_, ?_, hbx⟩
  · intro u k' hk'
    rw [hsb]
    by_cases hu : u = t
    · subst hu; rw [hpct] at hk'; simp [Pc.task] at hk'
    · rw [hpcu u hu] at hk'; exact h2 u k' hk'
  · intro k' u hs'
    rw [hsb] at hs'; rw [hseq]
    rcases h3 k' u hs' with hin | hpre
    · exact Or.inl hin
    · by_cases hu : u = t
      · subst hu; rw [hp] at hpre; simp [Pc.prePub] at hpre
      · right; rw [hpcu u hu]; exact hpre
  · intro u k' hk'
    rw [hseq]
    by_cases hu : u = t
    · subst hu; rw [hpct] at hk'; simp [Pc.prePub] at hk'
    · rw [hpcu u hu] at hk'; exact h4 u k' hk'
  · intro k' hin; rw [hseq] at hin; rw [hsb]; exact h5 k' hin
  · intro k' hin
    rw [hdone] at hin; rw [hsb]
    simp only [List.mem_cons] at hin
    rcases hin with hin | hin
    · subst hin; rw [h2 t k' htk]; simp
    · exact h6 k' hin
  · intro u k' hk'
    rw [hdone]
    by_cases hu : u = t
    · subst hu; rw [hpct] at hk'; simp [Pc.task] at hk'
    · rw [hpcu u hu] at hk'
      simp only [List.mem_cons, not_or]
      refine ⟨?_, h7 u k' hk'⟩
      intro he; subst he; exact hu (hinj u hk')
  · intro k' u hs'
    rw [hsb] at hs'; rw [hdone]
    rcases h8 k' u hs' with hin | htk'
    · exact Or.inl (List.mem_cons_of_mem _ hin)
    · by_cases hu : u = t
      · subst hu; rw [htk] at htk'; injection htk' with htk'; subst htk'; exact Or.inl (List.mem_cons_self)
      · right; rw [hpcu u hu]; exact htk'
  · intro k' a' hin
    rw [hbf] at hin; rw [hdone]
    exact List.mem_cons_of_mem _ (h9 k' a' hin)

theorem InvC.no_batch_unless (h : InvC s) {t : Tid} (hm : s.mx = none ∨ (s.mx = some t ∧ (s.pc t).runs = false)) :
    s.batch = [] := by
  by_cases hb : s.batch = []
  · exact hb
  · obtain ⟨d, hd, hr⟩ := h.batchX hb
    rcases hm with hm | ⟨hm, hr'⟩
    · rw [hm] at hd; cases hd
    · rw [hm] at hd; injection hd with hd; subst hd; rw [hr] at hr'; cases hr'

theorem invC_step (hL : InvL s) (h : InvC s) (hs : Kind s t s') : InvC s' := by
  have keep {p p' : Pc} (hp : s.pc t = p) (hr : p.runs = true → p'.runs = true) : BatchX (s.setPc t p') :=
    batchX_keep h.batchX hp rfl rfl rfl hr
  cases hs with
  | stutter => exact h
  | wr v _ =>
    exact invC_move h rfl (upd_self _ t).symm rfl rfl rfl rfl rfl rfl rfl rfl
      (batchX_keep h.batchX rfl (upd_self _ t).symm rfl rfl id)
  | move p p' hp hc =>
    exact invC_move h hp rfl hc.task hc.prePub rfl rfl rfl rfl rfl rfl (keep hp (by rw [hc.runs]; exact id))
  | call k a hp hsub => exact invC_call h hp hsub rfl rfl rfl rfl rfl rfl rfl rfl
  | lockXm k a hp hm | lockXs c hp hm =>
    exact invC_move h hp rfl rfl rfl rfl rfl rfl rfl rfl rfl (batchX_nil (h.no_batch_unless (t := t) (.inl hm)))
  | unlockXm k a thr hp hm =>
    have hb := h.no_batch_unless (t := t) (Or.inr ⟨hm, by rw [hp]; rfl⟩)
    exact invC_move h hp rfl rfl rfl rfl rfl rfl rfl rfl rfl (batchX_nil hb)
  | unlockXs c hp hb hm => exact invC_move h hp rfl rfl rfl rfl rfl rfl rfl rfl rfl (batchX_nil hb)
  | push k a hp hq =>
    exact invC_publish h hp rfl rfl rfl rfl (by simpa [St.setPc] using List.perm_append_singleton k (s.applied ++ s.batch ++ s.queue)) rfl rfl rfl
      (batchX_keep h.batchX hp rfl rfl rfl nofun)
  | swap c hp hq hb =>
    refine invC_shift h hp rfl rfl rfl (by rw [hb]; simp [St.setPc]) rfl rfl rfl fun _ => ?_
    exact ⟨t, (hL.mxP t).2 (by rw [hp]; rfl), by rw [setPc_pc, upd_same]; rfl⟩
  | applyHead c j rest hp hb =>
    refine invC_shift h hp rfl rfl rfl (by rw [hb]; simp [St.setPc]) rfl rfl rfl fun _ => ?_
    exact ⟨t, (hL.mxP t).2 (by rw [hp]; rfl), by rw [setPc_pc, upd_same]; rfl⟩
  | applyOwn k a hp hb =>
    exact invC_publish h hp rfl rfl rfl rfl (by rw [hb]; simpa [St.setPc] using List.perm_middle) rfl rfl rfl
      (batchX_nil hb)
  | endHead c j o hp => exact invC_move h hp rfl rfl rfl rfl rfl rfl rfl rfl rfl (keep hp id)
  | done k a thr hp => exact invC_done h hp rfl rfl rfl rfl rfl rfl rfl rfl
  | _ =>
    have hp := ‹s.pc t = _›
    exact invC_move h hp rfl rfl rfl rfl rfl rfl rfl rfl rfl (keep hp nofun)

end ConcVerif.Deferred
