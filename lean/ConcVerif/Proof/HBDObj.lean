import ConcVerif.Proof.DObjConc
import ConcVerif.Proof.HBLock
import ConcVerif.Proof.HBUtil
/-! Connection of the `DelayedObjects` model to the happens-before layer.

Mapping of the model events (`toHB`, stateless): `mlk` / `mul` = exclusive acquire / release of `promiseLock`
(mutex 0); `acc` = a plain access to one of the four map objects, counted as a WRITE of one location
(plain location 0 — the strongest reading: every two accesses conflict); `got p _` (a consumer found
future `p` ready) = an acquire load of the shared state of promise `p` (atomic location `p + 1`);
`call` / `ret` = `nop`.  The model's `pset v` event (`set_value`) does not name the promise it
satisfies, so the stateless mapping cannot place the corresponding release and drops it (`nop`: FEWER
edges, i.e. the race-freedom statements proved for `hbTrace` are the stronger ones).

`hbTraceP L` is the promise-aware mapping: the `j`-th `pset` event of the trace is the release store to
the shared state of the promise named by the `j`-th entry of the `set_value` log `L` (the model's ghost
`St.sets`; Proof/HBDObjPub.lean shows that this is the entry the critical section logged for it, with
the same value).  `std::promise::set_value` → `std::future::get` is TRUSTED to be a release/acquire
pair ([futures.state]: "synchronizes with").  All lock / access facts are proved for `hbTraceP L` with
`L` arbitrary; `hbTrace = hbTraceP []`. -/
namespace ConcVerif.DObj

def Ev.isPset : Ev → Bool
  | .pset _ => true
  | _ => false

def psetCount (es : List (Tid × Ev)) : Nat := es.countP (fun p => p.2.isPset)

/-- stateless happens-before content of a model event (see the file header) -/
def toHB : Ev → HB.Ev
  | .mlk => .acq 0 .X
  | .mul => .rel 0 .X
  | .acc => .wr 0
  | .got p _ => .ld (p + 1) .acq
  | _ => .nop

def hbTrace (es : List (Tid × Ev)) : HB.Trace := es.map (fun p => (p.1, toHB p.2))

/-- promise-aware content: the `j`-th `set_value` event releases the shared state of the promise of the
`j`-th entry of the log `L` -/
def toHBP (L : List (Id × Val)) (j : Nat) : Ev → HB.Ev
  | .mlk => .acq 0 .X
  | .mul => .rel 0 .X
  | .acc => .wr 0
  | .got p _ => .ld (p + 1) .acq
  | .pset _ => match L[j]? with
      | some e => .st (e.1 + 1) .rel
      | none => .nop
  | _ => .nop

def hbGo (L : List (Id × Val)) : Nat → List (Tid × Ev) → HB.Trace
  | _, [] => []
  | j, (t, e) :: r => (t, toHBP L j e) :: hbGo L (j + (if e.isPset then 1 else 0)) r

def hbTraceP (L : List (Id × Val)) (es : List (Tid × Ev)) : HB.Trace := hbGo L 0 es

theorem psetCount_cons (x : Tid × Ev) (es : List (Tid × Ev)) :
    psetCount (x :: es) = (if x.2.isPset then 1 else 0) + psetCount es := by
  simp only [psetCount, List.countP_cons]; omega

theorem psetCount_snoc (es : List (Tid × Ev)) (x : Tid × Ev) :
    psetCount (es ++ [x]) = psetCount es + (if x.2.isPset then 1 else 0) := by
  simp [psetCount, List.countP_append, List.countP_cons]

theorem hbGo_snoc (L : List (Id × Val)) (j : Nat) (es : List (Tid × Ev)) (t : Tid) (e : Ev) :
    hbGo L j (es ++ [(t, e)]) = hbGo L j es ++ [(t, toHBP L (j + psetCount es) e)] := by
  induction es generalizing j with
  | nil => simp [hbGo, psetCount]
  | cons x r ih =>
    obtain ⟨u, f⟩ := x
    simp only [List.cons_append, hbGo, ih, psetCount_cons]
    rw [Nat.add_assoc]

theorem hbTraceP_snoc (L : List (Id × Val)) (es : List (Tid × Ev)) (t : Tid) (e : Ev) :
    hbTraceP L (es ++ [(t, e)]) = hbTraceP L es ++ [(t, toHBP L (psetCount es) e)] := by
  simp [hbTraceP, hbGo_snoc]

@[simp] theorem hbTraceP_length (L : List (Id × Val)) (es : List (Tid × Ev)) : (hbTraceP L es).length = es.length := by
  induction es using HB.snoc_induction with
  | h0 => rfl
  | hs es x ih => rw [hbTraceP_snoc, List.length_append, List.length_append, ih]; rfl

theorem hbTraceP_take (L : List (Id × Val)) (n : Nat) (es : List (Tid × Ev)) :
    (hbTraceP L es).take n = hbTraceP L (es.take n) := by
  induction es using HB.snoc_induction with
  | h0 => rw [List.take_nil]; exact List.take_nil
  | hs es x ih =>
    by_cases hn : n ≤ es.length
    · rw [hbTraceP_snoc, List.take_append_of_le_length hn, List.take_append_of_le_length (by simpa using hn), ih]
    · have h1 : (es ++ [x]).length ≤ n := by rw [List.length_append]; exact Nat.lt_of_not_le hn
      rw [List.take_of_length_le h1, List.take_of_length_le (by simpa using h1)]

theorem hbTraceP_get (L : List (Id × Val)) {es : List (Tid × Ev)} {i : Nat} {t : Tid} {e : Ev}
    (h : es[i]? = some (t, e)) : (hbTraceP L es)[i]? = some (t, toHBP L (psetCount (es.take i)) e) := by
  induction es using HB.snoc_induction with
  | h0 => cases h
  | hs es x ih =>
    rw [hbTraceP_snoc]
    rcases HB.lq_snoc h with ⟨hlt, h'⟩ | ⟨rfl, h'⟩
    · rw [List.take_append_of_le_length (Nat.le_of_lt hlt)]
      exact HB.lq_mono _ (ih h')
    · cases h'
      rw [List.take_left' rfl, ← hbTraceP_length L es]
      exact HB.lq_last _ _

theorem hbTraceP_inv (L : List (Id × Val)) {es : List (Tid × Ev)} {i : Nat} {t : Tid} {h : HB.Ev}
    (hi : (hbTraceP L es)[i]? = some (t, h)) :
    ∃ e, es[i]? = some (t, e) ∧ h = toHBP L (psetCount (es.take i)) e := by
  have hl : i < es.length := by simpa using HB.lq_lt hi
  rw [hbTraceP_get L (List.getElem?_eq_getElem hl)] at hi
  cases hi
  exact ⟨_, List.getElem?_eq_getElem hl, rfl⟩


theorem toHBP_nil (j : Nat) (e : Ev) : toHBP [] j e = toHB e := by
  cases e <;> simp [toHBP, toHB]

theorem hbTrace_eq (es : List (Tid × Ev)) : hbTrace es = hbTraceP [] es := by
  induction es using HB.snoc_induction with
  | h0 => rfl
  | hs es x ih => rw [hbTraceP_snoc, ← ih, toHBP_nil, hbTrace, hbTrace, List.map_append]; rfl

theorem toHBP_access {L : List (Id × Val)} {j : Nat} {e : Ev} {x : HB.Loc} (h : (toHBP L j e).accesses x) :
    e = .acc ∧ x = 0 := by
  cases e with
  | acc => rcases h with h | h <;> cases h; exact ⟨rfl, rfl⟩
  | pset v =>
    simp only [toHBP] at h
    split at h <;> (rcases h with h | h <;> cases h)
  | _ => rcases h with h | h <;> cases h

section
variable {s s' : St} {t : Tid} {e : Ev}

/-- inside or after the critical section of a call -/
def Pc.inCS : Pc → Bool
  | .locked _ _ _ => true
  | .unlocked _ _ => true
  | _ => false

theorem tr_closer (h : Tr s t e s') (hc : s.closer ≠ none) : s'.closer = s.closer := by
  induction h with
  | call o hpc hc' hok => exact absurd hc' hc
  | _ => rfl

theorem tr_inCS (h : Tr s t e s') (hin : (s'.pc t).inCS = true) :
    (s.pc t).inCS = true ∨ e = .mlk := by
  induction h with
  | mlk => exact .inr rfl
  | call o _ _ _ => simp [Pc.inCS] at hin
  | ret o r _ => simp [Pc.inCS] at hin
  | pset o r todo v hpc _ => left; rw [hpc]; rfl
  | mul o r hpc _ => left; rw [hpc]; rfl
  | _ => exact .inl hin

end

/-- a thread past the destructor's critical section is the registered closer: its entry is in the history, so
the container is dead, so there is a closer and every other thread is idle -/
theorem closer_of_unlocked_dtor {s : St} {t : Tid} {r : Res} (hi : Inv s) (hpc : s.pc t = .unlocked .dtor r) :
    s.closer = some t := by
  have hd := run_dtor_dead hi.lin ⟨_, hi.recorded t .dtor r (.inl hpc), rfl⟩
  cases hc : s.closer with
  | none => exact absurd hc (hi.deadClosed hd).1
  | some c =>
    by_cases htc : t = c
    · rw [htc]
    · have := hi.closerOnly c hc t htc
      rw [hpc] at this; cases this

def OthersGot (es : List (Tid × Ev)) (k : Nat) (c : Tid) : Prop :=
  ∀ m u e, k < m → es[m]? = some (u, e) → u ≠ c → ∃ p x, e = Ev.got p x

/-- position `n` lies after the lock acquisition (`l`) of the destructor call (`k`) of thread `c`, and from the
call on no other thread did anything but observe futures -/
def DtorAt (es : List (Tid × Ev)) (c : Tid) (n : Nat) : Prop :=
  ∃ k l, k < l ∧ l < n ∧ es[k]? = some (c, Ev.call .dtor) ∧ es[l]? = some (c, Ev.mlk) ∧ OthersGot es k c

section
variable {es : List (Tid × Ev)} {s s' : St} {t : Tid} {e : Ev}

theorem othersGot_snoc {k : Nat} {c : Tid} (h : OthersGot es k c) (hi : Inv s) (hc : s.closer = some c) (htr : Tr s t e s') :
    OthersGot (es ++ [(t, e)]) k c := by
  intro m u f hkm hm huc
  rcases HB.lq_snoc hm with ⟨_, hm'⟩ | ⟨_, hm'⟩
  · exact h m u f hkm hm' huc
  · injection hm' with h1 h2; subst h1; subst h2
    -- `u` is idle: it can only call (refused, there is a closer) or observe a future
    have hidle := hi.closerOnly c hc u huc
    induction htr with
    | call o hpc hc' hok => rw [hc] at hc'; cases hc'
    | got p x _ _ _ => exact ⟨p, x, rfl⟩
    | _ => simp_all

/-- the registered closer has called the destructor, since then the others only observe futures, and once it
is inside / after its critical section it has taken the lock after that call -/
def CloserQ (es : List (Tid × Ev)) (s : St) : Prop :=
  ∀ c, s.closer = some c → ∃ k, es[k]? = some (c, Ev.call .dtor) ∧ OthersGot es k c ∧
    ((s.pc c).inCS = true → ∃ l, k < l ∧ es[l]? = some (c, Ev.mlk))

theorem closerQ_step (hq : CloserQ es s) (hi : Inv s) (htr : Tr s t e s') : CloserQ (es ++ [(t, e)]) s' := by
  intro c hc'
  by_cases hcn : s.closer = none
  · have hx : e = .call .dtor ∧ c = t := by
      induction htr with
      | call o _ _ _ =>
        simp only [setPc_closer] at hc'
        by_cases ho : o = .dtor
        · subst ho; simp at hc'; exact ⟨rfl, hc'.symm⟩
        · simp [ho, hcn] at hc'
      | _ => cases hcn.symm.trans hc'
    obtain ⟨he, hct⟩ := hx; subst he; subst hct
    refine ⟨es.length, HB.lq_last _ _, ?_, ?_⟩
    · intro m u f hkm hm _
      have := HB.lq_lt hm; simp at this; omega
    · intro hin
      cases htr with
      | call o _ _ _ => simp [Pc.inCS] at hin
  · have hc : s.closer = some c := by rw [← tr_closer htr hcn]; exact hc'
    obtain ⟨k, hk, hog, hl⟩ := hq c hc
    refine ⟨k, HB.lq_mono _ hk, othersGot_snoc hog hi hc htr, ?_⟩
    intro hin
    by_cases hct : c = t
    · subst hct
      rcases tr_inCS htr hin with h1 | h1
      · obtain ⟨l, h2, h3⟩ := hl h1; exact ⟨l, h2, HB.lq_mono _ h3⟩
      · subst h1; exact ⟨es.length, HB.lq_lt hk, HB.lq_last _ _⟩
    · rw [tr_pc_other htr hct] at hin
      obtain ⟨l, h2, h3⟩ := hl hin; exact ⟨l, h2, HB.lq_mono _ h3⟩

end

theorem lock_agrees {tr : HB.Trace} {L : List (Id × Val)} {j : Nat} {s s' : St} {t : Tid} {e : Ev}
    (h : HB.Agrees tr 0 (HB.ofOwner s.lock)) (htr : Tr s t e s') :
    HB.Agrees (tr ++ [(t, toHBP L j e)]) 0 (HB.ofOwner s'.lock) := by
  induction htr with
  | mlk o σ r l hpc hl ha => rw [hl] at h; exact h.lock
  | mul o r hpc hl => rw [hl] at h; exact h.unlock
  | pset o r todo v hpc hv =>
    simp only [toHBP]
    split <;> exact h.inert (by simp) (by simp)
  | _ => exact h.inert (by simp [toHBP]) (by simp [toHBP])

structure Sim (L : List (Id × Val)) (es : List (Tid × Ev)) (s : St) : Prop where
  lock : HB.Agrees (hbTraceP L es) 0 (HB.ofOwner s.lock)
  cq : CloserQ es s
  acc : ∀ n c, es[n]? = some (c, Ev.acc) →
    HB.held ((hbTraceP L es).take n) c 0 = some .X ∨ (s.closer = some c ∧ DtorAt es c n)

theorem sim_step {L : List (Id × Val)} {es : List (Tid × Ev)} {s s' : St} {t : Tid} {e : Ev} (hs : Sim L es s)
    (hr : run es = some s) (htr : Tr s t e s') : Sim L (es ++ [(t, e)]) s' := by
  have hi : Inv s := inv_reachable ⟨es, hr⟩
  refine ⟨by rw [hbTraceP_snoc]; exact lock_agrees hs.lock htr, closerQ_step hs.cq hi htr, ?_⟩
  intro n c hn
  rcases HB.lq_snoc hn with ⟨hlt, hn'⟩ | ⟨hlen, hn'⟩
  · rcases hs.acc n c hn' with h | ⟨hc, hda⟩
    · left
      rw [hbTraceP_snoc, List.take_append_of_le_length (by simp; omega)]; exact h
    · right
      obtain ⟨k, l, h1, h2, h3, h4, h5⟩ := hda
      exact ⟨by rw [tr_closer htr (by rw [hc]; simp)]; exact hc, k, l, h1, h2, HB.lq_mono _ h3, HB.lq_mono _ h4,
        othersGot_snoc h5 hi hc htr⟩
  · injection hn' with h3 h4; subst h3; subst h4; subst hlen
    cases htr with
    | accL o r todo hpc =>
      left
      have hl : s.lock = some c := (hi.lockPc c).2 ⟨o, r, todo, hpc⟩
      rw [hbTraceP_snoc, List.take_left' (by simp), hs.lock.1, hl]; exact HB.ofOwner_self c
    | accD r hpc =>
      right
      have hc := closer_of_unlocked_dtor hi hpc
      obtain ⟨k, hk, hog, hl⟩ := hs.cq c hc
      obtain ⟨l, hkl, hl⟩ := hl (by rw [hpc]; rfl)
      exact ⟨hc, k, l, hkl, HB.lq_lt hl, HB.lq_mono _ hk, HB.lq_mono _ hl,
        othersGot_snoc hog hi hc (.accD r hpc)⟩

theorem sim_run (L : List (Id × Val)) {es : List (Tid × Ev)} {s : St} (h : run es = some s) : Sim L es s :=
  run_induction (P := Sim L) ⟨.nil fun _ => rfl, fun _ hc => (nomatch hc), fun _ _ hn => (nomatch hn)⟩
    (fun _ _ _ _ _ hr hs htr => sim_step hs hr htr) h

theorem run_take {es : List (Tid × Ev)} {s : St} (h : run es = some s) (n : Nat) : ∃ s1, run (es.take n) = some s1 := by
  rw [← List.take_append_drop n es] at h
  obtain ⟨s1, h1, _⟩ := runFrom_append_eq_some.mp h
  exact ⟨s1, h1⟩

section
variable {es : List (Tid × Ev)} {s : St}

theorem held_prefix (L : List (Id × Val)) {s1 : St} {n : Nat} (h1 : run (es.take n) = some s1) (u : Tid) :
    HB.held ((hbTraceP L es).take n) u 0 = HB.ofOwner s1.lock u := by
  rw [hbTraceP_take]; exact (sim_run L h1).lock.1 u

theorem access_acc {L : List (Id × Val)} {i : Nat} {t : Tid} {ei : HB.Ev} {x : HB.Loc}
    (h : (hbTraceP L es)[i]? = some (t, ei)) (ha : ei.accesses x) : es[i]? = some (t, Ev.acc) ∧ x = 0 ∧ ei = .wr 0 := by
  obtain ⟨e, he, hh⟩ := hbTraceP_inv L h
  subst hh
  obtain ⟨h1, h2⟩ := toHBP_access ha
  subst h1; exact ⟨he, h2, rfl⟩

/-- **ordering of the map accesses**: in every accepted trace each access to the maps happens after every
earlier one (all of them counted as writes), the destructor's member destruction included -/
theorem dobj_hb (L : List (Id × Val)) (h : run es = some s) {i j : Nat} (hij : i < j)
    (hc : HB.ConflictOn (hbTraceP L es) 0 i j) : HB.HB (hbTraceP L es) i j := by
  have S := sim_run L h
  obtain ⟨t, u, ei, ej, h1, h2, ha1, ha2, _⟩ := hc
  by_cases htu : t = u
  · subst htu; exact .po hij h1 h2
  · obtain ⟨e1, _, hw1⟩ := access_acc h1 ha1
    obtain ⟨e2, _, hw2⟩ := access_acc h2 ha2
    subst hw1; subst hw2
    rcases S.acc i t e1 with hi | ⟨_, k, l, _, hli, _, _, hog⟩
    · rcases S.acc j u e2 with hj | ⟨_, k, l, hkl, hlj, hk, hl, hog⟩
      · exact HB.held_hb S.lock.2 hij h1 h2 htu hi hj (.inl rfl)
      · -- `j` is the destructor's access after its critical section
        have hik : i ≤ k := by
          apply Classical.byContradiction
          intro hn
          obtain ⟨p, x, hh⟩ := hog i t _ (by omega) e1 htu
          cases hh
        have hl' := hbTraceP_get L hl
        exact .trans (HB.hb_to_acq S.lock.2 (by omega) h1 hi hl' htu (.inr rfl))
          (.po hlj hl' h2)
    · -- `i` cannot be the destructor's: a later access by another thread is impossible
      obtain ⟨p, x, hh⟩ := hog j u _ (by omega) e2 (fun hh => htu hh.symm)
      cases hh

theorem dobj_no_race (L : List (Id × Val)) (h : run es = some s) : ¬ HB.Race (hbTraceP L es) := by
  intro ⟨i, j, hij, ⟨x, hc⟩, hn⟩
  have hx : x = 0 := by
    obtain ⟨t, u, ei, ej, h1, _, ha, _⟩ := hc
    exact (access_acc h1 ha).2.1
  subst hx
  exact hn (dobj_hb L h hij hc)

theorem dobj_lockset (L : List (Id × Val)) (h : run es = some s) (hc : s.closer = none) : HB.LockSet (hbTraceP L es) 0 0 := by
  have S := sim_run L h
  intro n hn
  unfold HB.lockedAt
  split
  · rename_i t y heq
    cases (access_acc heq (.inl rfl)).2.2
  · rename_i t y heq
    intro hy; subst hy
    obtain ⟨he, _, _⟩ := access_acc heq (.inr rfl)
    rcases S.acc n t he with h1 | ⟨h1, _⟩
    · exact h1
    · rw [hc] at h1; cases h1
  · trivial

end

end ConcVerif.DObj
