import ConcVerif.Proof.HB
/-! The lockset theorem: in a trace consistent with mutex semantics, accesses made under one mutex
(exclusively for writes) are ordered by happens-before. -/
namespace ConcVerif.HB

theorem held_snoc (tr : Trace) (p : Tid × Ev) : held (tr ++ [p]) = hstep (held tr) p := by
  simp [held, List.foldl_append]

theorem held_take_succ {tr : Trace} {n : Nat} {p : Tid × Ev} (h : tr[n]? = some p) :
    held (tr.take (n + 1)) = hstep (held (tr.take n)) p := by
  rw [take_succ_get h, held_snoc]

theorem hstep_cases (h : Tid → Loc → Option Mode) (w : Tid) (e : Ev) (u : Tid) (m : Loc) :
    (∃ md, e = .acq m md ∧ w = u ∧ hstep h (w, e) u m = some md) ∨
    (∃ md, e = .rel m md ∧ w = u ∧ hstep h (w, e) u m = none) ∨
    hstep h (w, e) u m = h u m := by
  cases e with
  | acq m' md =>
    by_cases hc : u = w ∧ m = m'
    · obtain ⟨h1, h2⟩ := hc; subst h1; subst h2
      exact .inl ⟨md, rfl, rfl, by simp [hstep]⟩
    · exact .inr (.inr (by simp [hstep, hc]))
  | rel m' md =>
    by_cases hc : u = w ∧ m = m'
    · obtain ⟨h1, h2⟩ := hc; subst h1; subst h2
      exact .inr (.inl ⟨md, rfl, rfl, by simp [hstep]⟩)
    · exact .inr (.inr (by simp [hstep, hc]))
  | _ => exact .inr (.inr rfl)

theorem hstep_inert (h : Tid → Loc → Option Mode) (t : Tid) {e : Ev} (h1 : ∀ m md, e ≠ .acq m md)
    (h2 : ∀ m md, e ≠ .rel m md) : hstep h (t, e) = h := by
  cases e with
  | acq m md => exact absurd rfl (h1 m md)
  | rel m md => exact absurd rfl (h2 m md)
  | _ => rfl

theorem held_some_mem {tr : Trace} {u : Tid} {m : Loc} {md : Mode} (h : held tr u m = some md) :
    ∃ p ∈ tr, p.1 = u := by
  induction tr using snoc_induction with
  | h0 => simp [held] at h
  | hs tr x ih =>
    rw [held_snoc] at h
    obtain ⟨w, e⟩ := x
    by_cases hw : w = u
    · exact ⟨(w, e), by simp, hw⟩
    · have : held tr u m = some md := by
        rcases hstep_cases (held tr) w e u m with ⟨_, _, h1, _⟩ | ⟨_, _, h1, _⟩ | h1
        · exact absurd h1 hw
        · exact absurd h1 hw
        · rw [h1] at h; exact h
      obtain ⟨p, hp, hpu⟩ := ih this
      exact ⟨p, by simp [hp], hpu⟩

theorem compat_some {a b : Mode} (h : compat (some a) b = true) : a = .S ∧ b = .S := by
  cases a <;> cases b <;> simp [compat] at h ⊢

/-- the compatibility requirement of `okAt` for every other thread -/
theorem okAt_acq {tr : Trace} {n : Nat} {t : Tid} {m : Loc} {md : Mode} (hok : okAt tr n)
    (h : tr[n]? = some (t, .acq m md)) :
    held (tr.take n) t m = none ∧ ∀ u, u ≠ t → compat (held (tr.take n) u m) md = true := by
  simp only [okAt, h] at hok
  refine ⟨hok.1, ?_⟩
  intro u hu
  cases hh : held (tr.take n) u m with
  | none => rfl
  | some a =>
    obtain ⟨p, hp, hpu⟩ := held_some_mem hh
    have := hok.2 p hp (by rw [hpu]; exact hu)
    rw [hpu, hh] at this; exact this

theorem okAt_rel {tr : Trace} {n : Nat} {t : Tid} {m : Loc} {md : Mode} (hok : okAt tr n)
    (h : tr[n]? = some (t, .rel m md)) : held (tr.take n) t m = some md := by
  simp only [okAt, h] at hok; exact hok

/-- mutual exclusion follows from the per-event consistency conditions -/
theorem held_excl {tr : Trace} (hok : MutexOK tr) {n : Nat} (hn : n ≤ tr.length) {t u : Tid} {m : Loc} {a b : Mode}
    (htu : t ≠ u) (ht : held (tr.take n) t m = some a) (hu : held (tr.take n) u m = some b) : a = .S ∧ b = .S := by
  induction n generalizing t u a b with
  | zero => simp [held] at ht
  | succ n ih =>
    obtain ⟨w, e, hp⟩ := get_of_lt hn
    rw [held_take_succ hp] at ht hu
    have hacq := fun md (he : e = .acq m md) => (okAt_acq (hok n hn) (he ▸ hp)).2
    -- whoever acquires `m` at `n` finds the other thread's (old) hold compatible
    rcases hstep_cases (held (tr.take n)) w e t m with ⟨md, rfl, rfl, h1⟩ | ⟨md, _, _, h1⟩ | h1
    · obtain rfl := Option.some.inj (h1.symm.trans ht)
      rcases hstep_cases (held (tr.take n)) w (.acq m md) u m with ⟨_, _, hw2, _⟩ | ⟨_, he2, _, _⟩ | h2
      · exact absurd hw2 htu
      · cases he2
      · exact (compat_some ((h2.symm.trans hu) ▸ hacq md rfl u (Ne.symm htu))).symm
    · exact absurd (h1.symm.trans ht) nofun
    · rcases hstep_cases (held (tr.take n)) w e u m with ⟨md, rfl, rfl, h2⟩ | ⟨md, _, _, h2⟩ | h2
      · obtain rfl := Option.some.inj (h2.symm.trans hu)
        exact compat_some ((h1.symm.trans ht) ▸ hacq md rfl t htu)
      · exact absurd (h2.symm.trans hu) nofun
      · exact ih (Nat.le_of_lt hn) htu (h1.symm.trans ht) (h2.symm.trans hu)

theorem held_released {tr : Trace} (hok : MutexOK tr) {t : Tid} {m : Loc} {md : Mode} {i l : Nat} (hil : i ≤ l)
    (hl : l ≤ tr.length) (hi : held (tr.take i) t m = some md) (hne : held (tr.take l) t m ≠ some md) :
    ∃ k, i ≤ k ∧ k < l ∧ tr[k]? = some (t, .rel m md) := by
  obtain ⟨d, rfl⟩ := Nat.exists_eq_add_of_le hil
  induction d with
  | zero => exact absurd hi hne
  | succ d ih =>
    have hlt : i + d < tr.length := hl
    by_cases hh : held (tr.take (i + d)) t m = some md
    · -- the hold is still there at `i + d`: the event there is the release
      obtain ⟨w, e, hp⟩ := get_of_lt hlt
      rw [← Nat.add_assoc, held_take_succ hp] at hne
      rcases hstep_cases (held (tr.take (i + d))) w e t m with ⟨md', rfl, rfl, _⟩ | ⟨md', rfl, rfl, _⟩ | h1
      · exact absurd (hh.symm.trans (okAt_acq (hok _ hlt) hp).1) nofun
      · obtain rfl := Option.some.inj ((okAt_rel (hok _ hlt) hp).symm.trans hh)
        exact ⟨i + d, Nat.le_add_right i d, Nat.lt_succ_self _, hp⟩
      · exact absurd (h1.trans hh) hne
    · obtain ⟨k, h1, h2, h3⟩ := ih (Nat.le_add_right i d) (Nat.le_of_lt hlt) hh
      exact ⟨k, h1, Nat.lt_succ_of_lt h2, h3⟩

theorem held_acquired {tr : Trace} {i j : Nat} {u : Tid} {m : Loc} {md : Mode} (hij : i ≤ j) (hj : j ≤ tr.length)
    (h : held (tr.take j) u m = some md) :
    held (tr.take i) u m = some md ∨ ∃ l, i ≤ l ∧ l < j ∧ tr[l]? = some (u, .acq m md) := by
  obtain ⟨d, rfl⟩ := Nat.exists_eq_add_of_le hij
  induction d with
  | zero => exact .inl h
  | succ d ih =>
    have hlt : i + d < tr.length := hj
    obtain ⟨w, e, hp⟩ := get_of_lt hlt
    rw [← Nat.add_assoc, held_take_succ hp] at h
    rcases hstep_cases (held (tr.take (i + d))) w e u m with ⟨md', rfl, rfl, h1⟩ | ⟨md', _, _, h1⟩ | h1
    · obtain rfl := Option.some.inj (h1.symm.trans h)
      exact .inr ⟨i + d, Nat.le_add_right i d, Nat.lt_succ_self _, hp⟩
    · exact absurd (h1.symm.trans h) nofun
    · exact (ih (Nat.le_add_right i d) (Nat.le_of_lt hlt) (h1.symm.trans h)).imp id
        fun ⟨l, h2, h3, h4⟩ => ⟨l, h2, Nat.lt_succ_of_lt h3, h4⟩

/-- what the lockset discipline says at an access: the thread holds `m`, exclusively if it writes -/
theorem lockedAt_held {tr : Trace} {x m : Loc} {n : Nat} {t : Tid} {e : Ev} (h : lockedAt tr x m n)
    (hn : tr[n]? = some (t, e)) (ha : e.accesses x) :
    ∃ a, held (tr.take n) t m = some a ∧ (e = .wr x → a = .X) := by
  simp only [lockedAt, hn] at h
  rcases ha with rfl | rfl
  · cases hh : held (tr.take n) t m with
    | none => exact absurd hh (h rfl)
    | some a => exact ⟨a, rfl, nofun⟩
  · exact ⟨.X, h rfl, fun _ => rfl⟩

/-- a hold by `t` that is incompatible with a later acquisition by `u` was released before it -/
theorem rel_before_acq {tr : Trace} (hok : MutexOK tr) {i l : Nat} {t u : Tid} {m : Loc} {a b : Mode} (hil : i ≤ l)
    (hta : held (tr.take i) t m = some a) (hl : tr[l]? = some (u, .acq m b)) (htu : t ≠ u) (hX : a = .X ∨ b = .X) :
    ∃ k, i ≤ k ∧ k < l ∧ tr[k]? = some (t, .rel m a) := by
  have hll := lq_lt hl
  have hcomp := (okAt_acq (hok l hll) hl).2 t htu
  refine held_released hok hil (Nat.le_of_lt hll) hta fun h => ?_
  obtain ⟨rfl, rfl⟩ := compat_some (h ▸ hcomp)
  exact hX.elim nofun nofun

/-- the event at which `t` holds `m` happens before a later incompatible acquisition of `m` by `u`: unlock → lock -/
theorem hb_to_acq {tr : Trace} (hok : MutexOK tr) {i l : Nat} {t u : Tid} {m : Loc} {a b : Mode} {ei : Ev} (hil : i ≤ l)
    (hi : tr[i]? = some (t, ei)) (hta : held (tr.take i) t m = some a) (hl : tr[l]? = some (u, .acq m b))
    (htu : t ≠ u) (hX : a = .X ∨ b = .X) : HB tr i l := by
  obtain ⟨k, hik, hkl, hk⟩ := rel_before_acq hok hil hta hl htu hX
  have hsw : HB tr k l := .sw (.mutex hkl hk hl hX)
  rcases Nat.lt_or_eq_of_le hik with hlt | rfl
  · exact .trans (.po hlt hi hk) hsw
  · exact hsw

/-- **Two holds of one mutex are ordered**: if thread `t` holds `m` at position `i`, a different thread `u` holds it
at the later position `j`, and one of the holds is exclusive, then `i` happens before `j`: `u` took the lock after `i`
(else both would hold it at `i`), so `t` released it before. -/
theorem held_hb {tr : Trace} {i j : Nat} (hok : MutexOK tr) {t u : Tid} {ei ej : Ev} {m : Loc} {a b : Mode}
    (hij : i < j) (h1 : tr[i]? = some (t, ei)) (h2 : tr[j]? = some (u, ej)) (htu : t ≠ u)
    (hta : held (tr.take i) t m = some a) (hub : held (tr.take j) u m = some b) (hX : a = .X ∨ b = .X) :
    HB tr i j := by
  have hjl := lq_lt h2
  rcases held_acquired (Nat.le_of_lt hij) (Nat.le_of_lt hjl) hub with h3 | ⟨l, hil, hlj, hl⟩
  · obtain ⟨rfl, rfl⟩ := held_excl hok (Nat.le_of_lt (Nat.lt_trans hij hjl)) htu hta h3
    exact hX.elim nofun nofun
  · exact .trans (hb_to_acq hok hil h1 hta hl htu hX) (.po hlj hl h2)

/-- **Lockset theorem.**  In a trace consistent with mutex semantics, if every access to `x` is made
while the accessing thread holds `m` (exclusively for writes), every access to `x` happens after every
earlier conflicting access. -/
theorem lockset_hb {tr : Trace} {i j : Nat} {x m : Loc} (hok : MutexOK tr) (hls : LockSet tr x m) (hij : i < j)
    (hc : ConflictOn tr x i j) : HB tr i j := by
  obtain ⟨t, u, ei, ej, h1, h2, ha1, ha2, hor⟩ := hc
  by_cases htu : t = u
  · subst htu; exact .po hij h1 h2
  · -- what the two threads hold at their accesses: not both shared, since one of them writes
    obtain ⟨a, hta, hax⟩ := lockedAt_held (hls i (Nat.lt_trans hij (lq_lt h2))) h1 ha1
    obtain ⟨b, hub, hbx⟩ := lockedAt_held (hls j (lq_lt h2)) h2 ha2
    exact held_hb hok hij h1 h2 htu hta hub (hor.imp hax hbx)

/-! ## building the hypotheses event by event (used to connect component models) -/

theorem okAt_old {tr : Trace} (ext : Trace) {n : Nat} (hn : n < tr.length) : okAt (tr ++ ext) n ↔ okAt tr n := by
  simp only [okAt, List.getElem?_append_left hn, List.take_append_of_le_length (Nat.le_of_lt hn)]

theorem lockedAt_old {tr : Trace} (ext : Trace) {x m : Loc} {n : Nat} (hn : n < tr.length) :
    lockedAt (tr ++ ext) x m n ↔ lockedAt tr x m n := by
  simp only [lockedAt, List.getElem?_append_left hn, List.take_append_of_le_length (Nat.le_of_lt hn)]

theorem mutexOK_snoc {tr : Trace} {t : Tid} {e : Ev} (h : MutexOK tr)
    (hacq : ∀ m md, e = .acq m md → held tr t m = none ∧ ∀ u, u ≠ t → compat (held tr u m) md = true)
    (hrel : ∀ m md, e = .rel m md → held tr t m = some md) : MutexOK (tr ++ [(t, e)]) := by
  intro n hn
  by_cases hlt : n < tr.length
  · exact (okAt_old _ hlt).mpr (h n hlt)
  · have : n = tr.length := by simp at hn; omega
    subst this
    simp only [okAt, List.getElem?_concat_length, List.take_left']
    cases e with
    | acq m md => exact ⟨(hacq m md rfl).1, fun p _ hp => (hacq m md rfl).2 p.1 hp⟩
    | rel m md => exact hrel m md rfl
    | _ => trivial

theorem lockSet_snoc {tr : Trace} {x m : Loc} {t : Tid} {e : Ev} (h : LockSet tr x m)
    (hrd : e = .rd x → held tr t m ≠ none) (hwr : e = .wr x → held tr t m = some .X) :
    LockSet (tr ++ [(t, e)]) x m := by
  intro n hn
  by_cases hlt : n < tr.length
  · exact (lockedAt_old _ hlt).mpr (h n hlt)
  · have : n = tr.length := by simp at hn; omega
    subst this
    simp only [lockedAt, List.getElem?_concat_length, List.take_left']
    cases e with
    | rd y => intro hy; subst hy; exact hrd rfl
    | wr y => intro hy; subst hy; exact hwr rfl
    | _ => trivial

theorem mutexOK_nil : MutexOK [] := by intro n hn; simp at hn
theorem lockSet_nil (x m : Loc) : LockSet [] x m := by intro n hn; simp at hn

/-! ## one mutex against the model's own record of its holders

A component model keeps its own record of who holds its mutex (an owner word, a mode per thread).  `Agrees tr m hold`:
`held` of the mapped trace is that record, and the trace respects mutex semantics.  It is proved for every accepted
run by `runFrom_trace_inv` with one lemma below per kind of event (and `lockSet_snoc` for the accesses), as
Proof/HBDObj.lean does. -/

def Agrees (tr : Trace) (m : Loc) (hold : Tid → Option Mode) : Prop := (∀ u, held tr u m = hold u) ∧ MutexOK tr

theorem Agrees.nil {m : Loc} {hold : Tid → Option Mode} (h0 : ∀ u, hold u = none) :
    Agrees [] m hold := ⟨fun u => (h0 u).symm, mutexOK_nil⟩

theorem Agrees.acq {tr : Trace} {m : Loc} {t : Tid} {md : Mode} {hold hold' : Tid → Option Mode}
    (h : Agrees tr m hold) (hfree : hold t = none)
    (hc : ∀ u, u ≠ t → compat (hold u) md = true) (h' : ∀ u, hold' u = if u = t then some md else hold u) :
    Agrees (tr ++ [(t, .acq m md)]) m hold' := by
  refine ⟨fun u => ?_, mutexOK_snoc h.2 (fun m' md' he => ?_) nofun⟩
  · simp only [held_snoc, hstep, and_true, h.1 u, h' u]
  · cases he; exact ⟨(h.1 t).trans hfree, fun u hu => by rw [h.1 u]; exact hc u hu⟩

theorem Agrees.rel {tr : Trace} {m : Loc} {t : Tid} {md : Mode} {hold hold' : Tid → Option Mode}
    (h : Agrees tr m hold) (hheld : hold t = some md)
    (h' : ∀ u, hold' u = if u = t then none else hold u) : Agrees (tr ++ [(t, .rel m md)]) m hold' := by
  refine ⟨fun u => ?_, mutexOK_snoc h.2 nofun fun m' md' he => ?_⟩
  · simp only [held_snoc, hstep, and_true, h.1 u, h' u]
  · cases he; exact (h.1 t).trans hheld

theorem Agrees.inert {tr : Trace} {m : Loc} {t : Tid} {hold : Tid → Option Mode} {e : Ev} (h : Agrees tr m hold)
    (h1 : ∀ m' md, e ≠ .acq m' md) (h2 : ∀ m' md, e ≠ .rel m' md) :
    Agrees (tr ++ [(t, e)]) m hold :=
  ⟨fun u => by rw [held_snoc, hstep_inert _ _ h1 h2]; exact h.1 u,
    mutexOK_snoc h.2 (fun m' md he => absurd he (h1 m' md)) fun m' md he => absurd he (h2 m' md)⟩

/-- the record of an exclusive mutex: its owner -/
def ofOwner (w : Option Tid) (u : Tid) : Option Mode := if w = some u then some .X else none

theorem ofOwner_self (t : Tid) : ofOwner (some t) t = some .X := if_pos rfl
theorem ofOwner_other {t u : Tid} (hu : u ≠ t) : ofOwner (some t) u = none :=
  if_neg fun e => hu (Option.some.inj e).symm

theorem Agrees.lock {tr : Trace} {m : Loc} {t : Tid} (h : Agrees tr m (ofOwner none)) :
    Agrees (tr ++ [(t, .acq m .X)]) m (ofOwner (some t)) :=
  h.acq rfl (fun _ _ => rfl) fun u => by
    by_cases hu : u = t
    · rw [if_pos hu, hu, ofOwner_self]
    · rw [if_neg hu, ofOwner_other hu]; rfl

theorem Agrees.unlock {tr : Trace} {m : Loc} {t : Tid} (h : Agrees tr m (ofOwner (some t))) :
    Agrees (tr ++ [(t, .rel m .X)]) m (ofOwner none) :=
  h.rel (ofOwner_self t) fun u => by
    by_cases hu : u = t
    · rw [if_pos hu]; rfl
    · rw [if_neg hu, ofOwner_other hu]; rfl

end ConcVerif.HB
