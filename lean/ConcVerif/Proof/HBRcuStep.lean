import ConcVerif.Proof.HBRcu
import ConcVerif.Proof.RcuHist
/-! rcu_list and happens-before, part 2 (state level, no traces): what one step of the model does — which
component of the state an edge changes and what the acting thread's phase (constructing a record, scanning,
reclaiming) becomes; the classification of events (`Ev.initN`, `Ev.nodeAcc`, `Ev.nodeEnd` and their record twins).

What concerns the list, the iterators, the handles or the write mutex comes from `Step.quiet` (Proof/RcuHist.lean): a step
that is not an `Edge` leaves them alone, so only the `Edge`s are looked at.  The rest is one `induction` over `Step` per
lemma (the indices are variables, so no unification is needed); the edges that do not matter are closed by one term: the
projection lemma of `setPc` where the edge only moves the pc, `rfl` otherwise, `dtor_edge` for the edges of the destructor.
The later parts look at the edges themselves only where the event is fixed (`FV_step_ast`, `node_end_last`, `rec_end_last`
and the lemmas of HBRcuSafe about who performs an access). -/
namespace ConcVerif.Rcu

variable {s s' : St} {t : Tid} {e : Ev} (hi : Inv s) (hS : Step s t e s') (hnd : inDtor (s.pc t) = false)

/-- plain initialisation of a list node (constructor of `node`: `deleted`, `data`, and the non-atomic
initial values of `next` / `back`) -/
def Ev.initN : Ev → Option Nat
  | .conN n _ => some n
  | .pstData n _ => some n
  | .pstDel n false => some n
  | _ => none

/-- plain initialisation of a log record (constructor of `zombie_list_node`: `zombie_node`, and the
non-atomic initial values of `next` / `owner`), and the CAS that publishes it -/
def Ev.initR : Ev → Option Nat
  | .conR r _ _ => some r
  | .pstZn r _ => some r
  | .cas _ _ (some r) true _ => some r
  | _ => none

/-- the node whose memory an event reads or writes (construction included; destruction and deallocation are
the subject of the reclamation theorems) -/
def Ev.nodeAcc : Ev → Option Nat
  | .ald (.nnext n) _ _ | .ald (.nback n) _ _ | .ast (.nnext n) _ _ | .ast (.nback n) _ _ => some n
  | .pldDel n _ | .pstDel n _ | .pldData n _ | .pstData n _ => some n
  | .conN n _ => some n
  | _ => none

/-- the log record whose memory an event reads or writes (construction included; destruction and
deallocation are the subject of the reclamation theorems) -/
def Ev.recAcc : Ev → Option Nat
  | .ald (.rnext r) _ _ | .ald (.rowner r) _ _ | .ast (.rnext r) _ _ | .ast (.rowner r) _ _ => some r
  | .pldZn r _ | .pstZn r _ => some r
  | .conR r _ _ => some r
  | _ => none

/-- destruction / deallocation of a node -/
def Ev.nodeEnd : Ev → Option Nat
  | .des false n => some n
  | .fre false n => some n
  | _ => none

/-- destruction / deallocation of a log record -/
def Ev.recEnd : Ev → Option Nat
  | .des true r => some r
  | .fre true r => some r
  | _ => none

/-- where a reclaimer's cursor goes next -/
def reapPc (r : Nat) : Option Nat → Pc
  | some m => .rZn r m
  | none => .uTrunc r

/-- … and what is taken off the log -/
def reapLog (l : List Nat) : Option Nat → List Nat
  | some m => l.erase m
  | none => l

section reapAt
variable (s : St) (t : Tid) (r : Nat) (n : Option Nat)
@[simp] theorem reapAt_nodes : (s.reapAt t r n).nodes = s.nodes := by cases n <;> rfl
@[simp] theorem reapAt_recs : (s.reapAt t r n).recs = s.recs := by cases n <;> rfl
@[simp] theorem reapAt_nN : (s.reapAt t r n).nN = s.nN := by cases n <;> rfl
@[simp] theorem reapAt_nR : (s.reapAt t r n).nR = s.nR := by cases n <;> rfl
@[simp] theorem reapAt_nled : (s.reapAt t r n).nled = s.nled := by cases n <;> rfl
@[simp] theorem reapAt_rled : (s.reapAt t r n).rled = s.rled := by cases n <;> rfl
@[simp] theorem reapAt_head : (s.reapAt t r n).head = s.head := by cases n <;> rfl
@[simp] theorem reapAt_wmtx : (s.reapAt t r n).wmtx = s.wmtx := by cases n <;> rfl
@[simp] theorem reapAt_lst : (s.reapAt t r n).lst = s.lst := by cases n <;> rfl
@[simp] theorem reapAt_order : (s.reapAt t r n).order = s.order := by cases n <;> rfl
@[simp] theorem reapAt_dt : (s.reapAt t r n).dt = s.dt := by cases n <;> rfl
@[simp] theorem reapAt_hnd : (s.reapAt t r n).hnd = s.hnd := by cases n <;> rfl
@[simp] theorem reapAt_it : (s.reapAt t r n).it = s.it := by cases n <;> rfl
theorem reapAt_log : (s.reapAt t r n).log = reapLog s.log n := by cases n <;> rfl
theorem reapAt_pc : (s.reapAt t r n).pc = upd s.pc t (reapPc r n) := by cases n <;> rfl
end reapAt

theorem dt_mono (hS : Step s t e s') (h : s'.dt = false) : s.dt = false := by
  by_cases hE : Edge s t e s'
  · cases hE with
    | dFreN _ nx => cases nx <;> exact h
    | _ => exact h
  · exact (hS.quiet hE).dt h

/-- an edge of the destructor is not taken by a thread outside it: closes those edges as
`exact dtor_edge hnd ‹_› rfl` -/
theorem dtor_edge {s : St} {t : Tid} {p : Pc} {P : Prop} (hnd : inDtor (s.pc t) = false) (hpc : s.pc t = p)
    (h : inDtor p = true) : P := by
  rw [hpc, h] at hnd; cases hnd

theorem wmtx_cases (hS : Step s t e s') :
    s'.wmtx = s.wmtx ∨ (e = .mlk ∧ s.wmtx = none ∧ s'.wmtx = some t) ∨ (e = .mul ∧ s.wmtx = some t ∧ s'.wmtx = none) := by
  by_cases hE : Edge s t e s'
  · cases hE with
    | pushLock _ _ _ _ hm | eraseLock _ _ _ hm => exact .inr (.inl ⟨rfl, hm, rfl⟩)
    | pThrownMul _ _ hm | pUnlock _ _ hm | eUnlock _ _ hm => exact .inr (.inr ⟨rfl, hm, rfl⟩)
    | dFreN _ nx => cases nx <;> exact .inl rfl
    | _ => exact .inl rfl
  · exact .inl (hS.quiet hE).wmtx

theorem ald_sc {f : Fld} {o : Ord} {v : Option Nat} (hS : Step s t (.ald f o v) s') (hf : f.isLink = true) (h : f ≠ .tail) :
    o.isSc = true := by
  cases hS <;> first | assumption | exact absurd rfl h | cases hf

theorem it_cases (hS : Step s t e s') :
    s'.it = s.it ∨
    (∃ o, e = .ald .head o s.head ∧ o.isSc = true ∧ s'.it = upd s.it t (some s.head)) ∨
    (∃ n o, e = .ald (.nnext n) o (s.nodes n).next ∧ o.isSc = true ∧ s.it t = some (some n) ∧
      s'.it = upd s.it t (some (s.nodes n).next)) ∨
    (∃ orig, e = .mul ∧ s.wmtx = some t ∧ s'.it = upd s.it t (some orig)) ∨
    (s'.it = upd s.it t none ∧ ((∃ k, e = .ret k) ∨ ∃ f o v, e = .ast f o v)) := by
  by_cases hE : Edge s t e s'
  · cases hE with
    | beg _ _ o => exact .inr (.inl ⟨o, rfl, ald_sc hS rfl Fld.noConfusion, rfl⟩)
    | nxt n o _ hi => exact .inr (.inr (.inl ⟨n, o, rfl, ald_sc hS rfl Fld.noConfusion, hi, rfl⟩))
    | eUnlock orig _ hm => exact .inr (.inr (.inr (.inl ⟨orig, rfl, hm, rfl⟩)))
    | relFresh => exact .inr (.inr (.inr (.inr ⟨rfl, .inl ⟨_, rfl⟩⟩)))
    | uClear => exact .inr (.inr (.inr (.inr ⟨rfl, .inr ⟨_, _, _, rfl⟩⟩)))
    | dFreN _ nx => cases nx <;> exact .inl rfl
    | _ => exact .inl rfl
  · exact .inl (hS.quiet hE).it

theorem it_frame {s s' : St} {t : Tid} {e : Ev} (hS : Step s t e s') (h1 : ∀ f o v, e ≠ .ald f o v)
    (h2 : ∀ f o v, e ≠ .ast f o v) (h3 : e ≠ .mul) (h4 : ∀ k, e ≠ .ret k) (hnd : inDtor (s.pc t) = false) : s'.it = s.it := by
  rcases it_cases hS with h | ⟨_, h, _⟩ | ⟨_, _, h, _⟩ | ⟨_, h, _⟩ | ⟨_, ⟨_, h⟩ | ⟨_, _, _, h⟩⟩
  · exact h
  · exact absurd h (h1 _ _ _)
  · exact absurd h (h1 _ _ _)
  · exact absurd h h3
  · exact absurd h (h4 _)
  · exact absurd h (h2 _ _ _)

theorem it_other (hS : Step s t e s') {u : Tid} (hu : u ≠ t) : s'.it u = s.it u := by
  rcases it_cases hS with h | ⟨_, _, _, h⟩ | ⟨_, _, _, _, _, h⟩ | ⟨_, _, _, h⟩ | ⟨h, _⟩ <;> rw [h]
  all_goals exact upd_other _ _ _ _ hu

theorem rel_fresh (hS : Step s t (.ret .rel) s') (hpc : s.pc t = .called .rel) : ∃ b, s.hnd t = .fresh b := by
  cases hS with
  | relFresh w _ hh => exact ⟨w, hh⟩
  | ret _ h => rw [hpc] at h; cases h

theorem hnd_cases (hS : Step s t e s') :
    s'.hnd = s.hnd ∨
    (∃ b, e = .ret (.lock b) ∧ s.pc t = .called (.lock b) ∧ s'.hnd = upd s.hnd t (.fresh b)) ∨
    (∃ b, e = .ret .rel ∧ s.hnd t = .fresh b ∧ s'.hnd = upd s.hnd t .none) ∨
    (∃ r o, e = .ast (.rowner r) o none ∧ s.pc t = .uClear r ∧ s'.hnd = upd s.hnd t .none ∧ s'.log = s.log ∧
      s'.lst = s.lst) ∨
    (∃ k r o, e = .cas o s.zhead (some r) true s.zhead ∧ o.isSc = true ∧ s.pc t = .pushCas (.reg k) r s.zhead ∧
      s'.hnd = upd s.hnd t (.reg (s.hnd t).isW r) ∧ s'.log = r :: s.log) := by
  by_cases hE : Edge s t e s'
  · cases hE with
    | retLock w hpc => exact .inr (.inl ⟨w, rfl, hpc, rfl⟩)
    | relFresh hpc => exact .inr (.inr (.inl ((rel_fresh hS hpc).elim fun w hh => ⟨w, rfl, hh, rfl⟩)))
    | uClear r o hpc => exact .inr (.inr (.inr (.inl ⟨r, o, rfl, hpc, rfl, rfl, rfl⟩)))
    | casRegOk k r o hpc ho => exact .inr (.inr (.inr (.inr ⟨k, r, o, rfl, ho, hpc, rfl, rfl⟩)))
    | dFreN _ nx => cases nx <;> exact .inl rfl
    | _ => exact .inl rfl
  · exact .inl (hS.quiet hE).hnd

theorem hnd_frame {s s' : St} {t : Tid} {e : Ev} (hS : Step s t e s') (h1 : ∀ o a b ok c, e ≠ .cas o a b ok c)
    (h2 : ∀ f o v, e ≠ .ast f o v) (h4 : ∀ k, e ≠ .ret k) (hnd : inDtor (s.pc t) = false) : s'.hnd = s.hnd := by
  rcases hnd_cases hS with h | ⟨_, h, _⟩ | ⟨_, h, _⟩ | ⟨_, _, h, _⟩ | ⟨_, _, _, h, _⟩
  · exact h
  · exact absurd h (h4 _)
  · exact absurd h (h4 _)
  · exact absurd h (h2 _ _ _)
  · exact absurd h (h1 _ _ _ _ _)

theorem hnd_other (hS : Step s t e s') {u : Tid} (hu : u ≠ t) : s'.hnd u = s.hnd u := by
  rcases hnd_cases hS with h | ⟨_, _, _, h⟩ | ⟨_, _, _, h⟩ | ⟨_, _, _, _, h, _⟩ | ⟨_, _, _, _, _, _, h, _⟩ <;> rw [h]
  all_goals exact upd_other _ _ _ _ hu

theorem reg_cases (hS : Step s t e s') {u : Tid} {b : Bool}
    {a : Nat} (h : s'.hnd u = .reg b a) :
    s.hnd u = .reg b a ∨ (u = t ∧ ∃ o x c, e = .cas o x (some a) true c ∧ o.isSc = true ∧
      privRec (BView (s.pc t)) = some a ∧ s'.log = a :: s.log) := by
  by_cases hu : u = t
  case neg => exact .inl (hnd_other hS hu ▸ h)
  subst hu
  rcases hnd_cases hS with h1 | ⟨_, _, _, h1⟩ | ⟨_, _, _, h1⟩ | ⟨_, _, _, _, h1, _⟩ | ⟨k, r, o, he, ho, hpc, h1, hl⟩
  · exact .inl (h1 ▸ h)
  all_goals rw [h1, upd_same] at h
  · cases h
  · cases h
  · cases h
  · injection h with _ h; subst h
    exact .inr ⟨rfl, o, _, _, he, ho, by rw [hpc]; rfl, hl⟩

theorem unreg_cases {v : Tid} {b : Bool} {x : Nat} (hi : Inv s) (hS : Step s t e s')
    (h1 : s.hnd v = .reg b x) (h2 : s'.hnd v ≠ .reg b x) :
    v = t ∧ (∃ o, e = .ast (.rowner x) o none) ∧ s'.log = s.log ∧ s'.lst = s.lst := by
  by_cases hv : v = t
  case neg => exact absurd (hnd_other hS hv ▸ h1) h2
  subst hv
  have hok := hi.a.hok v
  rcases hnd_cases hS with h | ⟨_, _, hpc, _⟩ | ⟨_, _, hh, _⟩ | ⟨r, o, he, hpc, _, hl, hls⟩ | ⟨_, _, _, _, _, hpc, _⟩
  · exact absurd (h ▸ h1) h2
  · rw [hpc, h1] at hok; cases hok
  · rw [hh] at h1; cases h1
  · obtain ⟨w, hw⟩ := hi.a.myr v r (by rw [hpc]; rfl)
    rw [hw] at h1; injection h1 with _ h1; subst h1
    exact ⟨rfl, ⟨o, he⟩, hl, hls⟩
  · rw [hpc, h1] at hok; cases hok

theorem nR_cases (hS : Step s t e s') (hnd : inDtor (s.pc t) = false) :
    s'.nR = s.nR ∨ (e = .alo true s.nR ∧ s'.nR = s.nR + 1) := by
  induction hS with
  | regAlo | eAlo => exact .inr ⟨rfl, rfl⟩
  | uNextNone | rFreZ => exact .inl (reapAt_nR ..)
  | _ => first | exact .inl (setPc_nR ..) | exact .inl rfl | exact dtor_edge hnd ‹_› rfl

theorem nR_frame {s s' : St} {t : Tid} {e : Ev} (hS : Step s t e s') (h1 : ∀ z, e ≠ .alo true z)
    (hnd : inDtor (s.pc t) = false) : s'.nR = s.nR :=
  (nR_cases hS hnd).elim id fun h => absurd h.1 (h1 _)

theorem nR_mono (hS : Step s t e s') (hnd : inDtor (s.pc t) = false) : s.nR ≤ s'.nR := by
  rcases nR_cases hS hnd with h | ⟨_, h⟩ <;> rw [h]
  · exact Nat.le_refl _
  · exact Nat.le_succ _

/-- closes the edges that leave a pc at which the phase function `F` is undefined: `exact phase_elim h ‹_›` -/
theorem phase_elim {α : Type} {F : Pc → Option α} {s : St} {t : Tid} {p : Pc} {a : α} {P : Prop}
    (h : F (s.pc t) = some a) (hpc : s.pc t = p) (hn : F p = none := by rfl) : P := by
  rw [hpc, hn] at h; cases h

/-- the node the writer is about to link at the front: its `next` is already stored -/
def pendN : Pc → Option Nat
  | .pF2 _ n _ => some n
  | .pF3 _ n => some n
  | _ => none

section
include hS hnd

theorem pend_frame (he : ∀ f o v, e ≠ .ast f o v) :
    pendN (s'.pc t) = pendN (s.pc t) := by
  induction hS with
  | regPst | pPstDel | pPstData | ePst => rfl
  | uNextNone _ c | rFreZ _ _ c => rw [reapAt_pc, upd_same, ‹St.pc _ _ = _›]; cases c <;> rfl
  | _ => first
    | (rw [setPc_pc, upd_same, ‹St.pc _ _ = _›]; rfl)
    | exact absurd rfl (he _ _ _)
    | exact dtor_edge hnd ‹_› rfl

/-- an event that is not a store leaves `m_head` and the order of linking alone, and every `next` field except
that of a node under construction -/
theorem link_frame (he : ∀ f o v, e ≠ .ast f o v) :
    s'.head = s.head ∧ s'.order = s.order ∧ ∀ m n, (s'.nodes m).next = some n → (s.nodes m).next = some n := by
  by_cases hE : Edge s t e s'
  · cases hE with
    | pCon =>
      refine ⟨rfl, rfl, fun m _ h => ?_⟩
      simp only [setPc_nodes, setNled_nodes, upd_apply] at h
      split at h
      · cases h
      · exact h
    | uClear | pE1 | pF1 | pF3 | pB2 | eUnlPrev | eUnlHead => exact absurd rfl (he _ _ _)
    | dFreN => exact dtor_edge hnd ‹_› rfl
    | _ => exact ⟨rfl, rfl, fun _ _ h => h⟩
  · have q := hS.quiet hE
    exact ⟨q.head, q.order, fun m _ h => (q.next m).symm.trans h⟩

end

theorem link_facts {d : Nat} (hi : Inv s) (hS : Step s t e s')
    (h1 : d ∉ s.order) (h2 : d ∈ s'.order) : s.wmtx = some t ∧ d ∈ s'.lst ∧ s'.hnd = s.hnd ∧ s'.log = s.log := by
  have wm : ∀ {p}, s.pc t = p → holdsW p = true → s.wmtx = some t := fun hp h => (hi.a.wm t).1 (hp ▸ h)
  by_cases hE : Edge s t e s'
  · cases hE with
    | pE1 _ _ _ hpc | pF3 _ _ _ hpc =>
      rcases List.mem_cons.1 h2 with h2 | h2
      · exact ⟨wm hpc rfl, h2 ▸ List.mem_cons_self .., rfl, rfl⟩
      · exact absurd h2 h1
    | pB2 _ _ _ _ hpc =>
      rcases List.mem_append.1 h2 with h2 | h2
      · exact absurd h2 h1
      · exact ⟨wm hpc rfl, List.mem_append_right _ h2, rfl, rfl⟩
    | dFreN _ nx => cases nx <;> exact absurd h2 h1
    | _ => exact absurd h2 h1
  · exact absurd ((hS.quiet hE).order ▸ h2) h1

theorem lst_cases (hi : Inv s) (hS : Step s t e s') (hnd : inDtor (s.pc t) = false) :
    s'.lst = s.lst ∨ (∀ x, x ∈ s.lst → x ∈ s'.lst) ∨
      (∃ c o p x z, s'.lst = s.lst.erase c ∧ s'.pc t = .eFix c o p x z ∧ (s'.recs z).znode = some c) := by
  have held := hi.d.held t
  simp only [dview_vpc] at held
  by_cases hE : Edge s t e s'
  · cases hE with
    | pE1 | pF3 => exact .inr (.inl fun _ hx => List.mem_cons_of_mem _ hx)
    | pB2 => exact .inr (.inl fun _ hx => List.mem_append_left _ hx)
    | eUnlPrev c orig pp x z _ hpc =>
      rw [hpc] at held
      exact .inr (.inr ⟨c, orig, some pp, x, z, rfl, upd_same .., held.1⟩)
    | eUnlHead c orig x z _ hpc =>
      rw [hpc] at held
      exact .inr (.inr ⟨c, orig, none, x, z, rfl, upd_same .., held.1⟩)
    | dFreN => exact dtor_edge hnd ‹_› rfl
    | _ => exact .inl rfl
  · exact .inl (hS.quiet hE).lst

/-- how a step changes the records: a constructor (of a record the thread holds privately, just allocated), or
a store to `next` or `owner` -/
theorem recs_cases (hS : Step s t e s') :
    s'.recs = s.recs ∨
    (∃ r o z, privRec (BView (s.pc t)) = some r ∧ privLed (BView (s.pc t)) = .alloc ∧ (z ≠ none → o = none) ∧
      s'.recs = upd s.recs r { next := none, owner := o, znode := z }) ∨
    (∃ r v, s'.recs = upd s.recs r { s.recs r with next := v }) ∨
    (∃ r, s'.recs = upd s.recs r { s.recs r with owner := none }) := by
  induction hS with
  | regCon _ r hpc => exact .inr (.inl ⟨r, _, _, by rw [hpc]; rfl, by rw [hpc]; rfl, fun h => absurd rfl h, rfl⟩)
  | eCon _ _ z hpc => exact .inr (.inl ⟨z, _, _, by rw [hpc]; rfl, by rw [hpc]; rfl, fun _ => rfl, rfl⟩)
  | pushStore | uTrunc => exact .inr (.inr (.inl ⟨_, _, rfl⟩))
  | uClear => exact .inr (.inr (.inr ⟨_, rfl⟩))
  | uNextNone | rFreZ => exact .inl (reapAt_recs ..)
  | dtorHead | dFreN | dZhead | dFreZ => exact .inl (by simp only [St.dNodeAt, St.dRecAt]; split <;> rfl)
  | _ => first | exact .inl (setPc_recs ..) | exact .inl rfl

theorem zn_frame (hS : Step s t e s') {z : Nat}
    (hz : privRec (BView (s.pc t)) ≠ some z) : (s'.recs z).znode = (s.recs z).znode := by
  rcases recs_cases hS with h | ⟨r, _, _, hp, _, _, h⟩ | ⟨r, _, h⟩ | ⟨r, h⟩ <;> rw [h]
  · rw [upd_other _ _ _ _ (fun hc : z = r => hz (hc ▸ hp))]
  all_goals (rw [upd_apply]; split <;> rename_i hc <;> first | rfl | rw [hc])

/-- a zombie record (it names a node) has no owner -/
def ZO (s : St) : Prop := ∀ r, (s.recs r).znode ≠ none → (s.recs r).owner = none

theorem zo_init : ZO init := by intro r h; simp [init, rec0] at h

theorem zo_step (h : ZO s) (hS : Step s t e s') : ZO s' := by
  intro x hx
  rcases recs_cases hS with g | ⟨r, _, _, _, _, hz, g⟩ | ⟨r, _, g⟩ | ⟨r, g⟩ <;> rw [g] at hx ⊢
  · exact h x hx
  all_goals
    by_cases hc : x = r
    · rewrite [hc, upd_same] at hx ⊢
      first | exact hz hx | exact h r hx | rfl
    · rw [upd_other _ _ _ _ hc] at hx ⊢
      exact h x hx

theorem zo_reachable {s : St} (h : Reachable s) : ZO s := by
  obtain ⟨es, hes⟩ := h
  exact runFrom_inv (Inv := ZO) (fun s t e s' hi hs => zo_step hi (step_sound hs)) zo_init hes

theorem owner_keep (hi : Inv s) (hS : Step s t e s') {x : Nat}
    (h1 : (s.recs x).owner = none) (h2 : s.rled x ≠ .alloc) : (s'.recs x).owner = none := by
  rcases recs_cases hS with g | ⟨r, _, _, hp, hl, _, g⟩ | ⟨r, _, g⟩ | ⟨r, g⟩ <;> rw [g]
  · exact h1
  · have hr : x ≠ r := fun hc => h2 (by rw [hc, ← hl]; exact (hi.b.privOk t r hp).2)
    rw [upd_other _ _ _ _ hr]; exact h1
  all_goals
    rw [upd_apply]
    split
    · first | rfl | (rename_i hc; exact hc ▸ h1)
    · exact h1

theorem reaper_not_alloc {p : Pc} {a : Nat} (h : reaper (BView p) = some a) : privLed (BView p) ≠ .alloc := by
  cases p <;> first | (cases h; done) | (intro hc; cases hc) | (rename_i k; cases k <;> cases h)

theorem zn_reaper (hS : Step s t e s') {a : Nat} (h : reaper (BView (s.pc t)) = some a)
    (z : Nat) : (s'.recs z).znode = (s.recs z).znode := by
  rcases recs_cases hS with g | ⟨r, _, _, _, hl, _, _⟩ | ⟨r, _, g⟩ | ⟨r, g⟩
  · rw [g]
  · exact absurd hl (reaper_not_alloc h)
  all_goals (rw [g, upd_apply]; split <;> rename_i hc <;> first | rfl | rw [hc])

/-- the record a thread is constructing / about to push -/
def buildRec : Pc → Option Nat
  | .regAlloc _ r | .regCons _ r | .pushStore _ r _ | .pushCas _ r _ => some r
  | .eCons _ _ z | .eZh _ z => some z
  | .eMark _ _ z | .eBack _ _ z | .eNext _ _ _ z | .eUnl _ _ _ _ z | .eFix _ _ _ _ z => some z
  | _ => none

theorem buildRec_priv {p : Pc} {m : Nat} (h : buildRec p = some m) : privRec (BView p) = some m := by
  cases p <;> first | (cases h; done) | exact h

theorem build_step {m : Nat} (hS : Step s t e s') (hb : buildRec (s.pc t) = some m) :
    buildRec (s'.pc t) = some m ∨ ∃ o a c, e = .cas o a (some m) true c ∧ s'.log = m :: s.log := by
  induction hS with
  | regPst | ePst => exact .inl hb
  | casRegOk | casEraseOk => rw [‹St.pc _ _ = _›] at hb; cases hb; exact .inr ⟨_, _, _, rfl, rfl⟩
  | regCon | regZh | pushStore | casFail | eCon | eMark | eBack | eNext | eUnlPrev | eUnlHead | eFixNext | eFixTail | eZh =>
    rw [‹St.pc _ _ = _›] at hb; exact .inl (by rw [setPc_pc, upd_same]; exact hb)
  | _ => exact phase_elim hb ‹_›

theorem initR_facts {m : Nat} (hS : Step s t e s') (hm : e.initR = some m) :
    buildRec (s.pc t) = some m := by
  induction hS <;> cases hm <;> rw [‹St.pc _ _ = _›] <;> rfl

@[simp] theorem privRec_called (k : Op) : privRec (BView (.called k)) = none := by cases k <;> rfl
@[simp] theorem privRec_retp (k : Op) : privRec (BView (.retp k)) = none := by cases k <;> rfl
@[simp] theorem reaper_called (k : Op) : reaper (BView (.called k)) = none := by cases k <;> rfl
@[simp] theorem reaper_retp (k : Op) : reaper (BView (.retp k)) = none := by cases k <;> rfl

theorem reapPc_priv (r : Nat) (n : Option Nat) : privRec (BView (reapPc r n)) = n := by cases n <;> rfl

theorem reaper_reapPc (r : Nat) (n : Option Nat) : reaper (BView (reapPc r n)) = some r := by cases n <;> rfl

theorem priv_lt {s : St} (hi : Inv s) {t : Tid} {m : Nat} (hp : privRec (BView (s.pc t)) = some m) : m < s.nR := by
  have h1 := (hi.b.privOk t m hp).2
  have h2 := hi.b.cntR m
  simp only [bview_vpc, bview_rled, bview_nR] at h1 h2
  apply Classical.byContradiction
  intro hc
  have := h2.2 (by omega)
  rw [this] at h1
  exact privLed_ne_none _ h1.symm

theorem priv_setPc {σ : St} {t : Tid} {p' : Pc} {m : Nat} (h : privRec (BView ((σ.setPc t p').pc t)) = some m) :
    privRec (BView p') = some m := by
  rwa [setPc_pc, upd_same] at h

theorem priv_setPc_none {σ : St} {t : Tid} {p' : Pc} {m : Nat} {P : Prop}
    (h : privRec (BView ((σ.setPc t p').pc t)) = some m) (hn : privRec (BView p') = none := by rfl) : P := by
  rw [priv_setPc h] at hn; cases hn

theorem priv_cases {m : Nat} (hi : Inv s) (hS : Step s t e s') (hnd : inDtor (s.pc t) = false)
    (hp : privRec (BView (s'.pc t)) = some m) :
    privRec (BView (s.pc t)) = some m ∨ (e = .alo true m ∧ m = s.nR) ∨
      ∃ a, myRec (s.pc t) = some a ∧ (Below s.log a).head? = some m := by
  have hsc := hi.b.scan t
  have hre := hi.b.reap t
  simp only [bview_vpc] at hsc hre
  induction hS with
  | uNextNone r _ _ _ hpc =>
    rw [reapAt_pc, upd_same, reapPc_priv] at hp
    rw [hpc] at hsc
    exact .inr (.inr ⟨r, by rw [hpc]; rfl, hp ▸ hsc.2.1.symm⟩)
  | rFreZ r _ _ hpc =>
    rw [reapAt_pc, upd_same, reapPc_priv] at hp
    rw [hpc] at hre
    exact .inr (.inr ⟨r, by rw [hpc]; rfl, hp ▸ hre.2.2.symm⟩)
  | regAlo | eAlo => rw [setPc_pc, upd_same] at hp; cases hp; exact .inr (.inl ⟨rfl, rfl⟩)
  | regPst | pPstDel | pPstData | ePst => exact .inl hp
  | regCon | regZh | pushStore | casFail | eCon | eMark | eBack | eNext | eUnlPrev | eUnlHead | eFixNext | eFixTail | eZh
  | rZnNode | rZnNull | rDesN | rFreN | rNext | rDesZ =>
    have h' := priv_setPc hp
    exact .inl (by rw [‹St.pc _ _ = _›]; exact h')
  | casRegOk => exact priv_setPc_none hp (privRec_called _)
  | pUnlock => exact priv_setPc_none hp (privRec_retp _)
  | _ => first | exact priv_setPc_none hp | exact dtor_edge hnd ‹_› rfl

theorem priv_kind {p : Pc} {m : Nat} (h : privRec (BView p) = some m) :
    buildRec p = some m ∨ (∃ a, reaper (BView p) = some a) ∨ inDtor p = true := by
  cases p <;> first | (cases h; done) | exact .inl h | exact .inr (.inl ⟨_, rfl⟩) | exact .inr (.inr rfl) | (rw [privRec_called] at h; cases h) | (rw [privRec_retp] at h; cases h)

theorem priv_reaper_step (hS : Step s t e s') {a z : Nat}
    (h : reaper (BView (s.pc t)) = some a) (hp : privRec (BView (s.pc t)) = some z) :
    privRec (BView (s'.pc t)) = some z ∨ ((∃ nx, s.pc t = .rFreZ a z nx) ∧ s'.rled z = .freed ∧ e = .fre true z) := by
  have hm := reaper_myRec h
  induction hS with
  | rFreZ _ _ nx hpc =>
    rw [hpc] at h hp; cases h; cases hp
    exact .inr ⟨⟨nx, hpc⟩, by rw [reapAt_rled]; exact upd_same .., rfl⟩
  | rZnNode | rZnNull | rDesN | rFreN | rNext | rDesZ =>
    rw [‹St.pc _ _ = _›] at hp; exact .inl (by rw [setPc_pc, upd_same]; exact hp)
  | uTrunc | uClear | uOwnerActive | uOwnerInactive | uNextSome | uNextNone => rw [‹St.pc _ _ = _›] at hp; cases hp
  | _ => exact phase_elim hm ‹_›

theorem reaper_step (hS : Step s t e s') (hnd : inDtor (s.pc t) = false) {u : Tid} {a : Nat}
    (h : reaper (BView (s.pc u)) = some a) :
    reaper (BView (s'.pc u)) = some a ∨
      (u = t ∧ s.pc t = .uTrunc a ∧ s'.log = s.log ∧ s'.hnd = s.hnd ∧ (∃ o v, e = .ast (.rnext a) o v)) := by
  by_cases hu : u = t
  · subst hu
    have hm := reaper_myRec h
    induction hS with
    | uTrunc _ o hpc => rw [hpc] at h; cases h; exact .inr ⟨rfl, hpc, rfl, rfl, o, none, rfl⟩
    | rZnNode | rZnNull | rDesN | rFreN | rNext | rDesZ =>
      rw [‹St.pc _ _ = _›] at h; exact .inl (by rw [setPc_pc, upd_same]; exact h)
    | rFreZ => rw [‹St.pc _ _ = _›] at h; exact .inl (by rw [reapAt_pc, upd_same, reaper_reapPc]; exact h)
    | uClear | uOwnerActive | uOwnerInactive | uNextSome | uNextNone => rw [‹St.pc _ _ = _›] at h; cases h
    | _ => exact phase_elim hm ‹_›
  · left; rw [hS.pc_other hu]; exact h

/-- the record a release works for is on the log and owned by the releasing thread -/
theorem myRec_own {s : St} (hi : Inv s) {u : Tid} {a : Nat} (h : myRec (s.pc u) = some a) :
    a ∈ s.log ∧ (s.recs a).owner = some u :=
  (hi.a.myr u a h).elim fun b hb => hi.b.own1 u b a hb

theorem reaper_unique {s : St} (hi : Inv s) {t u : Tid} {a a' : Nat} (ht : reaper (BView (s.pc t)) = some a)
    (hu : reaper (BView (s.pc u)) = some a') : t = u := by
  obtain ⟨t1, t2, t3⟩ := reaper_facts hi ht
  obtain ⟨u1, u2, u3⟩ := reaper_facts hi hu
  by_cases e : a = a'
  · subst e; rw [t2] at u2; injection u2
  · rcases below_total t1 u1 e with h' | h'
    · have := u3 a h'; rw [t2] at this; cases this
    · have := t3 a' h'; rw [u2] at this; cases this

/-- the records a thread inside `rcu_guard::unlock` at pc `p` (its own record `a`) has found inactive: those from
`a` down to its cursor while it scans, every record below `a` once it reclaims -/
def ScannedAt (l : List Nat) (x : Nat) : Pc → Prop
  | .uOwner a _ cur => x ∈ Below l a ∧ cur ∈ Below l x
  | .uNext a _ cur => x ∈ Below l a ∧ (x = cur ∨ cur ∈ Below l x)
  | .rZn a _ | .rDesN a _ _ | .rFreN a _ _ | .rNext a _ | .rDesZ a _ _ | .rFreZ a _ _ | .uTrunc a => x ∈ Below l a
  | _ => False

/-- thread `t` has loaded `owner == nullptr` of record `x` -/
def Scanned (s : St) (t : Tid) (x : Nat) : Prop := ScannedAt s.log x (s.pc t)

theorem scanned_cases {l : List Nat} {x : Nat} {p : Pc} (h : ScannedAt l x p) :
    (∃ a c cur, p = .uOwner a c cur ∧ x ∈ Below l a ∧ cur ∈ Below l x) ∨
    (∃ a c cur, p = .uNext a c cur ∧ x ∈ Below l a ∧ (x = cur ∨ cur ∈ Below l x)) ∨
    (∃ a, reaper (BView p) = some a ∧ x ∈ Below l a) := by
  cases p <;> first | exact h.elim | exact .inl ⟨_, _, _, rfl, h⟩ | exact .inr (.inl ⟨_, _, _, rfl, h⟩) | exact .inr (.inr ⟨_, rfl, h⟩)

theorem scanned_of_reaper {l : List Nat} {x a : Nat} {p : Pc} (h : reaper (BView p) = some a) (hx : x ∈ Below l a) :
    ScannedAt l x p := by
  cases p <;> first | (cases h; done) | (cases h; exact hx) | (rw [reaper_called] at h; cases h) | (rw [reaper_retp] at h; cases h)

theorem below_or {l : List Nat} {x m : Nat} (hx : x ∈ l) (hm : m ∈ l) (h : x ∉ Below l m) : x = m ∨ m ∈ Below l x := by
  by_cases hxm : x = m
  · exact .inl hxm
  · exact .inr ((below_total hx hm hxm).resolve_left h)

theorem next_is_head {s : St} (hi : Inv s) {m : Nat} (hm : m ∈ s.log) (ho : (s.recs m).owner = none) :
    (s.recs m).next = (Below s.log m).head? := by
  rcases hi.b.chain m hm with h | ⟨u, hu⟩
  · exact h
  · have := (reaper_facts hi hu).2.1
    rw [ho] at this; cases this

theorem scanned_inactive {s : St} (hi : Inv s) {t : Tid} {x : Nat} (h : Scanned s t x) : (s.recs x).owner = none := by
  have hsc := hi.b.scan t
  simp only [bview_vpc] at hsc
  rcases scanned_cases h with ⟨a, c, cur, h1, h2, h3⟩ | ⟨a, c, cur, h1, h2, h3⟩ | ⟨a, h1, h2⟩
  · rw [h1] at hsc; exact hsc.2.2 x h2 h3
  · rw [h1] at hsc
    rcases h3 with h3 | h3
    · subst h3; exact hsc.2.2.1
    · exact hsc.2.2.2 x h2 h3
  · exact (reaper_facts hi h1).2.2 x h2

/-- thread `t` (inside `unlock`, own record `a`) takes record `m` off the log: `m` lies directly below `a`, `t` has scanned
it and then holds it in the reclaim phase; nothing else changes -/
structure Taken (s s' : St) (t : Tid) (e : Ev) (a m : Nat) : Prop where
  my : myRec (s.pc t) = some a
  head : (Below s.log a).head? = some m
  log : s'.log = s.log.erase m
  scanned : Scanned s t m
  pc : s'.pc t = .rZn a m
  recs : s'.recs = s.recs
  lst : s'.lst = s.lst
  hnd : s'.hnd = s.hnd
  ast : ∀ f o v, e ≠ .ast f o v
  cas : ∀ o x y ok z, e ≠ .cas o x y ok z

section
include hi hS hnd

theorem log_cases :
    s'.log = s.log ∨
    (∃ r o a c, e = .cas o a (some r) true c ∧ s'.log = r :: s.log ∧ privRec (BView (s.pc t)) = some r) ∨
    ∃ a m, Taken s s' t e a m := by
  have hnodup : s.log.Nodup := hi.b.logNd
  have hsc := hi.b.scan t
  have hre := hi.b.reap t
  simp only [bview_vpc] at hnodup hsc hre
  induction hS with
  | casRegOk _ r o hpc | casEraseOk _ r o hpc => exact .inr (.inl ⟨r, o, _, _, rfl, rfl, by rw [hpc]; rfl⟩)
  | uNextNone r cached m' _ hpc _ hv =>
    cases cached with
    | none => exact .inl rfl
    | some m =>
      rw [hpc] at hsc
      have hml : m' ∈ s.log := mem_of_mem_below hsc.1
      have hm : m ∈ Below s.log r := head_mem_below hsc.2.1.symm
      refine .inr (.inr ⟨r, m, by rw [hpc]; rfl, hsc.2.1.symm, rfl, ?_, upd_same .., rfl, rfl, rfl, fun _ _ _ h => Ev.noConfusion h, fun _ _ _ _ _ h => Ev.noConfusion h⟩)
      show ScannedAt s.log m (s.pc t)
      rw [hpc]
      refine ⟨hm, below_or (mem_of_mem_below hm) hml fun h4 => ?_⟩
      rw [List.head?_eq_none_iff.1 ((next_is_head hi hml hsc.2.2.1).symm.trans hv)] at h4; cases h4
  | rFreZ r _ nx hpc =>
    cases nx with
    | none => exact .inl rfl
    | some m =>
      rw [hpc] at hre
      refine .inr (.inr ⟨r, m, by rw [hpc]; rfl, hre.2.2.symm, rfl, ?_, upd_same .., rfl, rfl, rfl, fun _ _ _ h => Ev.noConfusion h, fun _ _ _ _ _ h => Ev.noConfusion h⟩)
      show ScannedAt s.log m (s.pc t)
      rw [hpc]; exact head_mem_below hre.2.2.symm
  | _ => first | exact .inl (setPc_log ..) | exact .inl rfl | exact dtor_edge hnd ‹_› rfl

theorem below_step
    {x m : Nat} (hx : x ∈ s.log) (hx' : x ∈ s'.log) (hm : m ∈ Below s'.log x) : m ∈ Below s.log x := by
  have hnodup : s.log.Nodup := hi.b.logNd
  rcases log_cases hi hS hnd with h1 | ⟨r, o, y, c, _, h1, h2⟩ | ⟨a0, m0, ⟨_, _, h1, _⟩⟩
  · rw [h1] at hm; exact hm
  · rw [h1] at hm
    have hr := (hi.b.privOk t r h2).1
    have : r ≠ x := fun hc => hr (hc ▸ hx)
    rw [below_cons_ne _ this] at hm; exact hm
  · rw [h1] at hm hx'
    have : x ≠ m0 := fun hc => ((List.Nodup.mem_erase_iff hnodup).1 (hc ▸ hx')).1 rfl
    rw [below_erase hnodup this] at hm
    exact List.mem_of_mem_erase hm

theorem below_keep
    {a z : Nat} (ha : a ∈ s.log) (ha' : a ∈ s'.log) (hz : z ∈ Below s.log a) (hz' : z ∈ s'.log) : z ∈ Below s'.log a := by
  have hnodup : s.log.Nodup := hi.b.logNd
  rcases log_cases hi hS hnd with h1 | ⟨r, _, _, _, _, h1, h2⟩ | ⟨a0, m, ⟨_, _, h3, _⟩⟩
  · rw [h1]; exact hz
  · rw [h1]
    have hr := (hi.b.privOk t r h2).1
    rw [below_cons_ne _ (fun hc => hr (by rw [hc]; exact ha))]; exact hz
  · rw [h3] at ha' hz' ⊢
    have h1 : a ≠ m := fun hc => ((List.Nodup.mem_erase_iff hnodup).1 (hc ▸ ha')).1 rfl
    have h2 : z ≠ m := fun hc => ((List.Nodup.mem_erase_iff hnodup).1 (hc ▸ hz')).1 rfl
    rw [below_erase hnodup h1]; exact (List.mem_erase_of_ne h2).2 hz


theorem taken_facts
    {z : Nat} (hz : z ∈ s.log) (hz' : z ∉ s'.log) :
    ∃ a, Taken s s' t e a z := by
  rcases log_cases hi hS hnd with h1 | ⟨r, _, _, _, _, h1, _⟩ | ⟨a, m, h⟩
  · exact absurd (h1 ▸ hz) hz'
  · exact absurd (h1 ▸ List.mem_cons_of_mem _ hz) hz'
  · by_cases hm : z = m
    · exact ⟨a, hm ▸ h⟩
    · exact absurd (h.log ▸ (List.mem_erase_of_ne hm).2 hz) hz'


theorem below_step_active
    {a m : Nat} {v : Tid} (ha : a ∈ s.log) (hact : (s.recs a).owner = some v) (hm : m ∈ Below s'.log a) :
    m ∈ Below s.log a := by
  refine below_step hi hS hnd ha (Classical.byContradiction fun hc => ?_) hm
  obtain ⟨_, h⟩ := taken_facts hi hS hnd ha hc
  cases (scanned_inactive hi h.scanned).symm.trans hact

end

theorem Taken.reaps {a m : Nat} (k : Taken s s' t e a m) : reaper (BView (s'.pc t)) = some a := by rw [k.pc]; rfl

theorem Taken.holds {a m : Nat} (k : Taken s s' t e a m) : privRec (BView (s'.pc t)) = some m := by rw [k.pc]; rfl

theorem Taken.own (hi : Inv s) {a m : Nat} (k : Taken s s' t e a m) : a ∈ s.log ∧ (s.recs a).owner = some t :=
  myRec_own hi k.my

/-- what lay below the record taken lies below the taker's own record afterwards -/
theorem Taken.below (hi : Inv s) {a z x : Nat} (k : Taken s s' t e a z) (hx : x ∈ Below s.log z) :
    reaper (BView (s'.pc t)) = some a ∧ x ∈ Below s'.log a := by
  have hnodup : s.log.Nodup := hi.b.logNd
  have hza := head_mem_below k.head
  have haz : a ≠ z := fun hc => not_mem_below_self hnodup (hc ▸ hza)
  have hxz : x ≠ z := fun hc => not_mem_below_self hnodup (hc ▸ hx)
  refine ⟨k.reaps, ?_⟩
  rw [k.log, below_erase hnodup haz]
  exact (List.mem_erase_of_ne hxz).2 (below_trans hnodup hza hx)

theorem scannedAt_setPc {σ : St} {t : Tid} {p' : Pc} {l : List Nat} {x : Nat} (h : ScannedAt l x ((σ.setPc t p').pc t)) :
    ScannedAt l x p' := by
  rwa [setPc_pc, upd_same] at h

theorem scanned_step (hi : Inv s) (hi' : Inv s') (hS : Step s t e s')
    (hnd : inDtor (s.pc t) = false) {u : Tid} {x : Nat} (h : Scanned s' u x) :
    Scanned s u x ∨ (u = t ∧ ∃ o, e = .ald (.rowner x) o none ∧ o.isSc = true) := by
  have hnodup : s.log.Nodup := hi.b.logNd
  have own : ∀ a, myRec (s.pc u) = some a → a ∈ s.log ∧ (s.recs a).owner = some u := fun a => myRec_own hi
  replace h : ScannedAt s'.log x (s'.pc u) := h
  show ScannedAt s.log x (s.pc u) ∨ _
  by_cases hu : u = t
  · subst hu
    have hsc := hi.b.scan u
    have hsc' := hi'.b.scan u
    have hre' := hi'.b.reap u
    simp only [bview_vpc] at hsc hsc' hre'
    induction hS with
    | relSome _ r m =>
      rw [setPc_pc, upd_same] at h hsc'
      exfalso
      have h3 : m ∈ Below s.log x := h.2
      rcases mem_below_cases hnodup (hsc'.2.1.symm : (Below s.log r).head? = some m) h.1 with h4 | h4
      · subst h4; exact not_mem_below_self hnodup h3
      · exact below_antisymm hnodup h4 h3
    | relNone _ r =>
      rw [setPc_pc, upd_same] at h hre'
      have h2 : x ∈ Below s.log r := h
      have h3 : Below s.log r = [] := hre'.2
      rw [h3] at h2; cases h2
    | uOwnerInactive r _ m o hpc ho =>
      rw [setPc_pc, upd_same] at h
      rcases (h.2 : x = m ∨ m ∈ Below s.log x) with h3 | h3
      · subst h3; exact .inr ⟨rfl, o, rfl, ho⟩
      · exact .inl (by rw [hpc]; exact ⟨h.1, h3⟩)
    | uNextSome r _ m m2 _ hpc _ hv =>
      rw [setPc_pc, upd_same] at h
      rw [hpc] at hsc
      have h2 : x ∈ Below s.log r := h.1
      have h3 : m2 ∈ Below s.log x := h.2
      have hml : m ∈ s.log := mem_of_mem_below hsc.1
      have hhd : (Below s.log m).head? = some m2 := (next_is_head hi hml hsc.2.2.1).symm.trans hv
      left; rw [hpc]
      refine ⟨h2, below_or (mem_of_mem_below h2) hml fun h4 => ?_⟩
      rcases mem_below_cases hnodup hhd h4 with h5 | h5
      · subst h5; exact not_mem_below_self hnodup h3
      · exact below_antisymm hnodup h5 h3
    | uNextNone r c m o hpc ho hv =>
      rw [hpc] at hsc
      have hml : m ∈ s.log := mem_of_mem_below hsc.1
      have hhd : (Below s.log m).head? = none := (next_is_head hi hml hsc.2.2.1).symm.trans hv
      have hown := own r (by rw [hpc]; rfl)
      have h2 : x ∈ Below (s.reapAt u r c).log r := by
        rw [reapAt_pc, upd_same] at h; cases c <;> exact h
      have h3 := below_step_active hi (Step.uNextNone r c m o hpc ho hv) hnd hown.1 hown.2 h2
      left; rw [hpc]
      refine ⟨h3, below_or (mem_of_mem_below h3) hml fun h4 => ?_⟩
      rw [List.head?_eq_none_iff.1 hhd] at h4; cases h4
    | rFreZ r m nx hpc =>
      have hown := own r (by rw [hpc]; rfl)
      have h2 : x ∈ Below ((s.setRled m .freed).reapAt u r nx).log r := by
        rw [reapAt_pc, upd_same] at h; cases nx <;> exact h
      have h3 := below_step_active hi (Step.rFreZ r m nx hpc) hnd hown.1 hown.2 h2
      exact .inl (by rw [hpc]; exact h3)
    | regPst | pPstDel | pPstData | ePst => exact .inl h
    | rZnNode | rZnNull | rDesN | rFreN | rNext | rDesZ =>
      have h' := scannedAt_setPc h
      exact .inl (by rw [‹St.pc _ _ = _›]; exact h')
    | _ => first | exact False.elim (scannedAt_setPc h) | exact dtor_edge hnd ‹_› rfl
  · left
    have hpc := hS.pc_other hu
    rw [hpc] at h
    have keep : ∀ a, myRec (s.pc u) = some a → ∀ y, y ∈ Below s'.log a → y ∈ Below s.log a := fun a ha y hy =>
      below_step_active hi hS hnd (own a ha).1 (own a ha).2 hy
    rcases scanned_cases h with ⟨a, c, cur, h1, h2, h3⟩ | ⟨a, c, cur, h1, h2, h3⟩ | ⟨a, h1, h2⟩
    · have h2' := keep a (by rw [h1]; rfl) x h2
      rw [h1]
      exact ⟨h2', below_step hi hS hnd (mem_of_mem_below h2') (mem_of_mem_below h2) h3⟩
    · have h2' := keep a (by rw [h1]; rfl) x h2
      rw [h1]
      exact ⟨h2', h3.imp id (below_step hi hS hnd (mem_of_mem_below h2') (mem_of_mem_below h2))⟩
    · exact scanned_of_reaper h1 (keep a (reaper_myRec h1) x h2)

end ConcVerif.Rcu
