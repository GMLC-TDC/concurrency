import ConcVerif.Proof.Trigger
import ConcVerif.Base.Live
/-! Ranking function for `TriggerVariable` while it is *armed and fired* (`activated` and `triggered` both
true) and stays so: instance of `Base/Live.lean`.

The property claims that waiters are released "provided the variable is not re-activated while they are
still blocked".  Here that proviso is a restriction of the executions considered: `stepP` is `step` without
the two kinds of steps that re-arm a flag — the clear step of `activate()` (pc `aClear`) and the set-inactive
step of `reset()` (pc `rStore`).  Under `stepP` the set of armed-and-fired states is closed, and every step
that is not a `call` — spurious wake-ups and time-outs included — strictly decreases the rank of the
stepping thread and leaves the other threads' ranks alone.  (Without the restriction no such ranking
exists: `reset()`'s unlock/trigger/lock loop spins for as long as an `activate()` that has cleared
`triggered` is kept from setting `activated`.) -/
namespace ConcVerif.Trigger

/-- `step` restricted to executions that respect the proviso -/
def stepP (s : St) (t : Tid) (e : Ev) : Option St :=
  match s.pc t with
  | .aClear => none
  | .rStore => none
  | _ => step s t e

theorem stepP_step {s s' : St} {t : Tid} {e : Ev} (h : stepP s t e = some s') :
    step s t e = some s' ∧ s.pc t ≠ .aClear ∧ s.pc t ≠ .rStore := by
  unfold stepP at h
  split at h
  · contradiction
  · contradiction
  · rename_i h1 h2; exact ⟨h, h1, h2⟩

def isCall : Ev → Bool
  | .call _ => true
  | _ => false

def Ctx.base : Ctx → Nat
  | .top => 1
  | .inReset => 3

def b2n (b : Bool) : Nat := if b then 1 else 0

/- Where the numbers come from: each pc counts the own steps left to the end of the call.  Three edges lead to a LARGER number —
`aCalled` 2 → `aLockT` 12, `rLoop` 2 → `rRelease` 10, `wHold` 4 → `wSleep` 5: they are taken only after a flag was read as false
and are not enabled while armed (`rank_dec`).  `Ctx.base` is the rank of the pc a `trigger()` returns to (`tRet` 1, `rRelock` 3), so
the nested call inside `reset()` starts at 3 + 5 = 8 < 10.  The largest rank right after a `call` is 6 (`wCalled`, `tCalled .top`):
the `K` of `ranked`. -/
/-- remaining own steps of a thread, valid while both flags are (and stay) true -/
def Pc.rank : Pc → Nat
  | .idle => 0
  | .aCalled => 2
  | .aLockT => 12
  | .aClear => 11
  | .aUnlockT => 10
  | .aLockA => 9
  | .aHold st nt => 8 - b2n st - b2n nt
  | .aRet _ => 1
  | .tCalled x => x.base + 5
  | .tLock x => x.base + 4
  | .tHold x st nt => x.base + 3 - b2n st - b2n nt
  | .tRet _ => 1
  | .wCalled _ => 6
  | .wLock _ => 5
  | .wSleep _ => 5
  | .wHold _ _ => 4
  | .wTimedOut _ => 4
  | .wLate _ => 4
  | .wUnlock _ _ => 3
  | .wRet _ _ => 2
  | .rCalled => 4
  | .rLocked => 3
  | .rLoop => 2
  | .rRelease => 10
  | .rRelock => 3
  | .rStore => 1
  | .rUnlock _ => 2
  | .rRet => 1
  | .oCalled _ => 2
  | .oRet _ _ => 1

def μ (s : St) (t : Tid) : Nat := (s.pc t).rank

/-- the states in which the ranking argument is valid -/
def Armed (s : St) : Prop := Inv s ∧ s.flag .act = true ∧ s.flag .trig = true

theorem updS_true {f : Side → Bool} {m : Side} (a : Side) (h : f m = true) : updS f a true m = true := by
  unfold updS; split
  · rfl
  · exact h

section
variable {s s' : St} {t : Tid} {e : Ev} {m : Side}

/-- only the clear step and the set-inactive step make a flag false -/
theorem step_flag_true (hs : step s t e = some s')
    (hf : s.flag m = true) (h1 : s.pc t ≠ .aClear) (h2 : s.pc t ≠ .rStore) : s'.flag m = true := by
  obtain ⟨p', s₁, h, rfl⟩ := Step.of_step hs
  generalize s.pc t = p at h h1 h2
  cases h with
  | aClear => exact absurd rfl h1
  | rStore => exact absurd rfl h2
  | aStore | tStore => exact updS_true _ hf
  | _ => exact hf

theorem armed_step (ha : Armed s) (hs : stepP s t e = some s') : Armed s' := by
  obtain ⟨hs, h1, h2⟩ := stepP_step hs
  exact ⟨inv_step s t e s' ha.1 hs, step_flag_true hs ha.2.1 h1 h2, step_flag_true hs ha.2.2 h1 h2⟩

@[simp] theorem b2n_true : b2n true = 1 := rfl
@[simp] theorem b2n_false : b2n false = 0 := rfl

/-- Every edge but the two excluded ones leads to a pc of smaller rank, except those taken after reading a flag as
false (and `wSleep`, which needs such a read since the mutex was taken): these are not enabled while armed. -/
theorem rank_dec (ha : Armed s) (hs : stepP s t e = some s')
    (hc : isCall e = false) : (s'.pc t).rank < (s.pc t).rank := by
  obtain ⟨hs, h1, h2⟩ := stepP_step hs
  have hall : ∀ m, s.flag m = true := fun | .trig => ha.2.2 | .act => ha.2.1
  have hchk := fun m => ha.1.l.checked m t
  obtain ⟨p', s₁, h, rfl⟩ := Step.of_step hs
  rw [setPc_pc, upd_same]
  generalize s.pc t = p at h h1 h2 hchk ⊢
  cases h with
  | aClear => exact absurd rfl h1
  | rStore => exact absurd rfl h2
  | aSawInactive hf | tSawInactive hf | tSawInactiveNested hf | wSawInactive hf | rSawInactive hf
  | rSawUntriggered hf | wSawFalse _ hf => rw [hall] at hf; cases hf
  | wSleep hm _ => have := hchk _ (decide_eq_true hm.symm); rw [hall] at this; cases this
  | callActivate | callTrigger | callWait | callWaitFor | callWaitAct | callWaitForAct | callReset | callIsActive
  | callIsTriggered => cases hc
  | @aStore b | @aNotify b | @tStore _ b | @tNotify _ b => cases b <;> simp [Pc.rank]
  | _ => simp [Pc.rank, Ctx.base]

theorem rank_call (hs : stepP s t e = some s') (hc : isCall e = true) :
    (s'.pc t).rank ≤ (s.pc t).rank + 6 := by
  obtain ⟨p', s₁, h, rfl⟩ := Step.of_step (stepP_step hs).1
  rw [setPc_pc, upd_same]
  generalize s.pc t = p at h ⊢
  cases e with
  | call k => cases h <;> simp [Pc.rank, Ctx.base]
  | _ => cases hc

theorem call_only_idle {s : St} (hc : isCall e = true) (h : (step s t e).isSome = true) :
    s.pc t = .idle := by
  obtain ⟨s', hs⟩ := Option.isSome_iff_exists.1 h
  obtain ⟨p', s₁, h, rfl⟩ := Step.of_step hs
  generalize s.pc t = p at h ⊢
  cases e with
  | call k => cases h <;> rfl
  | _ => cases hc

end

theorem ranked : Live.Ranked stepP Armed isCall μ 6 where
  good := by
    intro s t e s' ha hs
    exact armed_step ha hs
  dec := by
    intro s t e s' ha hs hc
    exact rank_dec ha hs hc
  call := by
    intro s t e s' _ hs hc
    exact rank_call hs hc
  frame := by
    intro s t e s' u _ hs hu
    simp [μ, step_pc_other (stepP_step hs).1 hu]

def Pc.wants : Pc → Option Side
  | .aLockT | .tLock _ => some .trig
  | .aLockA | .rCalled | .rRelock => some .act
  | .wLock k | .wSleep k => some k.side
  | _ => none

/-- the event thread `t` performs next at pc `p` (a sleeper still in the wait set: its time-out) -/
def next (s : St) (t : Tid) : Pc → Ev
  | .idle => .call .activate
  | .aCalled | .tCalled _ | .wCalled _ | .rLocked => .ld .act .sc (s.flag .act)
  | .aLockT | .tLock _ => .mlk .trig
  | .aClear => .st .trig false
  | .aUnlockT | .tHold _ true true => .mul .trig
  | .aLockA | .rCalled | .rRelock => .mlk .act
  | .aHold false _ => .st .act true
  | .aHold true false => .cna .act
  | .aHold true true | .rRelease | .rUnlock _ => .mul .act
  | .aRet r => .ret .activate r
  | .tHold _ false _ => .st .trig true
  | .tHold _ true false => .cna .trig
  | .tRet r => .ret .trigger r
  | .wLock k => .mlk k.side
  | .wHold k _ | .wTimedOut k | .wLate k => .ld k.side .sc (s.flag k.side)
  | .wSleep k => .cwk k.side (if t ∈ s.ws k.side then .timeout else .notified)
  | .wUnlock k _ => .mul k.side
  | .wRet k r => .ret k.toKind r
  | .rLoop => .ld .trig .acq (s.flag .trig)
  | .rStore => .st .act false
  | .rRet => .ret .reset true
  | .oCalled a => .ld a .sc (s.flag a)
  | .oRet a v => .ret (obsKind a) v

theorem next_enabled {s : St} {t : Tid} {p : Pc} (hp : s.pc t = p) (hne : p ≠ .idle)
    (hown : ∀ m, p.holds m = true → s.lock m = some t) (hfree : ∀ m, p.wants = some m → s.lock m = none)
    (hto : ∀ k, p = .wSleep k → t ∈ s.ws k.side → k.timed = true) :
    (step s t (next s t p)).isSome = true := by
  unfold step
  rw [hp]
  cases p with
  | aHold st nt | tHold _ st nt =>
    cases st <;> cases nt <;> simp [next, St.release, Pc.holds] at hown ⊢ <;> exact hown
  | wSleep k =>
    have hl := hfree k.side rfl
    by_cases hin : t ∈ s.ws k.side <;> simp [next, hl, hin]
    exact hto k rfl hin
  | _ => simp [next, St.acquire, St.release, Pc.holds, Pc.wants] at hne hown hfree ⊢ <;> simp [*]

theorem wants_not_holds {p : Pc} {m m' : Side} (h : p.wants = some m) : p.holds m' = false := by
  cases p <;> first | rfl | cases h

end ConcVerif.Trigger
