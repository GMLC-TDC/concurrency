import ConcVerif.Proof.HBRcuStep
/-! rcu_list and happens-before, part 3 (state level, no traces): who can perform an access to a node / a log
record, and the stability of protection — `Safe` (layer E) for nodes, `SafeR` for log records — along the steps as
long as the protecting record stays on the log. -/
namespace ConcVerif.Rcu

variable {s s' : St} {t : Tid} {e : Ev} (hi : Inv s) (hS : Step s t e s') (hnd : inDtor (s.pc t) = false)

theorem ast_sc {s s' : St} {t : Tid} {f : Fld} {o : Ord} {v : Option Nat} (hS : Step s t (.ast f o v) s')
    (hf : f.isLink = true ∨ ∃ r, f = .rowner r) : o.isSc = true := by
  cases hS <;> first | assumption | (exfalso; simp [Fld.isLink] at hf; done)

theorem ast_not_zh {s s' : St} {t : Tid} {o : Ord} {v : Option Nat} (hS : Step s t (.ast .zhead o v) s') : False := by
  cases hS

theorem cas_sc {s s' : St} {t : Tid} {o : Ord} {a b c : Option Nat} (hS : Step s t (.cas o a b true c) s') :
    o.isSc = true := by
  cases hS <;> assumption

theorem init_facts {n : Nat} (hi : Inv s) (hS : Step s t e s') (hn : e.initN = some n) :
    s.wmtx = some t ∧ n ∉ s.order ∧ ∃ k, s.pc t = .pCons k n := by
  have wm : ∀ k, s.pc t = .pCons k n → s.wmtx = some t ∧ n ∉ s.order ∧ ∃ k, s.pc t = .pCons k n := by
    intro k hpc
    have h2 := hi.c.wr t
    rw [cview_vpc, hpc] at h2
    exact ⟨(hi.a.wm t).1 (by rw [hpc]; rfl), h2.1, k, hpc⟩
  induction hS <;> cases hn <;> exact wm _ ‹_›

theorem uClear_facts {s s' : St} {t : Tid} {x : Nat} {o : Ord} {v : Option Nat} (hi : Inv s)
    (hS : Step s t (.ast (.rowner x) o v) s') :
    (∃ b, s.hnd t = .reg b x) ∧ x ∈ s.log ∧ (s.recs x).owner = some t ∧ s.rled x = .cons ∧ (s'.recs x).owner = none ∧
      v = none ∧ o.isSc = true := by
  cases hS with
  | uClear r o' hpc ho =>
    obtain ⟨b, hb⟩ := hi.a.myr t x (by simp [hpc, myRec])
    have h1 := hi.b.own1 t b x hb
    have h2 := hi.b.logCons x
    exact ⟨⟨b, hb⟩, h1.1, h1.2, h2 h1.1, by simp, rfl, ho⟩

/-- record `m` is in view of (the owner of) record `x`: it is `x`, or it lies below `x` and every record in
between is inactive -/
def SafeR (s : St) (x m : Nat) : Prop :=
  x = m ∨ (m ∈ Below s.log x ∧ ∀ y ∈ Below s.log x, m ∈ Below s.log y → (s.recs y).owner = none)

/-- a ledger entry that moves along `LedNext` (C13) stays freed once freed and never returns to `none / alloc` -/
theorem LedNext.keep {a b : Led} (h : b = a ∨ LedNext a b) :
    (a = .freed → b = .freed) ∧ (a ≠ .none → a ≠ .alloc → b ≠ .none ∧ b ≠ .alloc) := by
  rcases h with rfl | h
  · exact ⟨id, fun h1 h2 => ⟨h1, h2⟩⟩
  · cases h <;> simp

section
include hi hS hnd

theorem nodeAcc_cases {n : Nat}
    (hn : e.nodeAcc = some n) : s.wmtx = some t ∨ s.it t = some (some n) := by
  have wm : ∀ {p}, s.pc t = p → holdsW p = true → s.wmtx = some t := fun hp h => (hi.a.wm t).1 (hp ▸ h)
  induction hS <;> cases hn
  all_goals first | exact .inr ‹_› | exact .inl (wm ‹_› rfl) | exact dtor_edge hnd ‹_› rfl

theorem recAcc_cases {m : Nat}
    (hm : e.recAcc = some m) :
    privRec (BView (s.pc t)) = some m ∨ (∃ b, s.hnd t = .reg b m) ∨
      ∃ b a, s.hnd t = .reg b a ∧ SafeR s a m ∧ m ∈ Below s.log a := by
  have hsc := hi.b.scan t
  simp only [bview_vpc] at hsc
  have my : ∀ {p} a, s.pc t = p → myRec p = some a → ∃ b, s.hnd t = .reg b a := fun a hp h => hi.a.myr t a (hp ▸ h)
  have scan : ∀ r, myRec (s.pc t) = some r → m ∈ Below s.log r →
      (∀ y ∈ Below s.log r, m ∈ Below s.log y → (s.recs y).owner = none) →
      ∃ b a, s.hnd t = .reg b a ∧ SafeR s a m ∧ m ∈ Below s.log a := fun r hr h1 h2 =>
    (hi.a.myr t r hr).elim fun b hb => ⟨b, r, hb, .inr ⟨h1, h2⟩, h1⟩
  induction hS with
  | relSome w _ _ _ _ hh | relNone w _ _ _ hh => cases hm; exact .inr (.inl ⟨w, hh⟩)
  | uTrunc r _ hpc | uClear r _ hpc => cases hm; exact .inr (.inl (my _ hpc rfl))
  | uOwnerActive r _ _ _ _ hpc | uOwnerInactive r _ _ _ hpc =>
    cases hm; rw [hpc] at hsc
    exact .inr (.inr (scan r (by rw [hpc]; rfl) hsc.1 hsc.2.2))
  | uNextSome r _ _ _ _ hpc | uNextNone r _ _ _ hpc =>
    cases hm; rw [hpc] at hsc
    exact .inr (.inr (scan r (by rw [hpc]; rfl) hsc.1 hsc.2.2.2))
  | _ => cases hm <;> first | exact dtor_edge hnd ‹_› rfl | exact .inl (by rw [‹St.pc _ _ = _›]; rfl)

end

/-- who accesses a node: the holder of the write mutex on a node it has not linked yet, or a registered
thread for which the node is protected -/
theorem touch_safe {d : Nat} (hx : InvX s) (hS : Step s t e s')
    (hnd : inDtor (s.pc t) = false) (hn : e.nodeAcc = some d) :
    (d ∉ s.order ∧ s.wmtx = some t) ∨ ∃ b x, s.hnd t = .reg b x ∧ Safe s.eview x d := by
  have hi := hx.i
  have wm : ∀ {p}, s.pc t = p → holdsW p = true → s.wmtx = some t := fun hp h => (hi.a.wm t).1 (hp ▸ h)
  have wr := hi.c.wr t
  simp only [cview_vpc] at wr
  have linked : ∀ {p}, s.pc t = p → holdsW p = true → d ∈ s.lst → ∃ b x, s.hnd t = .reg b x ∧ Safe s.eview x d := by
    intro p hp hh hl
    obtain ⟨r, hr⟩ := hi.a.wrW t (hp ▸ hh)
    exact ⟨true, r, hr, .inl hl⟩
  have org : ∀ {p}, s.pc t = p → holdsW p = true → d ∈ origOf (EView p) → ∃ b x, s.hnd t = .reg b x ∧ Safe s.eview x d := by
    intro p hp hh ho
    obtain ⟨r0, hr0⟩ := hi.a.wrW t (hp ▸ hh)
    exact ⟨true, r0, hr0, hx.e.org t true r0 _ hr0 (by rw [eview_vpc, hp]; exact ho)⟩
  induction hS with
  | nxt w r _ _ _ hh hi' | der w r _ _ hh hi' => cases hn; exact .inr ⟨w, r, hh, hx.e.cur t w r _ hh hi'⟩
  | eOrig _ _ _ hpc | eDelDeleted _ _ hpc | eDelFresh _ _ hpc => cases hn; exact .inr (org hpc rfl (List.mem_cons_self ..))
  | eMark _ _ _ hpc | eBack _ _ _ _ hpc | eNext _ _ _ _ _ hpc =>
    cases hn; rw [hpc] at wr; exact .inr (linked hpc rfl wr.1)
  | eUnlPrev _ _ _ _ _ _ hpc =>
    cases hn; rw [hpc] at wr; exact .inr (linked hpc rfl wr.2.2.2.1.1)
  | eFixNext _ _ p _ _ _ hpc =>
    cases hn; rw [hpc] at wr
    have := wr.2.2.2.2.1
    refine .inr (linked hpc rfl ?_)
    cases p with
    | none => exact mem_of_head? this
    | some a => exact mem_of_mem_below (head_mem_below this.2)
  | pPstDel _ _ _ _ hpc | pPstData _ _ _ _ hpc | pCon _ _ _ _ hpc =>
    cases hn; rw [hpc] at wr; exact .inl ⟨wr.1, wm hpc rfl⟩
  | pF1 _ _ _ _ hpc | pB1 _ _ _ _ hpc => cases hn; rw [hpc] at wr; exact .inl ⟨wr.1.1, wm hpc rfl⟩
  | pF2 _ _ _ _ hpc => cases hn; rw [hpc] at wr; exact .inr (linked hpc rfl (mem_of_head? wr.2))
  | pB2 _ _ _ _ hpc => cases hn; rw [hpc] at wr; exact .inr (linked hpc rfl wr.2.1.1)
  | dNext => exact dtor_edge hnd ‹_› rfl
  | _ => cases hn

theorem touch_keep {d : Nat} (hi : Inv s) (hS : Step s t e s')
    (hn : e.nodeAcc = some d) : s'.hnd = s.hnd ∧ s'.log = s.log ∧ s'.wmtx = s.wmtx ∧ (d ∉ s.order → d ∉ s'.order) := by
  induction hS with
  | pB2 _ _ _ _ hpc =>
    -- `h.next := n`: the node accessed is `h`, already linked
    cases hn
    have wr := hi.c.wr t
    rw [cview_vpc, hpc] at wr
    exact ⟨rfl, rfl, rfl, fun h => absurd (hi.c.sub _ wr.2.1.1) h⟩
  | _ => cases hn <;> exact ⟨rfl, rfl, rfl, id⟩

theorem safe_iff {s : St} {x d : Nat} : Safe s.eview x d ↔ d ∈ s.lst ∨ (∃ u, pendNode s.eview (EView (s.pc u)) = some d) ∨
    ∃ z ∈ s.log, (s.recs z).znode = some d ∧ x ∈ Below s.log z := Iff.rfl

theorem pend_view {ev : ESt} {p : Pc} {d : Nat} (h : pendNode ev (EView p) = some d) :
    ∃ z, ev.zn z = some d ∧ privRec (BView p) = some z ∧ privLed (BView p) = .cons ∧ EView p ≠ .idle ∧
      buildRec p = some z := by
  cases p <;> first | (cases h; done) | exact ⟨_, h, rfl, rfl, Pc.noConfusion, rfl⟩ | skip
  all_goals (rename_i c _ _; cases c <;> first | (cases h; done) | exact ⟨_, h, rfl, rfl, Pc.noConfusion, rfl⟩)

theorem pend_congr {ev ev' : ESt} {p : Pc} (hz : ∀ z, privRec (BView p) = some z → ev'.zn z = ev.zn z) :
    pendNode ev' (EView p) = pendNode ev (EView p) := by
  cases p <;> first | rfl | exact hz _ rfl | skip
  all_goals (rename_i c _ _; cases c <;> first | rfl | exact hz _ rfl)

theorem reaper_view {p : Pc} {a : Nat} (h : reaper (BView p) = some a) :
    (∀ c z, DView p ≠ .eMark c none z) ∧ EView p = .idle := by
  cases p <;> first | (cases h; done) | exact ⟨fun _ _ => Pc.noConfusion, rfl⟩ | (rw [reaper_called] at h; cases h) | (rw [reaper_retp] at h; cases h)

/-- `z` is the record directly below the active record `a` (the one a thread releasing `a` would take): if `z` is in
view of `x`, or is `x`, then `x` is `z` or `a` -/
theorem saferec_taken {s : St} (hi : Inv s) {a z x m : Nat} (ha : a ∈ s.log) (hact : (s.recs a).owner ≠ none)
    (hz : (Below s.log a).head? = some z) (hx : x ∈ s.log) (h : SafeR s x m) (hm : m = z ∨ x = z) :
    x = z ∨ x = a := by
  have hnodup : s.log.Nodup := hi.b.logNd
  have hza := head_mem_below hz
  rcases hm with hm | hm
  · subst hm
    rcases h with h | ⟨h1, h2⟩
    · exact .inl h
    · by_cases hxa : x = a
      · exact .inr hxa
      · exfalso
        rcases below_total hx ha hxa with g | g
        · rcases mem_below_cases hnodup hz g with g' | g'
          · subst g'; exact not_mem_below_self hnodup h1
          · exact below_antisymm hnodup g' h1
        · exact hact (h2 a g hza)
  · exact .inl hm

section
include hi hS hnd

theorem pend_step
    {u : Tid} {d : Nat} (h : pendNode s.eview (EView (s.pc u)) = some d) :
    (∃ u', pendNode s'.eview (EView (s'.pc u')) = some d) ∨
      (∃ z o a c, e = .cas o a (some z) true c ∧ s'.log = z :: s.log ∧ (s'.recs z).znode = some d) := by
  by_cases hu : u = t
  · subst hu
    obtain ⟨_, _, _, _, _, hb⟩ := pend_view h
    induction hS with
    | casEraseOk _ r o hpc => rw [hpc] at h; exact .inr ⟨r, o, _, _, rfl, rfl, h⟩
    | pushStore c r _ _ hpc =>
      rw [hpc] at h
      cases c with
      | reg => cases h
      | erase =>
        refine .inl ⟨u, ?_⟩
        rw [setPc_pc, upd_same]
        show ((upd s.recs r _) r).znode = some d
        rw [upd_same]; exact h
    | casFail c _ _ _ hpc =>
      rw [hpc] at h
      cases c with
      | reg => cases h
      | erase => exact .inl ⟨u, by rw [setPc_pc, upd_same]; exact h⟩
    | eFixNext | eFixTail | eZh => rw [‹St.pc _ _ = _›] at h; exact .inl ⟨u, by rw [setPc_pc, upd_same]; exact h⟩
    | regPst | regCon | regZh | casRegOk | ePst | eCon | eMark | eBack | eNext | eUnlPrev | eUnlHead =>
      rw [‹St.pc _ _ = _›] at h; cases h
    | _ => exact phase_elim hb ‹_›
  · refine .inl ⟨u, ?_⟩
    rw [hS.pc_other hu, pend_congr (ev := s.eview)]
    · exact h
    · intro z hz
      exact zn_frame hS fun hc => hu (hi.b.privUq t u z hc hz).symm

/-- protection by a record that stays on the log is stable, except that the zombie record naming the node
may be taken off the log by a reclaimer (then the protecting record lies below it) -/
theorem safe_step
    {x d : Nat} (hx : x ∈ s.log) (hx' : x ∈ s'.log) (h : Safe s.eview x d) :
    Safe s'.eview x d ∨ ∃ a z, Taken s s' t e a z ∧ (s.recs z).znode = some d ∧ x ∈ Below s.log z := by
  rw [safe_iff] at h ⊢
  rcases h with g | ⟨u, g⟩ | ⟨z, g1, g2, g3⟩
  · rcases lst_cases hi hS hnd with h1 | h1 | ⟨c, o, p, y, z, h1, h2, h3⟩
    · exact .inl (.inl (h1 ▸ g))
    · exact .inl (.inl (h1 d g))
    · by_cases hdc : d = c
      · subst hdc
        exact .inl (.inr (.inl ⟨t, by rw [h2]; exact h3⟩))
      · exact .inl (.inl (h1 ▸ (List.mem_erase_of_ne hdc).2 g))
  · rcases pend_step hi hS hnd g with ⟨u', h1⟩ | ⟨z, o, a, c, _, h1, h2⟩
    · exact .inl (.inr (.inl ⟨u', h1⟩))
    · exact .inl (.inr (.inr ⟨z, h1 ▸ List.mem_cons_self .., h2, by rw [h1, below_cons_self]; exact hx⟩))
  · by_cases hz' : z ∈ s'.log
    · have hzn := zn_frame hS fun hc => (hi.b.privOk t z hc).1 g1
      exact .inl (.inr (.inr ⟨z, hz', hzn.trans g2, below_keep hi hS hnd g1 hz' g3 hx'⟩))
    · obtain ⟨a, k⟩ := taken_facts hi hS hnd g1 hz'
      exact .inr ⟨a, z, k, g2, g3⟩

theorem saferec_step
    {x m : Nat} (hx : x ∈ s.log) (hx' : x ∈ s'.log) (hm' : x = m ∨ m ∈ s'.log) (h : SafeR s x m) : SafeR s' x m := by
  rcases h with h | ⟨h1, h2⟩
  · exact .inl h
  · rcases hm' with hm' | hm'
    · exact .inl hm'
    · right
      refine ⟨below_keep hi hS hnd hx hx' h1 hm', ?_⟩
      intro y hy hmy
      have hy1 := below_step hi hS hnd hx hx' hy
      have hyl := mem_of_mem_below hy1
      have hmy1 := below_step hi hS hnd hyl (mem_of_mem_below hy) hmy
      have hlc : s.rled y = .cons := hi.b.logCons y hyl
      exact owner_keep hi hS (h2 y hy1 hmy1) (by rw [hlc]; simp)

/-- when a record in view of `x` leaves the log, `x` is the taker's own record -/
theorem saferec_lost {x m : Nat} (hx : x ∈ s.log)
    (h : SafeR s x m) (hxm : x ≠ m) (hm' : m ∉ s'.log) : ∃ a, Taken s s' t e a m ∧ x = a ∧ (s.recs x).owner = some t := by
  have hml : m ∈ s.log := h.elim (fun g => absurd g hxm) fun g => mem_of_mem_below g.1
  obtain ⟨a, k⟩ := taken_facts hi hS hnd hml hm'
  obtain ⟨g3, g4⟩ := k.own hi
  rcases saferec_taken hi g3 (by rw [g4]; simp) k.head hx h (.inl rfl) with g | g
  · exact absurd g hxm
  · exact ⟨a, k, g, g ▸ g4⟩
end

theorem not_safe_private {s : St} (hi : Inv s) {t : Tid} {a m d : Nat} (hr : reaper (BView (s.pc t)) = some a)
    (hp : privRec (BView (s.pc t)) = some m) (hc : s.rled m = .cons) (hz : (s.recs m).znode = some d) (x : Nat) :
    ¬ Safe s.eview x d := by
  have zinj := hi.d.zinj
  simp only [dview_rled, dview_zn] at zinj
  rintro (g | ⟨u, g⟩ | ⟨z, g1, g2, _⟩)
  · exact (zdel_priv hi hp (reaper_view hr).1 hc hz).2.2 g
  · obtain ⟨z, h3, h1, h2, h4, _⟩ := pend_view g
    have hzm : z = m := zinj z m d (priv_live hi h1 h2) hc h3 hz
    subst hzm
    have := hi.b.privUq u t z h1 hp
    subst this
    exact h4 (reaper_view hr).2
  · have : z = m := zinj z m d (hi.b.logCons z g1) hc g2 hz
    subst this
    exact (hi.b.privOk t z hp).1 g1

theorem not_safe_fresh {s : St} (hx : InvX s) {d : Nat} (hd : d ∉ s.order) (x : Nat) : ¬ Safe s.eview x d := by
  rintro (g | ⟨u, g⟩ | ⟨z, _, g2, _⟩)
  · exact hd (hx.i.c.sub d g)
  · exact hd (hx.e.pend u d g).1
  · exact hd (hx.i.d.znOrd z d g2)

theorem safe_step_active (hi : Inv s) (hi' : Inv s') (hS : Step s t e s')
    (hnd : inDtor (s.pc t) = false) {v : Tid} {b : Bool} {x d : Nat} (h1 : s.hnd v = .reg b x) (h2 : s'.hnd v = .reg b x)
    (h : Safe s.eview x d) : Safe s'.eview x d := by
  have o1 := hi.b.own1 v b x h1
  have o2 := hi'.b.own1 v b x h2
  rcases safe_step hi hS hnd o1.1 o2.1 h with h3 | ⟨a, z, k, _, h7⟩
  · exact h3
  · obtain ⟨hr, hb⟩ := k.below hi h7
    have := ((reaper_facts hi' hr).2.2 x hb).symm.trans o2.2
    cases this

end ConcVerif.Rcu
