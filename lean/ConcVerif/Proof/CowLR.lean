import ConcVerif.Proof.LRStep
import ConcVerif.Model.Cow
/-! Facts about single steps of the left-right model in the form the cow layer needs them: the cow model delegates every
primitive operation on `m_data` to `LR.step`; here each delegated event (or fixed sequence of events) is characterised by
(a) what it leaves unchanged (`Same`: the two values, `committed`) and (b) how it moves the thread between the
coarse position classes `LK` the cow pcs are linked to. -/
namespace ConcVerif.LR

/-- coarse position of a thread inside `m_data`'s operations, as far as the cow layer cares -/
inductive LK
  | idle
  | pre                -- read acquisition in progress: rdCalled / rdCL / rdInc
  | hold               -- owns a read handle
  | wA (op : OpId)     -- inside modify(op), first application not complete: wCalled / wA / wF1
  | wB (op : OpId)     -- first application complete: wF1d / wWait / wF2 / wF2d
  | wR (op : OpId)     -- unlocked, before the LR-level return
  | other              -- transient positions inside a delegated sequence, roll-back / roll-forward, exception
  deriving DecidableEq

def lk : Pc → LK
  | .idle => .idle
  | .rdCalled | .rdCL _ | .rdInc _ => .pre
  | .rdHold _ _ => .hold
  | .wCalled op | .wA op _ | .wF1 op _ => .wA op
  | .wF1d op _ | .wWait op _ _ _ | .wF2 op _ | .wF2d op _ => .wB op
  | .wRet op => .wR op
  | _ => .other

variable {s s' : St} {t : Tid} {e : Ev}

structure Same (s s' : St) : Prop where
  valL : s'.valL = s.valL
  valR : s'.valR = s.valR
  committed : s'.committed = s.committed

theorem Same.refl (s : St) : Same s s := ⟨rfl, rfl, rfl⟩
theorem Same.trans {a b c : St} (h1 : Same a b) (h2 : Same b c) : Same a c :=
  ⟨h2.valL.trans h1.valL, h2.valR.trans h1.valR, h2.committed.trans h1.committed⟩
theorem Same.val (h : Same s s') (x : Side) : s'.val x = s.val x := by
  cases x
  · exact h.valL
  · exact h.valR

/-- events that are neither a mutex operation, nor the end of a write window, nor the flip of `rl` -/
def quietEv : Ev → Bool
  | .lock | .unlock | .fEnd _ _ | .cpEnd _ _ | .stRL _ => false
  | _ => true

/-- only the store that flips `rl` changes `committed` -/
theorem committed_keep (hs : step s t e = some s') (h : ∀ y, e ≠ .stRL y) :
    s'.committed = s.committed := by
  rcases step_committed hs with h1 | ⟨_, l, _, he, _⟩
  · exact h1
  · exact absurd he (h _)

/-- only the end of a write window changes the value of a side -/
theorem step_val_keep (x : Side) (hs : step s t e = some s')
    (h1 : ∀ y v, e ≠ .fEnd y v) (h2 : ∀ y v, e ≠ .cpEnd y v) : s'.val x = s.val x := by
  cases Step.of_step hs with
  | fEnd1 | fEnd2 => exact absurd rfl (h1 _ _)
  | cpEndRb | cpEndRf => exact absurd rfl (h2 _ _)
  | @inc c | @dec c => cases c <;> cases x <;> rfl
  | _ => cases x <;> rfl

theorem same_of_quiet (hq : quietEv e = true) (hs : step s t e = some s') : Same s s' :=
  have hv := fun x => step_val_keep x hs (fun _ _ h => by subst h; cases hq) (fun _ _ h => by subst h; cases hq)
  ⟨hv .L, hv .R, committed_keep hs fun _ h => by subst h; cases hq⟩

theorem lk_idle {p : Pc} (h : lk p = .idle) : p = .idle := by
  cases p with
  | idle => rfl
  | _ => cases h

theorem lk_hold {p : Pc} (h : lk p = .hold) : ∃ c x, p = .rdHold c x := by
  cases p with
  | rdHold c x => exact ⟨c, x, rfl⟩
  | _ => cases h

theorem lk_pre {p : Pc} (h : lk p = .pre) : p = .rdCalled ∨ (∃ c, p = .rdCL c) ∨ ∃ c, p = .rdInc c := by
  cases p with
  | rdCalled => exact .inl rfl
  | rdCL c => exact .inr (.inl ⟨c, rfl⟩)
  | rdInc c => exact .inr (.inr ⟨c, rfl⟩)
  | _ => cases h

theorem lk_post {p : Pc} (h : p.post = true) : (∃ op, lk p = .wA op) ∨ (∃ op, lk p = .wB op) ∨ lk p = .other := by
  cases p <;> simp [Pc.post] at h <;> simp [lk]

theorem lk_wB_post {p : Pc} {op : OpId} (h : lk p = .wB op) : p.post = true := by
  cases p with
  | wF1d | wWait | wF2 | wF2d => rfl
  | _ => cases h

/-- the classes other than `wA`, `wB`, `other` hold no `post` position -/
theorem not_post_of_lk {p : Pc} {k : LK} (h : lk p = k) (hA : ∀ op, k ≠ .wA op) (hB : ∀ op, k ≠ .wB op) (hO : k ≠ .other) :
    p.post = false := by
  cases hp : p.post with
  | false => rfl
  | true =>
    rcases lk_post hp with ⟨op, h1⟩ | ⟨op, h1⟩ | h1
    · exact absurd (h.symm.trans h1) (hA op)
    · exact absurd (h.symm.trans h1) (hB op)
    · exact absurd (h.symm.trans h1) hO

theorem lk_pre_not_post {p : Pc} (h : lk p = .pre) : p.post = false := not_post_of_lk h nofun nofun nofun
theorem lk_hold_not_post {p : Pc} (h : lk p = .hold) : p.post = false := not_post_of_lk h nofun nofun nofun
theorem lk_idle_not_post {p : Pc} (h : lk p = .idle) : p.post = false := not_post_of_lk h nofun nofun nofun
theorem lk_wR_not_post {p : Pc} {op : OpId} (h : lk p = .wR op) : p.post = false := not_post_of_lk h nofun nofun nofun

/-- a delegated LR step (or sequence of steps) of thread `t`: reachability (hence every LR theorem) survives, other threads do not move -/
structure Deleg (s s' : St) (t : Tid) : Prop where
  reach : Reachable s → Reachable s'
  other : ∀ u, u ≠ t → s'.pc u = s.pc u
  strict : s'.strict = s.strict

theorem Deleg.refl (s : St) (t : Tid) : Deleg s s t := ⟨id, fun _ _ => rfl, rfl⟩

theorem Deleg.of_step (hs : step s t e = some s') : Deleg s s' t :=
  ⟨fun h => reachable_step h hs, fun _ hu => step_pc_other hs hu, step_strict hs⟩

theorem Deleg.trans {a b c : St} (h1 : Deleg a b t) (h2 : Deleg b c t) : Deleg a c t :=
  ⟨fun h => h2.reach (h1.reach h), fun u hu => (h2.other u hu).trans (h1.other u hu), h2.strict.trans h1.strict⟩

/-! ### readers -/
theorem step_call_ls {k : Nat} (hs : step s t (.call (.ls k)) = some s') :
    s.pc t = .idle ∧ lk (s'.pc t) = .pre ∧ s'.snap t = s.committed := by
  cases Step.of_step hs with
  | callLs hpc => exact ⟨hpc, by rw [setPc_pc_self]; rfl, upd_same ..⟩

/-- the first load and the increment of the read acquisition, with the exact positions (used to count the reader's steps) -/
theorem step_pre_ldCL_exact {v : Side} (hk : lk (s.pc t) = .pre) (hs : step s t (.ldCL v) = some s') :
    s.pc t = .rdCalled ∧ s'.pc t = .rdCL v := by
  cases Step.of_step hs with
  | ldCL hpc => exact ⟨hpc, setPc_pc_self ..⟩
  | reCL hpost => rw [lk_pre_not_post hk] at hpost; cases hpost

theorem step_pre_inc_exact {c : Side} {old : Nat} (hk : lk (s.pc t) = .pre)
    (hs : step s t (.inc c old) = some s') : s.pc t = .rdCL c ∧ s'.pc t = .rdInc c := by
  cases Step.of_step hs with
  | inc hpc => exact ⟨hpc, setPc_pc_self ..⟩

/-- a read through the handle is accepted only from a thread that owns a handle to that side; it observes the value -/
theorem step_rd {x : Side} {v : List OpId} (hs : step s t (.rd x v) = some s') :
    ∃ c, s.pc t = .rdHold c x ∧ s'.pc t = .rdHold c x ∧ v = s.val x := by
  cases Step.of_step hs with
  | rd hpc => exact ⟨_, hpc, setPc_pc_self .., rfl⟩

/-! ### the writer -/
theorem step_call_modify {op : OpId} (hs : step s t (.call (.modify op)) = some s') :
    s.pc t = .idle ∧ lk (s'.pc t) = .wA op := by
  cases Step.of_step hs with
  | callMod hpc => exact ⟨hpc, by rw [setPc_pc_self]; rfl⟩

theorem step_wA_lock {op : OpId} (hk : lk (s.pc t) = .wA op) (hs : step s t .lock = some s') :
    lk (s'.pc t) = .wA op ∧ s.mtx = none ∧ s'.mtx = some t ∧ Same s s' ∧ (s.pc t).writing = none := by
  cases Step.of_step hs with
  | lock hpc hm =>
    rw [hpc] at hk ⊢
    exact ⟨by rw [setPc_pc_self]; exact hk, hm, rfl, ⟨rfl, rfl, rfl⟩, rfl⟩

theorem step_fBegin {x : Side} (hs : step s t (.fBegin x) = some s') :
    (s'.pc t).writing = some x ∧ lk (s'.pc t) = lk (s.pc t) ∧ (s.pc t).post = true ∧ (s.pc t).writing = none ∧
      Same s s' := by
  cases Step.of_step hs with
  | fBegin1 hpc => rw [hpc, setPc_pc_self]; exact ⟨rfl, rfl, rfl, rfl, rfl, rfl, rfl⟩
  | fBegin2 hpc => rw [hpc, setPc_pc_self]; exact ⟨rfl, rfl, rfl, rfl, rfl, rfl, rfl⟩

theorem step_fEnd {x : Side} {v : List OpId} (hs : step s t (.fEnd x v) = some s') :
    (s.pc t).writing = some x ∧ (s'.pc t).writing = none ∧ s'.val x = v ∧ s'.val x.flip = s.val x.flip ∧
      s'.committed = s.committed ∧ s'.mtx = s.mtx ∧
      ((∃ op, lk (s.pc t) = .wA op ∧ lk (s'.pc t) = .wB op) ∨ (∃ op, lk (s.pc t) = .wB op ∧ lk (s'.pc t) = .wB op)) := by
  cases Step.of_step hs with
  | @fEnd1 op l hpc =>
    rw [hpc, setPc_pc_self]
    exact ⟨rfl, rfl, by cases l <;> rfl, by cases l <;> rfl, by cases l <;> rfl, by cases l <;> rfl, .inl ⟨op, rfl, rfl⟩⟩
  | @fEnd2 op _ hpc =>
    rw [hpc, setPc_pc_self]
    exact ⟨rfl, rfl, by cases x <;> rfl, by cases x <;> rfl, by cases x <;> rfl, by cases x <;> rfl, .inr ⟨op, rfl, rfl⟩⟩

/-- loads before the first application is complete are redundant loads of the mutex holder -/
theorem step_wA_neutral {op : OpId} (hk : lk (s.pc t) = .wA op)
    (hn : Cow.neutral e = true) (hs : step s t e = some s') : s' = s := by
  cases Step.of_step hs with
  | reRL | reCL | reCnt | cntWait | yld => rfl
  | ldCL hpc | ldRL hpc | cntZero hpc | stCL hpc => rw [hpc] at hk; cases hk
  | _ => cases hn

/-- loads, yields and counting-flag stores after the first application: the thread stays where the cow layer sees it -/
theorem step_wB_neutral {op : OpId} (hk : lk (s.pc t) = .wB op)
    (hn : Cow.neutral e = true) (hs : step s t e = some s') :
    lk (s'.pc t) = .wB op ∧ (s'.pc t).writing = (s.pc t).writing := by
  cases Step.of_step hs with
  | reRL | reCL | reCnt | cntWait | yld | stCL => exact ⟨hk, rfl⟩
  | @cntZero _ _ _ _ c hpc =>
    rw [hpc] at hk ⊢
    rw [setPc_pc_self]
    cases c <;> exact ⟨hk, rfl⟩
  | ldCL hpc | ldRL hpc => rw [hpc] at hk; cases hk
  | _ => cases hn

theorem step_wB_stRL {y : Side} {op : OpId} (hk : lk (s.pc t) = .wB op)
    (hs : step s t (.stRL y) = some s') :
    lk (s'.pc t) = .wB op ∧ s'.committed = s.committed ++ [op] ∧ s'.valL = s.valL ∧ s'.valR = s.valR ∧ s'.mtx = s.mtx ∧
      (s'.pc t).writing = none := by
  cases Step.of_step hs with
  | stRL hpc =>
    rw [hpc] at hk
    rw [setPc_pc_self]
    exact ⟨hk, congrArg (s.committed ++ [·]) (LK.wB.inj hk), rfl, rfl, rfl, rfl⟩

theorem step_wB_unlock {op : OpId} (hk : lk (s.pc t) = .wB op) (hs : step s t .unlock = some s') :
    lk (s'.pc t) = .wR op ∧ s.mtx = some t ∧ s'.mtx = none ∧ Same s s' ∧ (s.pc t).writing = none := by
  cases Step.of_step hs with
  | unlockF2 hpc hm =>
    rw [hpc] at hk ⊢
    rw [setPc_pc_self]
    exact ⟨congrArg LK.wR (LK.wB.inj hk), hm, rfl, ⟨rfl, rfl, rfl⟩, rfl⟩
  | unlockRb hpc | unlockRf hpc => rw [hpc] at hk; cases hk

theorem step_wR_ret {op op' : OpId} (hk : lk (s.pc t) = .wR op)
    (hs : step s t (.ret (.modify op')) = some s') : s'.pc t = .idle := by
  cases Step.of_step hs with
  | retMod => exact setPc_pc_self ..

/-- once the first application of `modify(op)` is complete, some side the thread is not writing holds `base ++ [op]` -/
theorem wB_val (h : Full s) {op : OpId} (hk : lk (s.pc t) = .wB op) :
    ∃ y, s.val y = s.base ++ [op] ∧ (s.pc t).writing ≠ some y := by
  cases hp : s.pc t with
  | wF1d _ l => exact ⟨l.flip, (h.vinv.vk_at hp rfl).2.2.trans (by rw [hp] at hk; cases hk; rfl), nofun⟩
  | wWait _ l | wF2 _ l => exact ⟨l.flip, (h.vinv.vk_at hp rfl).2.2.trans (by rw [hp] at hk; cases hk; rfl), by cases l <;> nofun⟩
  | wF2d _ l => exact ⟨l, ((h.vinv.vk_at hp rfl).2 l).trans (by rw [hp] at hk; cases hk; rfl), nofun⟩
  | _ => rw [hp] at hk; cases hk

/-! ### the delegated sequences of the cow model -/
/-- `ald rl`, then the LR-level return: the thread owns a handle to side `x` -/
theorem lrGot_exact {s : Cow.St} {k : Nat} {x : Side} {l : St} (hk : lk (s.lr.pc t) = .pre)
    (h : Cow.lrGot s t k x = some l) : ∃ c, s.lr.pc t = .rdInc c ∧ l.pc t = .rdHold c x := by
  simp only [Cow.lrGot, Option.bind_eq_some_iff] at h
  obtain ⟨l1, h1, h2⟩ := h
  cases Step.of_step h1 with
  | @ldRL c hpc =>
    cases Step.of_step h2 with
    | retLs hpc2 => rw [setPc_pc_self] at hpc2; cases hpc2; exact ⟨c, hpc, setPc_pc_self ..⟩
  | reRL hpost => rw [lk_pre_not_post hk] at hpost; cases hpost

/-- LR-level destruction of the handle (call, decrement, return): the thread is idle inside `m_data` again -/
theorem lrRel_idle {s : Cow.St} {c : Side} {old : Nat} {l : St} (h : Cow.lrRel s t c old = some l) : l.pc t = .idle := by
  simp only [Cow.lrRel, Option.bind_eq_some_iff] at h
  obtain ⟨l2, ⟨l1, h1, h2⟩, h3⟩ := h
  cases Step.of_step h3 with
  | retRel => exact setPc_pc_self ..

/-! ### the delegated sequences are enabled -/
theorem lrGot_enabled {s : Cow.St} {k : Nat} {c : Side} (h : s.lr.pc t = .rdInc c) :
    (Cow.lrGot s t k s.lr.rl).isSome = true := by
  rw [Cow.lrGot, (Step.ldRL h).to_step, Option.bind_some, (Step.retLs (setPc_pc_self ..)).to_step]; rfl

theorem lrRel_enabled {s : Cow.St} {c x : Side} (h : s.lr.pc t = .rdHold c x) :
    (Cow.lrRel s t c (s.lr.reg c).length).isSome = true := by
  have h2 := (Step.dec (s := s.lr.setPc t (.rdRel c x)) (t := t) (setPc_pc_self ..)).to_step
  rw [setPc_reg] at h2
  rw [Cow.lrRel, (Step.callRel h).to_step, Option.bind_some, h2, Option.bind_some, (Step.retRel (setPc_pc_self ..)).to_step]; rfl

end ConcVerif.LR
