import ConcVerif.Proof.Cow
/-! The three invariant layers of the cow model are preserved by every step.  `inv_move` covers the steps that only move
the stepping thread (possibly through delegated LR steps that leave the values, `committed` and the mutexes alone); the
steps that change the heap, the chain or a mutex are treated one by one; `inv_step` (`Proof/CowInv.lean`) then goes
through the edges. -/
namespace ConcVerif.Cow
open ConcVerif.LR (lk LK Side)

variable {s s' : St} {t : Tid} {p' : Pc}

structure Inv (s : St) : Prop where
  l : LInv s
  h : HInv s
  c : ChInv s

theorem inv_init (b : Bool) : Inv (init b) := ⟨linv_init b, hinv_init b, chinv_init b⟩

theorem inv_move {l : LR.St} {sn : List (Tid × Ver)} {c : Ver → Nat} (hi : Inv s)
    (hd : LR.Deleg s.lr l t) (hsm : LR.Same s.lr l)
    (hsn : ∀ u w, (u, w) ∈ sn → (u, w) ∈ s.snaps ∨ (s.pub w ∧ w ∉ s.dead))
    (hl : lk (l.pc t) = p'.cls) (hholds : p'.holds = (s.pc t).holds)
    (hwr : (s.lr.pc t).writing = none ∨ (l.pc t).writing = (s.lr.pc t).writing)
    (hown : p'.own = (s.pc t).own ∨ p'.own = none) (hdr : ∀ v n, p' = .dr v n → s.pub v)
    (hcarry : p'.carry = (s.pc t).carry ∨ p'.carry = none) (hpend : p'.pend = (s.pc t).pend)
    (hsrc : ∀ v, p' = .lkH (some v) → v = cur s.lr.committed) (hU : ∀ v, p' = .relU v → s.pc t = .relU v) :
    Inv (({ s with lr := l, snaps := sn, cont := c } : St).setPc t p') := by
  refine ⟨?_, ?_, ?_⟩
  · refine linv_frame hi.l hd rfl hl (wm_same hi.l hholds rfl) (det_same (t := t) hi.l hd rfl ?_)
    intro x hx
    rcases hwr with h1 | h1
    · rw [h1] at hx; cases hx
    · exact h1.trans hx
  · exact hinv_frame hi.h rfl hsm.valL hsm.valR (fun x hx => hx) rfl rfl hsn hown hdr
  · exact chinv_frame hi.c rfl (fun v hv => (pub_congr hsm.valL hsm.valR v).mpr hv) hsm.committed rfl rfl rfl hcarry hpend
      hsrc hU

theorem chinv_unlock_rel {v : Ver} {l : LR.St} (h : ChInv s) (hsm : LR.Same s.lr l) (hw0 : s.wm = some t)
    (hpd : (s.pc t).pend = some v) :
    ChInv (({ s with lr := l, wm := none, released := s.released ++ [v] } : St).setPc t (.relU v)) := by
  refine chinv_gen h rfl (fun v hv => (pub_congr hsm.valL hsm.valR v).mpr hv) hsm.committed rfl (.inr rfl) nofun
    (relU_keep h rfl (fun w hw => List.mem_append_left _ hw) fun w hw => ?_) nofun fun _ => ?_
  · cases hw; exact List.mem_append_right _ (List.mem_singleton_self _)
  · have := h.rel t hw0
    rw [hpd] at this
    exact hsm.committed.trans this

/-- version `o` is destroyed: it is allocated, no snapshot names it, no attached side points to it, and no thread owns it
afterwards -/
theorem hinv_kill {o : Ver} (h : HInv s) (hoa : o ∈ s.alloc) (hos : ∀ u, (u, o) ∉ s.snaps)
    (hox : ∀ x, s.det ≠ some x → s.sv x ≠ o)
    (hown : ∀ u v, ((s.setPc t p').pc u).own = some v → (s.pc u).own = some v ∧ v ≠ o)
    (hdr : ∀ v n, p' = .dr v n → s.pub v) : HInv (({ s with dead := o :: s.dead } : St).setPc t p') := by
  refine ⟨h.pubAlloc, ?_, ?_, ?_, ?_, ?_, ?_⟩
  · intro v hv
    rcases List.mem_cons.mp hv with rfl | h1
    · exact hoa
    · exact h.deadAlloc v h1
  · intro u v hv
    refine ⟨(h.snapsOk u v hv).1, fun hm => ?_⟩
    rcases List.mem_cons.mp hm with rfl | h1
    · exact hos u hv
    · exact (h.snapsOk u v hv).2 h1
  · intro x hx hm
    rcases List.mem_cons.mp hm with h1 | h1
    · exact hox x hx h1
    · exact h.sidesOk x hx h1
  · intro u v hv
    obtain ⟨h1, h2⟩ := hown u v hv
    obtain ⟨a1, a2, a3⟩ := h.ownOk u v h1
    refine ⟨a1, fun hm => ?_, a3⟩
    rcases List.mem_cons.mp hm with h3 | h3
    · exact h2 h3
    · exact a2 h3
  · intro a b v hab ha' hb'
    exact h.ownUniq a b v hab (hown a v ha').1 (hown b v hb').1
  · intro u v n hu
    rcases pc_upd (s := s) (s' := s.setPc t p') rfl u with ⟨rfl, hq⟩ | ⟨hut, hq⟩ <;> replace hu := hq ▸ hu
    · exact hdr v n hu
    · exact h.drPub u v n hu

theorem hinv_pcp {new : Ver} {par : Ver → Ver} {cn : Ver → Nat} (h : HInv s) (hnew : new ∉ s.alloc)
    (hold : (s.pc t).own = none) :
    HInv (({ s with alloc := new :: s.alloc, parent := par, cont := cn } : St).setPc t (.lkC new)) := by
  have hown : ∀ u v, ((s.setPc t (.lkC new)).pc u).own = some v → (u = t ∧ v = new) ∨ (u ≠ t ∧ (s.pc u).own = some v) := by
    intro u v hu
    rcases pc_upd (s := s) (s' := s.setPc t (.lkC new)) rfl u with ⟨rfl, hq⟩ | ⟨hut, hq⟩ <;> replace hu := hq ▸ hu
    · cases hu; exact .inl ⟨rfl, rfl⟩
    · exact .inr ⟨hut, hu⟩
  refine ⟨?_, ?_, h.snapsOk, h.sidesOk, ?_, ?_, ?_⟩
  · intro v hv; exact List.mem_cons_of_mem _ (h.pubAlloc v hv)
  · intro v hv; exact List.mem_cons_of_mem _ (h.deadAlloc v hv)
  · intro u v hv
    rcases hown u v hv with ⟨_, rfl⟩ | ⟨_, h1⟩
    · exact ⟨List.mem_cons_self, fun hm => hnew (h.deadAlloc _ hm), fun hp => hnew (h.pubAlloc _ hp)⟩
    · obtain ⟨a1, a2, a3⟩ := h.ownOk u v h1
      exact ⟨List.mem_cons_of_mem _ a1, a2, a3⟩
  · intro a b v hab ha' hb'
    rcases hown a v ha' with ⟨rfl, rfl⟩ | ⟨hat, h1⟩
    · rcases hown b v hb' with ⟨rfl, _⟩ | ⟨_, h2⟩
      · exact hab rfl
      · exact hnew (h.ownOk b v h2).1
    · rcases hown b v hb' with ⟨rfl, rfl⟩ | ⟨_, h2⟩
      · exact hnew (h.ownOk a v h1).1
      · exact h.ownUniq a b v hab h1 h2
  · intro u v n hu
    rcases pc_upd (s := s) (s' := s.setPc t (.lkC new)) rfl u with ⟨rfl, hq⟩ | ⟨hut, hq⟩ <;> replace hu := hq ▸ hu
    · cases hu
    · exact h.drPub u v n hu

theorem pub_after_install {x : Side} {v : Ver} (hx : s'.lr.val x = s.lr.val x ++ [v])
    (hy : s'.lr.val x.flip = s.lr.val x.flip) (w : Ver) : s'.pub w ↔ s.pub w ∨ w = v := by
  cases x
  · have h1 : s'.lr.valL = s.lr.valL ++ [v] := hx
    have h2 : s'.lr.valR = s.lr.valR := hy
    simp only [St.pub, h1, h2, List.mem_append, List.mem_singleton]
    constructor
    · rintro (h | (h | h) | h) <;> simp [h]
    · rintro ((h | h | h) | h) <;> simp [h]
  · have h1 : s'.lr.valR = s.lr.valR ++ [v] := hx
    have h2 : s'.lr.valL = s.lr.valL := hy
    simp only [St.pub, h1, h2, List.mem_append, List.mem_singleton]
    constructor
    · rintro (h | h | (h | h)) <;> simp [h]
    · rintro ((h | h | h) | h) <;> simp [h]

/-- the assignment window on side `x` is closed: `x` now points to `v` (allocated, alive, owned by nobody afterwards) -/
theorem hinv_install {x : Side} {v : Ver} {l : LR.St} (h : HInv s)
    (hx : l.val x = s.lr.val x ++ [v]) (hy : l.val x.flip = s.lr.val x.flip)
    (hd : s.det = some x) (hva : v ∈ s.alloc) (hvd : v ∉ s.dead) (hown : p'.own = none)
    (hvo : ∀ u w, u ≠ t → (s.pc u).own = some w → w ≠ v) (hdr : ∀ w n, p' ≠ .dr w n) :
    HInv (({ s with lr := l, det := none } : St).setPc t p') := by
  have hpub := pub_after_install (s := s) (s' := ({ s with lr := l, det := none } : St).setPc t p') hx hy
  have hpc := pc_upd (s := s) (s' := s.setPc t p') rfl
  have hown' : ∀ u w, ((s.setPc t p').pc u).own = some w → (s.pc u).own = some w ∧ w ≠ v := by
    intro u w hw
    rcases hpc u with ⟨rfl, hq⟩ | ⟨hut, hq⟩ <;> replace hw := hq ▸ hw
    · rw [hown] at hw; cases hw
    · exact ⟨hw, hvo u w hut hw⟩
  refine ⟨?_, h.deadAlloc, ?_, ?_, ?_, ?_, ?_⟩
  · intro w hw
    rcases (hpub w).mp hw with h1 | rfl
    · exact h.pubAlloc w h1
    · exact hva
  · intro u w hw
    exact ⟨(hpub w).mpr (Or.inl (h.snapsOk u w hw).1), (h.snapsOk u w hw).2⟩
  · intro y _
    by_cases hyx : y = x
    · subst hyx
      show cur (l.val y) ∉ s.dead
      rw [hx, cur_append_single]; exact hvd
    · have hyf : y = x.flip := LR.side_ne_iff.mp hyx
      subst hyf
      show cur (l.val x.flip) ∉ s.dead
      rw [hy]
      exact h.sidesOk x.flip (by rw [hd]; intro hc; injection hc with hc; exact hyx hc.symm)
  · intro u w hw
    obtain ⟨h1, h2⟩ := hown' u w hw
    obtain ⟨a1, a2, a3⟩ := h.ownOk u w h1
    exact ⟨a1, a2, fun hp => ((hpub w).mp hp).elim a3 h2⟩
  · intro a b w hab ha' hb'
    exact h.ownUniq a b w hab (hown' a w ha').1 (hown' b w hb').1
  · intro u w n hu
    rcases hpc u with ⟨rfl, hq⟩ | ⟨hut, hq⟩ <;> replace hu := hq ▸ hu
    · exact absurd hu (hdr w n)
    · exact (hpub w).mpr (.inl (h.drPub u w n hu))

/-- a step of the holder `t` of the writer mutex that keeps the mutex and `released`: the other threads carry nothing and
are not copying, so only `t`'s own obligations remain -/
theorem chinv_holder (h : ChInv s) (hl : LInv s) (hw : s.wm = some t)
    (hpc : s'.pc = upd s.pc t p') (hwm : s'.wm = s.wm) (hrl : s'.released = s.released)
    (hchain : Chain s'.parent 0 s'.lr.committed) (hcom : ∀ v, v ∈ s'.lr.committed → s'.pub v)
    (htop : ∀ v, p'.carry = some v → s'.parent v = cur s'.lr.committed) (hsrc : ∀ v, p' ≠ .lkH (some v))
    (hU : ∀ v, p' ≠ .relU v) (hrel : s'.lr.committed = s'.released ++ p'.pend.toList) : ChInv s' := by
  have hoth : ∀ u, u ≠ t → (s.pc u).holds = false := fun u hu => only_holder hl hw hu
  refine ⟨hchain, hcom, ?_, ?_, ?_, ?_,
    relU_keep h hpc (fun w hw' => by rw [hrl]; exact hw') (fun w hw' => absurd hw' (hU w))⟩
  · intro u w hu
    rcases pc_upd hpc u with ⟨rfl, hq⟩ | ⟨hut, hq⟩ <;> rw [hq] at hu
    · exact htop w hu
    · have := carry_holds hu
      rw [hoth u hut] at this; cases this
  · intro u w hu
    rcases pc_upd hpc u with ⟨rfl, hq⟩ | ⟨hut, hq⟩ <;> rw [hq] at hu
    · exact absurd hu (hsrc w)
    · have := hoth u hut
      rw [hu] at this; cases this
  · intro u hu
    rw [hwm, hw] at hu
    injection hu with hu
    subst hu
    rw [hpc, upd_same]; exact hrel
  · intro h0; rw [hwm, hw] at h0; cases h0

/-- the flip of `rl` commits `v`: the holder carried it on top of `committed` -/
theorem chinv_commit {v : Ver} {l : LR.St} (h : ChInv s) (hl : LInv s) (hp : s.pc t = .relB v false)
    (hL : l.valL = s.lr.valL) (hR : l.valR = s.lr.valR) (hc : l.committed = s.lr.committed ++ [v]) (hv : s.pub v) :
    ChInv ((withLr s l).setPc t (.relB v true)) := by
  have hw : s.wm = some t := (hl.wmh t).mp (by rw [hp]; rfl)
  refine chinv_holder h hl hw rfl rfl rfl ?_ ?_ nofun nofun nofun ?_
  · show Chain s.parent 0 l.committed
    rw [hc, chain_append, ← cur_eq_lastFrom]
    exact ⟨h.chain, h.top t v (by rw [hp]; rfl)⟩
  · intro w hw'
    replace hw' : w ∈ s.lr.committed ++ [v] := hc ▸ hw'
    rw [pub_congr (s := s) (s' := (withLr s l).setPc t (.relB v true)) hL hR]
    rcases List.mem_append.mp hw' with h1 | h1
    · exact h.comPub w h1
    · cases List.mem_singleton.mp h1; exact hv
  · have := h.rel t hw
    rw [hp] at this
    show l.committed = s.released ++ [v]
    rw [hc, this]; exact List.append_nil _ ▸ rfl

/-- the writer-mutex holder copies `src` (the latest committed version) into the fresh version `new` -/
theorem chinv_pcp {new src : Ver} {al : List Ver} {cn : Ver → Nat} (h : ChInv s) (hl : LInv s) (hh : HInv s)
    (hp : s.pc t = .lkH (some src)) (hnew : new ∉ s.alloc) :
    ChInv (({ s with alloc := al, parent := fun w => if w = new then src else s.parent w, cont := cn } : St).setPc t
      (.lkC new)) := by
  have hw : s.wm = some t := (hl.wmh t).mp (by rw [hp]; rfl)
  refine chinv_holder h hl hw rfl rfl rfl ?_ h.comPub ?_ nofun nofun ?_
  · exact h.chain.congr fun v hv => if_neg fun (e : v = new) => hnew (e ▸ hh.pubAlloc v (h.comPub v hv))
  · intro w hw'
    cases hw'
    exact (if_pos rfl).trans (h.src t src hp)
  · have := h.rel t hw
    rw [hp] at this
    exact this

theorem inv_lock {s s' : St} {t : Tid} {p' : Pc} (hi : Inv s)
    (hd : LR.Deleg s.lr s'.lr t) (hsm : LR.Same s.lr s'.lr) (hpc : s'.pc = upd s.pc t p')
    (hw0 : s.wm = none) (hw : s'.wm = some t) (hdet : s'.det = s.det) (ha : s'.alloc = s.alloc) (hdd : s'.dead = s.dead)
    (hpar : s'.parent = s.parent) (hsn : s'.snaps = s.snaps) (hrel : s'.released = s.released)
    (hl : lk (s'.lr.pc t) = p'.cls) (hholds : p'.holds = true) (hwr : (s.lr.pc t).writing = none)
    (hown : p'.own = none) (hdr : ∀ v n, p' ≠ .dr v n) (hc : p'.carry = none) (hpd : p'.pend = none)
    (hsrc : ∀ v, p' ≠ .lkH (some v)) (hU : ∀ v, p' ≠ .relU v) : Inv s' := by
  refine ⟨?_, ?_, ?_⟩
  · refine linv_frame hi.l hd hpc hl (by rw [hw]; exact wm_lock hi.l hholds hw0) (det_same hi.l hd hdet ?_)
    intro x hx; rw [hwr] at hx; cases hx
  · exact hinv_frame hi.h hpc hsm.valL hsm.valR (fun x hx => by rw [← hdet]; exact hx) ha hdd
      (fun u w h => Or.inl (by rw [← hsn]; exact h)) (Or.inr hown) (fun v n h => absurd h (hdr v n))
  · refine chinv_gen hi.c hpc (fun v hv => (pub_congr hsm.valL hsm.valR v).mpr hv) hsm.committed hpar (.inr hc)
      (fun v hv => absurd hv (hsrc v))
      (relU_keep hi.c hpc (fun v hv => by rw [hrel]; exact hv) (fun v hv => absurd hv (hU v))) ?_ ?_
    · intro u hu
      rw [hw] at hu
      cases hu
      rw [hpc, upd_same, hpd, hsm.committed, hrel, hi.c.rel0 hw0]; simp
    · intro h0; rw [hw] at h0; cases h0

theorem inv_unlock {s s' : St} {t : Tid} {p' : Pc} (hi : Inv s) (hlr : s'.lr = s.lr) (hpc : s'.pc = upd s.pc t p')
    (hw0 : s.wm = some t) (hw : s'.wm = none) (hdet : s'.det = s.det) (ha : s'.alloc = s.alloc) (hdd : s'.dead = s.dead)
    (hpar : s'.parent = s.parent) (hsn : s'.snaps = s.snaps) (hrel : s'.released = s.released)
    (hcls : p'.cls = (s.pc t).cls) (hholds : p'.holds = false)
    (hown : p'.own = (s.pc t).own ∨ p'.own = none) (hdr : ∀ v n, p' ≠ .dr v n) (hc : p'.carry = none)
    (hpd : (s.pc t).pend = none) (hsrc : ∀ v, p' ≠ .lkH (some v)) (hU : ∀ v, p' ≠ .relU v) : Inv s' := by
  have hd : LR.Deleg s.lr s'.lr t := by rw [hlr]; exact LR.Deleg.refl _ _
  have hsm : LR.Same s.lr s'.lr := by rw [hlr]; exact LR.Same.refl _
  refine ⟨?_, ?_, ?_⟩
  · refine linv_frame hi.l hd hpc (by rw [hlr, hcls]; exact hi.l.link t) (by rw [hw]; exact wm_unlock hi.l hholds hw0)
      (det_same hi.l hd hdet ?_)
    intro x hx; rw [hlr]; exact hx
  · exact hinv_frame hi.h hpc hsm.valL hsm.valR (fun x hx => by rw [← hdet]; exact hx) ha hdd
      (fun u w h => Or.inl (by rw [← hsn]; exact h)) hown (fun v n h => absurd h (hdr v n))
  · refine chinv_gen hi.c hpc (fun v hv => (pub_congr hsm.valL hsm.valR v).mpr hv) hsm.committed hpar (.inr hc)
      (fun v hv => absurd hv (hsrc v))
      (relU_keep hi.c hpc (fun v hv => by rw [hrel]; exact hv) (fun v hv => absurd hv (hU v))) ?_ ?_
    · intro u hu; rw [hw] at hu; cases hu
    · intro _
      have := hi.c.rel t hw0
      rw [hpd] at this
      rw [hsm.committed, hrel, this]; simp

theorem inv_kill {o : Ver} (hi : Inv s) (hcls : p'.cls = (s.pc t).cls) (hholds : p'.holds = (s.pc t).holds)
    (hoa : o ∈ s.alloc) (hos : ∀ u, (u, o) ∉ s.snaps) (hox : ∀ x, s.det ≠ some x → s.sv x ≠ o)
    (hown : p'.own = none) (hoth : ∀ u v, u ≠ t → (s.pc u).own = some v → v ≠ o) (hdr : ∀ v n, p' = .dr v n → s.pub v)
    (hcarry : p'.carry = (s.pc t).carry ∨ p'.carry = none) (hpend : p'.pend = (s.pc t).pend)
    (hsrc : ∀ v, p' ≠ .lkH (some v)) (hU : ∀ v, p' = .relU v → s.pc t = .relU v) :
    Inv (({ s with dead := o :: s.dead } : St).setPc t p') := by
  have hown : ∀ u v, ((s.setPc t p').pc u).own = some v → (s.pc u).own = some v ∧ v ≠ o := by
    intro u v hv
    rcases pc_upd (s := s) (s' := s.setPc t p') rfl u with ⟨rfl, hq⟩ | ⟨hut, hq⟩ <;> replace hv := hq ▸ hv
    · rw [hown] at hv; cases hv
    · exact ⟨hv, hoth u v hut hv⟩
  refine ⟨?_, ?_, ?_⟩
  · exact linv_frame hi.l (.refl _ t) rfl (hcls ▸ hi.l.link t) (wm_same hi.l hholds rfl)
      (det_same (t := t) hi.l (.refl _ t) rfl fun x hx => hx)
  · exact hinv_kill hi.h hoa hos hox hown hdr
  · exact chinv_frame hi.c rfl (fun v hv => hv) rfl rfl rfl rfl hcarry hpend (fun v h => absurd h (hsrc v)) hU

end ConcVerif.Cow
