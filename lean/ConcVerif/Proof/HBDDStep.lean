import ConcVerif.Proof.HBDDMap
/-! Per-step facts connecting the DelayedDestructor model to the happens-before layer. -/
namespace ConcVerif.DD

variable {s s' X : St} {t : Tid} {fs rest : List Frame} {e : Ev} {c : Cfg}

/-! ## Once `~DelayedDestructor` has started (client obligation of the model: no call is in progress at that moment and
none starts afterwards), every thread other than the one running it only ever runs payload destructors: its stack
consists of `dying` / `inDt` frames.  In particular it never touches `destructionLock` or the vector again. -/

def isPay : Frame → Bool
  | .dying _ | .inDt _ => true
  | _ => false

def AllPay (fs : List Frame) : Prop := ∀ f ∈ fs, isPay f = true

@[simp] theorem allPay_nil : AllPay [] := by intro f h; cases h
@[simp] theorem allPay_cons (f fs) : AllPay (f :: fs) ↔ isPay f = true ∧ AllPay fs := by simp [AllPay]

/-- below a payload frame with only payload frames underneath, `resume` has nothing to continue -/
theorem resume_pay (s : St) (t : Tid) (h : AllPay fs) : resume s t fs = s.setStk t fs := by
  cases fs with
  | nil => rfl
  | cons f fs =>
    simp only [allPay_cons] at h
    cases f <;> simp [isPay] at h <;> rfl

/-- with the container's destructor running, a thread whose stack holds payload frames only can start and end
payload destructors and run user code inside them, nothing else -/
theorem Step.allPay (h : Step s t fs e s') (hfs : s.stk t = fs) (hd : s.dead ≠ none)
    (hI : AllPay fs) : AllPay (s'.stk t) := by
  cases h with
  | user _ h =>
    cases h with
    | new | dup | drop => exact hfs ▸ hI
    | dropLast => rw [setStk_stk_same]; exact (allPay_cons _ _).mpr ⟨rfl, hI⟩
    | callAddMv hm | callAdd hm | callSize hm | callDestroy hm | callDestroyD hm => exact absurd (mayCall_dead hm) hd
    | callDtor _ _ hd' => exact absurd hd' hd
  | dtorStart => rw [setStk_stk_same]; exact (allPay_cons _ _).mpr ⟨rfl, ((allPay_cons _ _).mp hI).2⟩
  | dtorEnd => rw [resume_pay _ _ ((allPay_cons _ _).mp hI).2, setStk_stk_same]; exact ((allPay_cons _ _).mp hI).2
  | _ => cases ((allPay_cons _ _).mp hI).1

/-- threads other than the destructor's run payload destructors only -/
def PY (s : St) : Prop := ∀ d, s.dead = some d → ∀ u, u ≠ d → AllPay (s.stk u)

theorem py_init (cb ns nt) : PY (init cb ns nt) := by intro d h; simp [init] at h

theorem py_step (hA : ActOk s) (hI : PY s) (h : step s t e = some s') : PY s' := by
  intro d hd u hu
  rcases (Step.of_step h).dead with h1 | ⟨h1, _, h3, _, _⟩
  · rw [h1] at hd
    by_cases hut : u = t
    · subst hut
      exact (Step.of_step h).allPay rfl (by rw [hd]; nofun) (hI d hd u hu)
    · rw [step_stk_other h hut]; exact hI d hd u hu
  · rw [h3] at hd; injection hd with hd; subst hd
    rw [step_stk_other h hu]
    have : s.stk u = [] := by
      apply Classical.byContradiction; intro hne
      have := (hA u).mpr hne
      rw [h1] at this; cases this
    rw [this]; simp

theorem py_reachable {cb ns nt} (h : Reachable cb ns nt s) : PY s := by
  obtain ⟨es, hr⟩ := h
  have : Dt s ∧ PY s :=
    runFrom_inv (Inv := fun s => Dt s ∧ PY s)
      (fun _ _ _ _ hi hs => ⟨dt_step hi.1 hs, py_step hi.1.act hi.2 hs⟩) ⟨dt_init cb ns nt, py_init cb ns nt⟩ hr
  exact this.2

/-- the critical-section part of an accepted event: an acquisition (taken when the model's lock is free) followed by
accesses, accesses followed by the holder's release, or a `nop` -/
inductive CsShape (t : Tid) (l l' : Option Tid) : List HB.Ev → Prop
  | acq (acc : List HB.Ev) : l = none → l' = some t → (∀ x ∈ acc, IsAcc x) → CsShape t l l' (.acq 0 .X :: acc)
  | rel (pre : List HB.Ev) : l = some t → l' = none → (∀ x ∈ pre, IsAcc x) → CsShape t l l' (pre ++ [.rel 0 .X])
  | nop : l' = l → CsShape t l l' [.nop]

theorem userLevel_csOf (hu : userLevel fs = true) (e : Ev) : csOf fs e = [.nop] := by
  cases fs with
  | nil => rfl
  | cons f fs => cases f <;> first | rfl | cases hu

theorem acc_rd : ∀ x ∈ [HB.Ev.rd 0], IsAcc x := fun _ hx => .inl (List.mem_singleton.mp hx)
theorem acc_wr : ∀ x ∈ [HB.Ev.wr 0], IsAcc x := fun _ hx => .inr (List.mem_singleton.mp hx)

theorem Step.cs (h : Step s t fs e s') : CsShape t s.lock s'.lock (csOf fs e) := by
  cases h with
  | user hu h => rw [userLevel_csOf hu]; exact .nop h.lock
  | addLock hl => exact .acq _ hl rfl acc_wr
  | dLock hl => exact .acq _ hl (select_lock ..) acc_wr
  | sizeLock hl | dRelock hl | gRelockD hl => exact .acq [] hl rfl nofun
  | gLock hl | gRelockS hl => exact .acq _ hl rfl acc_rd
  | addUnlock hl | dUnlock1Cb hl | gUnlockS hl | gUnlockD hl => exact .rel [] hl rfl nofun
  | dUnlock1 hl => exact .rel [] hl (drain_lock (unlock s) _ _ _ _ _ _) nofun
  | sizeUnlock hl | gUnlockE hl => exact .rel [.rd 0] hl rfl acc_rd
  | dUnlock0 hl | dUnlock2 hl => exact .rel [.rd 0] hl (dDone_lock (unlock s) _ _ _) acc_rd
  | dTimeout | dRelockTimeout => exact .nop (dDone_lock ..)
  | cbEndLast | cbThrow => exact .nop (drain_lock ..)
  | dtorEnd => exact .nop (resume_lock ..)
  | xYield | xSleep => exact .nop (xTop_lock ..)
  | _ => exact .nop rfl

theorem step_cs (h : step s t e = some s') : CsShape t s.lock s'.lock (csOf (s.stk t) e) :=
  (Step.of_step h).cs

theorem topAcc_free (s : St) : ∀ x ∈ topAcc s, IsFree x := by
  intro x hx; unfold topAcc at hx
  split at hx <;> simp at hx
  · rcases hx with h | h <;> subst h; exact .inl rfl; exact .inr (.inl rfl)
  · subst hx; exact .inl rfl

theorem doneAcc_free (s : St) (rest : List Frame) : ∀ x ∈ doneAcc s rest, IsFree x := by
  intro x hx; unfold doneAcc at hx
  split at hx
  · exact topAcc_free s x hx
  · simp at hx; subst hx; exact .inr (.inl rfl)
  · cases hx

theorem resumeAcc_free (s : St) (t : Tid) (below : List Frame) : ∀ x ∈ resumeAcc s t below, IsFree x := by
  intro x hx; unfold resumeAcc at hx
  split at hx
  · split at hx
    · exact doneAcc_free _ _ x hx
    · cases hx
  · simp at hx; subst hx; exact .inr (.inl rfl)
  · cases hx

theorem xHB_free (js : List Tid) (s : St) (t : Tid) (fs : List Frame) (e : Ev) : ∀ x ∈ xHB js s t fs e, IsFree x := by
  intro x hx; unfold xHB at hx
  split at hx
  all_goals (try split at hx)
  all_goals (try split at hx)
  all_goals (first
    | (cases hx; done)
    | exact topAcc_free _ x hx
    | exact doneAcc_free _ _ x hx
    | exact resumeAcc_free _ _ _ x hx
    | skip)
  rcases List.mem_append.1 hx with h | h
  · simp only [List.mem_map] at h
    obtain ⟨u, _, rfl⟩ := h
    exact .inr (.inr ⟨u, rfl⟩)
  · exact topAcc_free _ x h

theorem ex_cons {f0 : Frame} (h : ∃ f ∈ fs, isX f = true) : ∃ f ∈ f0 :: fs, isX f = true := by
  obtain ⟨f, hf, hx⟩ := h
  exact ⟨f, List.mem_cons_of_mem _ hf, hx⟩

theorem doneAcc_ne_nil (h : doneAcc s rest ≠ []) : ∃ f ∈ rest, isX f = true := by
  unfold doneAcc at h
  split at h
  · exact ⟨_, List.mem_cons_self, rfl⟩
  · exact ⟨_, List.mem_cons_self, rfl⟩
  · exact absurd rfl h

theorem resumeAcc_ne_nil {below : List Frame} (h : resumeAcc s t below ≠ []) :
    ∃ f ∈ below, isX f = true := by
  unfold resumeAcc at h
  split at h
  · split at h
    · exact ex_cons (doneAcc_ne_nil h)
    · exact absurd rfl h
  · exact ⟨_, List.mem_cons_self, rfl⟩
  · exact absurd rfl h

/-- the destructor part is empty unless the event starts the container's destructor or the thread is inside it -/
theorem xHB_ne_nil {js : List Tid} (h : xHB js s t fs e ≠ []) :
    (fs = [] ∧ e = .callDtor) ∨ ∃ f ∈ fs, isX f = true := by
  unfold xHB at h
  split at h
  all_goals (try split at h)
  all_goals (try split at h)
  all_goals (first
    | exact absurd rfl h
    | exact .inl ⟨rfl, rfl⟩
    | exact .inr ⟨_, List.mem_cons_self, rfl⟩
    | exact .inr (ex_cons (doneAcc_ne_nil h))
    | exact .inr (ex_cons (resumeAcc_ne_nil h))
    | skip)


theorem UStep.xHB_nil {js : List Tid} (h : UStep s t fs e s') (hd : s.dead ≠ none) :
    xHB js s t fs e = [] := by
  cases h with
  | callDtor _ _ hd' => exact absurd hd' hd
  | _ => unfold xHB; split <;> rfl

theorem resumeAcc_pay (s : St) (t : Tid) (h : AllPay fs) : resumeAcc s t fs = [] := by
  cases fs with
  | nil => rfl
  | cons g r => cases g <;> first | rfl | cases ((allPay_cons _ _).mp h).1

/-- a thread other than the destructor's contributes nothing but `nop`s once the destructor has started -/
theorem toHB_other {js : List Tid} {t d : Tid} (h : step s t e = some s')
    (hd : s.dead = some d) (hI : AllPay (s.stk t)) : toHB js s t e = [.nop] := by
  have hS := Step.of_step h
  unfold toHB
  generalize s.stk t = fs at hS hI
  cases hS with
  | user hu h => rw [userLevel_csOf hu, h.xHB_nil (by rw [hd]; nofun)]; rfl
  | dtorStart => rfl
  | dtorEnd => exact congrArg _ (resumeAcc_pay s t ((allPay_cons _ _).mp hI).2)
  | _ => cases ((allPay_cons _ _).mp hI).1

theorem agrees_step {tr : HB.Trace} {l l' : Option Tid} {cs x : List HB.Ev} (h : HB.Agrees tr 0 (HB.ofOwner l))
    (hc : CsShape t l l' cs) (hx : ∀ y ∈ x, Inert y) : HB.Agrees (tr ++ evs t (cs ++ x)) 0 (HB.ofOwner l') := by
  cases hc with
  | acq acc h1 h2 h3 =>
    subst h1; subst h2
    rw [List.cons_append, append_evs_cons]
    apply agrees_evs t h.lock
    intro y hy
    rcases List.mem_append.1 hy with hy | hy
    · exact (h3 y hy).inert
    · exact hx y hy
  | rel pre h1 h2 h3 =>
    subst h1; subst h2
    rw [List.append_assoc, evs_append, ← List.append_assoc, List.singleton_append, append_evs_cons]
    exact agrees_evs t (agrees_evs t h (fun y hy => (h3 y hy).inert)).unlock hx
  | nop h1 =>
    subst h1
    apply agrees_evs t h
    intro y hy
    rcases List.mem_cons.1 hy with hy | hy
    · subst hy; exact inert_nop
    · exact hx y hy

theorem ls_step {tr : HB.Trace} {l l' : Option Tid} {cs : List HB.Ev} (hl : HB.LockSet tr 0 0)
    (h : HB.Agrees tr 0 (HB.ofOwner l)) (hc : CsShape t l l' cs) : HB.LockSet (tr ++ evs t cs) 0 0 := by
  cases hc with
  | acq acc h1 h2 h3 =>
    subst h1
    rw [append_evs_cons]
    apply lockSet_locked _ _ (fun y hy => (h3 y hy).inert)
    · exact HB.lockSet_snoc hl (fun he => by cases he) (fun he => by cases he)
    · rw [h.lock.1, HB.ofOwner_self]
  | rel pre h1 h2 h3 =>
    subst h1
    rw [evs_append]
    rw [← List.append_assoc]
    apply HB.lockSet_snoc _ (fun he => by cases he) (fun he => by cases he)
    apply lockSet_locked hl _ (fun y hy => (h3 y hy).inert)
    rw [h.1, HB.ofOwner_self]
  | nop h1 =>
    exact HB.lockSet_snoc hl (fun he => by cases he) (fun he => by cases he)

/-! ## Tie between the happens-before mapping of the DelayedDestructor model and the model's state: the mapping misses no
mutation of the vector.  (The lock side of the tie is part of the simulation invariant: `HB.held` mirrors `s.lock`.) -/

theorem doneAcc_congr {s s1 : St} (h : s1.vec = s.vec) (rest : List Frame) : doneAcc s1 rest = doneAcc s rest := by
  unfold doneAcc topAcc; rw [h]

/-- the accesses the silent code makes to the vector, as the mapping has them -/
def Cfg.acc (s : St) (t : Tid) : Cfg → List HB.Ev
  | .run fs => resumeAcc s t fs
  | .done _ rest => doneAcc s rest
  | .top _ _ => topAcc s
  | .scan _ _ => [.wr 0]

theorem same_sil (h : Sil t X c s') (hw : HB.Ev.wr 0 ∉ c.acc X t) :
    s'.vec = X.vec ∧ s'.vdead = X.vdead := by
  induction h with
  | caught _ ih => exact ih hw
  | @ecNext X _ _ _ _ _ _ _ h0 _ ih =>
    refine ih ?_
    simp only [Cfg.acc, resumeAcc, drainEnds, h0, if_false] at hw
    rwa [Cfg.acc, resumeAcc, doneAcc_congr (s := X) (by rfl)]
  | vecDone | vecLast | vecNext | doneVec | scanNone | scanSome => exact absurd List.mem_cons_self hw
  | doneEmpty hv | topEmpty hv => exact absurd (by simp [Cfg.acc, doneAcc, topAcc, hv]) hw
  | _ => exact ⟨rfl, rfl⟩

/-- **the mapping misses no mutation of the vector**: an accepted event whose mapped events contain no `wr 0` leaves
`ElementsToBeDestroyed` unchanged and does not destroy the vector member -/
theorem Step.vec_same {js : List Tid} (hs : Step s t fs e s')
    (hcs : HB.Ev.wr 0 ∉ csOf fs e) (hx : HB.Ev.wr 0 ∉ xHB js s t fs e) : s'.vec = s.vec ∧ s'.vdead = s.vdead := by
  cases hs with
  | user _ h =>
    cases h with
    | callDtor hfs =>
      subst hfs
      exact same_sil (X := { s with dead := some t }) (xTop_sil ..) (fun hw => hx (List.mem_append_right _ hw))
    | _ => exact ⟨rfl, rfl⟩
  | addLock | dLock => exact absurd (List.mem_cons_of_mem _ List.mem_cons_self) hcs
  | dTimeout | dRelockTimeout => exact same_sil (dDone_sil ..) hx
  | dUnlock0 | dUnlock2 => exact same_sil (X := unlock s) (dDone_sil ..) hx
  | dUnlock1 => exact same_sil (X := unlock s) (drain_sil ..) (by simp [Cfg.acc, resumeAcc])
  | cbEndLast => exact same_sil (drain_sil ..) (by simp [Cfg.acc, resumeAcc])
  | cbThrow => exact same_sil (drain_sil ..) (by simpa only [Cfg.acc, resumeAcc, xHB, Bool.true_and] using hx)
  | dtorEnd => exact same_sil (resume_sil ..) hx
  | xYield | xSleep => exact same_sil (xTop_sil ..) hx
  | _ => exact ⟨rfl, rfl⟩

theorem vec_write_mapped {js : List Tid} (hs : step s t e = some s')
    (h : HB.Ev.wr 0 ∉ toHB js s t e) : s'.vec = s.vec ∧ s'.vdead = s.vdead :=
  (Step.of_step hs).vec_same (fun hw => h (List.mem_append_left _ hw)) (fun hw => h (List.mem_append_right _ hw))

end ConcVerif.DD
