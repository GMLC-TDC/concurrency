import ConcVerif.Proof.LRStep
import ConcVerif.Base.Live
/-! Ranking for `lr_guarded` (relational form of `Base/Live.lean`).

Environment events (`isEnv`): the calls (`lock_shared`, handle destruction, `modify`), the reads through a held
handle (`rd`) and the end-of-run observation `fin`.  A *progress step* (`Prog`) is a non-environment step that
changes the pc of its thread.  The only other steps are the idle steps of the holder of the write mutex, which
the stage-B writer model lets it repeat at will: a counter load that returns non-zero (a wait iteration) or a
zero already seen, `yld`, a store of `cl`, a redundant flag / counter load.  Every progress step lowers `Pc.rank`. -/
namespace ConcVerif.LR

variable {s s' s1 : St} {t : Tid} {e : Ev} {p p' : Pc} {c l : Side} {op : OpId} {zL zR : Bool}

def isEnv : Ev → Bool
  | .call _ | .rd _ _ | .fin _ _ => true
  | _ => false

def zCount (zL zR : Bool) : Nat := (if zL then 0 else 1) + (if zR then 0 else 1)

/-- own non-environment steps left, counted down along each call: 4…1 through `lock_shared`, 2, 1 through a release,
13…1 through `modify` (one more per counter not yet seen at zero while waiting).  The roll-back `wRb` (4) is entered
from ranks 12, 11, 10 and the roll-forward `wRf` (4) from 7, 6, 5, so both lie below `wF2d` (5). -/
def Pc.rank : Pc → Nat
  | .idle => 0
  | .rdCalled => 4
  | .rdCL _ => 3
  | .rdInc _ => 2
  | .rdGot _ _ => 1
  | .rdHold _ _ => 0
  | .rdRel _ _ => 2
  | .rdRelD => 1
  | .wCalled _ => 13
  | .wA _ _ => 12
  | .wF1 _ _ => 11
  | .wF1d _ _ => 10
  | .wRb _ _ => 4
  | .wRbC _ _ => 3
  | .wRbD _ _ => 2
  | .wWait _ _ zL zR => 7 + zCount zL zR
  | .wF2 _ _ => 6
  | .wF2d _ _ => 5
  | .wRf _ _ => 4
  | .wRfC _ _ => 3
  | .wRfD _ _ => 2
  | .wRet _ => 1
  | .wExc _ _ => 1

def μ (s : St) (t : Tid) : Nat := (s.pc t).rank

def Prog (s : St) (t : Tid) (e : Ev) (s' : St) : Prop := isEnv e = false ∧ s'.pc t ≠ s.pc t

theorem rank_waitSeen (hne : waitSeen op l zL zR c ≠ .wWait op l zL zR) : (waitSeen op l zL zR c).rank < (Pc.wWait op l zL zR).rank := by
  cases c <;> cases zL <;> cases zR <;> first | exact absurd rfl hne | exact Nat.le_of_ble_eq_true rfl

theorem prog_dec (hs : step s t e = some s') (hP : Prog s t e s') :
    (s'.pc t).rank < (s.pc t).rank := by
  obtain ⟨he, hne⟩ := hP
  induction Step.of_step hs with
  | callLs | rd | callRel | callMod | fin => cases he
  | cntWait | yld | stCL | reRL | reCL | reCnt => exact absurd rfl hne
  | cntZero hpc => rw [setPc_pc_self, hpc] at hne ⊢; exact rank_waitSeen hne
  | lock hpc | unlockRb hpc | unlockF2 hpc | unlockRf hpc => rw [setPc_pc_self, hpc]; exact Nat.le_of_ble_eq_true rfl
  | _ => rename_i hpc; rw [setPc_pc_self, hpc]; exact Nat.le_of_ble_eq_true rfl

theorem rankedRel : Live.RankedRel step (fun _ => True) Prog μ where
  good := fun _ _ _ _ _ _ _ => trivial
  dec := fun _ _ _ _ _ hs hP => prog_dec hs hP
  frame := by
    intro s t e s' u _ hs _ hu
    simp [μ, step_pc_other hs hu]

/-- the events of a wait iteration / redundant load -/
def isWaitEv : Ev → Bool
  | .ldRL _ | .ldCL _ | .ldCnt _ _ | .yld | .stCL _ => true
  | _ => false

/-- a non-environment step that is not a progress step is an idle step of the holder of the write mutex: a
counter / flag load, a yield or a store of `cl` that leaves its pc where it was -/
theorem idle_is_holder (hs : step s t e = some s') (he : isEnv e = false)
    (hpc : s'.pc t = s.pc t) : (s.pc t).post = true ∧ isWaitEv e = true := by
  induction Step.of_step hs with
  | callLs | rd | callRel | callMod | fin => cases he
  | cntWait h | yld h | stCL h | cntZero h => exact ⟨h ▸ rfl, rfl⟩
  | reRL h | reCL h | reCnt h => exact ⟨h, rfl⟩
  | lock h | unlockRb h | unlockF2 h | unlockRf h => rw [setPc_pc_self, h] at hpc; cases hpc
  | _ => rename_i h; rw [setPc_pc_self, h] at hpc; cases hpc

def CanProg (s : St) (t : Tid) : Prop := ∃ e s', step s t e = some s' ∧ Prog s t e s'

/-- the client keeps a read handle in thread `t` (registered in counter `c`) -/
def HoldsHandle (s : St) (t : Tid) (c : Side) : Prop := ∃ x, s.pc t = .rdHold c x

/-- `w` waits for readers: some counter has not been seen at zero since the flip, and every such counter has a
registered reader -/
def WriterWaits (s : St) (w : Tid) : Prop :=
  ∃ op l zL zR, s.pc w = .wWait op l zL zR ∧ (∃ c, zOf c zL zR = false) ∧ ∀ c, zOf c zL zR = false → s.reg c ≠ []

theorem canProg_of {A B : Prop} (hp : s.pc t = p) (h : Step s t e (s1.setPc t p')) (he : isEnv e = false)
    (hne : decide (p' = p) = false) : A ∨ CanProg s t ∨ B :=
  .inr (.inl ⟨e, _, h.to_step, he, by rw [setPc_pc_self, hp]; exact of_decide_eq_false hne⟩)

theorem thread_cases (hi : Inv s) (t : Tid) :
    s.pc t = .idle ∨ CanProg s t ∨ (∃ c, HoldsHandle s t c) ∨
    (∃ op, s.pc t = .wCalled op ∧ ∃ w, s.mtx = some w) ∨ WriterWaits s t := by
  have hm : (s.pc t).post = true → s.mtx = some t := (hi.holder t).1
  cases hp : s.pc t with
  | idle => exact .inl rfl
  | rdHold c x => exact .inr (.inr (.inl ⟨c, x, hp⟩))
  | rdCalled => exact canProg_of hp (.ldCL hp) rfl rfl
  | rdCL => exact canProg_of hp (.inc hp) rfl rfl
  | rdInc => exact canProg_of hp (.ldRL hp) rfl rfl
  | rdGot => exact canProg_of hp (.retLs (k := 0) hp) rfl rfl
  | rdRel => exact canProg_of hp (.dec hp) rfl rfl
  | rdRelD => exact canProg_of hp (.retRel hp) rfl rfl
  | wCalled op =>
    cases hmx : s.mtx with
    | none => exact canProg_of hp (.lock hp hmx) rfl rfl
    | some w => exact .inr (.inr (.inr (.inl ⟨op, rfl, w, rfl⟩)))
  | wA => exact canProg_of hp (.fBegin1 hp) rfl rfl
  | wF1 => exact canProg_of hp (.fEnd1 hp) rfl rfl
  | wF1d => exact canProg_of hp (.stRL hp) rfl rfl
  | wRb => exact canProg_of hp (.cpBeginRb hp) rfl rfl
  | wRbC => exact canProg_of hp (.cpEndRb hp) rfl rfl
  | wRbD => exact canProg_of hp (.unlockRb hp (hm (hp ▸ rfl))) rfl rfl
  | wF2 => exact canProg_of hp (.fEnd2 hp) rfl rfl
  | wF2d => exact canProg_of hp (.unlockF2 hp (hm (hp ▸ rfl))) rfl rfl
  | wRf => exact canProg_of hp (.cpBeginRf hp) rfl rfl
  | wRfC => exact canProg_of hp (.cpEndRf hp) rfl rfl
  | wRfD => exact canProg_of hp (.unlockRf hp (hm (hp ▸ rfl))) rfl rfl
  | wRet => exact canProg_of hp (.retMod hp) rfl rfl
  | wExc => exact canProg_of hp (.excMod hp) rfl rfl
  | wWait op l zL zR =>
    by_cases hall : zL = true ∧ zR = true
    · obtain ⟨rfl, rfl⟩ := hall
      exact canProg_of hp (.fBegin2 hp) rfl rfl
    · by_cases hfree : ∃ c, zOf c zL zR = false ∧ s.reg c = []
      · obtain ⟨c, hz, hr⟩ := hfree
        refine canProg_of hp (.cntZero (c := c) hp (by rw [hr]; rfl)) rfl ?_
        cases c <;> cases hz <;> exact decide_eq_false nofun
      · refine .inr (.inr (.inr (.inr ⟨op, l, zL, zR, hp, ?_, fun c hz hr => hfree ⟨c, hz, hr⟩⟩)))
        cases zL
        · exact ⟨.L, rfl⟩
        · cases zR
          · exact ⟨.R, rfl⟩
          · exact absurd ⟨rfl, rfl⟩ hall

end ConcVerif.LR
