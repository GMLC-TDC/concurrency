import ConcVerif.Proof.RcuHist
/-! Element values: a node's `val` is written once, by the constructor call of the `push` that allocated it, and the
node that a `push x` links carries the value `x`. -/
namespace ConcVerif.Rcu

variable {s s' : St} {t : Tid} {e : Ev}

/-- the only step that writes a `val` is the element constructor -/
theorem val_step (hs : Step s t e s') (n : Nat) :
    (s'.nodes n).val = (s.nodes n).val ∨ ∃ f em x, s.pc t = .pCons (.push f em x) n ∧ (s'.nodes n).val = x := by
  by_cases he : Edge s t e s'
  case neg => exact .inl ((hs.quiet he).val n)
  cases he
  case pCon f em x m hpc =>
    by_cases e : n = m
    · subst e; exact .inr ⟨f, em, x, hpc, congrArg Node.val (upd_same _ _ _)⟩
    · exact .inl (congrArg Node.val (upd_other _ _ _ _ e))
  case pF1 | pB2 | eUnlPrev => exact .inl (upd_proj Node.val _ _ _ (by exact rfl) n)
  case dFreN m nx hpc => cases nx <;> exact .inl rfl
  all_goals exact .inl rfl

/-- the node and the value of a `push` between the construction of its node and the linking store -/
def pushNode : Pc → Option (Int × Nat)
  | .pLoad (.push _ _ x) n | .pE1 (.push _ _ x) n | .pF1 (.push _ _ x) n _ | .pF2 (.push _ _ x) n _
  | .pF3 (.push _ _ x) n | .pB1 (.push _ _ x) n _ | .pB2 (.push _ _ x) n _ => some (x, n)
  | _ => none

theorem Op.eq_push {k : Op} (h : k.isPush = true) : ∃ f em x, k = .push f em x := by
  cases k <;> first | exact ⟨_, _, _, rfl⟩ | cases h

def InvV (s : St) : Prop := ∀ t x n, pushNode (s.pc t) = some (x, n) → (s.nodes n).val = x

theorem invV_init : InvV init := by
  intro t x n h; simp [init, pushNode] at h

theorem pushNode_holds {p : Pc} (h : pushNode p ≠ none) : holdsW p = true := by
  cases hp : pushNode p with
  | none => exact absurd hp h
  | some b => unfold pushNode at hp; split at hp <;> first | rfl | cases hp

/-- the node and the value of a `push` are handed from pc to pc; they enter with the constructor call -/
theorem pushNode_step (hs : Step s t e s') {x : Int} {n : Nat}
    (h : pushNode (s'.pc t) = some (x, n)) :
    pushNode (s.pc t) = some (x, n) ∨ ((∃ f em, s.pc t = .pCons (.push f em x) n) ∧ (s'.nodes n).val = x) := by
  cases hs
  case regPst | pPstDel | pPstData | ePst | dDesZNpld | dFreZNpld => exact .inl h
  case uNextNone | rFreZ | dFreZ | dFreN | dtorHead | dZhead =>
    simp only [St.reapAt, St.dNodeAt, St.dRecAt] at h; split at h <;> (rw [setPc_pc_self] at h; cases h)
  case pCon f em y m hpc =>
    rw [setPc_pc_self] at h; cases h
    exact .inr ⟨⟨f, em, hpc⟩, congrArg Node.val (upd_same _ _ _)⟩
  case pLoadFrontNone | pLoadFrontSome | pLoadBackNone | pLoadBackSome =>
    rw [setPc_pc_self] at h; rw [‹s.pc t = _›]; exact .inl h
  case pF1 k m h0 o hpc ho | pF2 k m h0 o hpc ho | pB1 k m h0 o hpc ho =>
    rw [setPc_pc_self] at h; rw [hpc]; cases k <;> exact .inl h
  all_goals (rw [setPc_pc_self] at h; cases h)

theorem invV_step (ha : InvA s) (h : InvV s) (hs : Step s t e s') : InvV s' := by
  intro u x n hu
  -- the constructor call of `t` does not touch a node that another `push` has constructed: one writer at a time
  have hval : pushNode (s.pc u) = some (x, n) → (s'.nodes n).val = x := by
    intro g
    rcases val_step hs n with v | ⟨f, em, y, v1, _⟩
    · rw [v]; exact h u x n g
    · have a := (ha.wm u).1 (pushNode_holds (by rw [g]; nofun))
      rw [(ha.wm t).1 (by rw [v1]; rfl)] at a; injection a with a; subst a
      rw [v1] at g; cases g
  by_cases hut : u = t
  · subst hut
    rcases pushNode_step hs hu with g | ⟨_, g⟩
    · exact hval g
    · exact g
  · rw [hs.pc_other hut] at hu; exact hval hu

theorem invV_reachable {s : St} (h : Reachable s) : InvV s := by
  obtain ⟨es, hes⟩ := h
  have := runFrom_inv (Inv := fun s => InvX s ∧ InvV s)
    (fun s t e s' hi hs => ⟨invX_step hi.1 hs, invV_step hi.1.i.a hi.2 (step_sound hs)⟩) ⟨invX_init, invV_init⟩ hes
  exact this.2

end ConcVerif.Rcu
