import ConcVerif.Proof.HBDeferred
import ConcVerif.Proof.HBLock
import ConcVerif.Proof.HBComplete
/-! Connection of the `deferred_guarded` model to the happens-before layer, part 2: the WRAPPED OBJECT.

`Proof/HBDeferred.lean` treats the queued closure (edge `unlock qm → lock qm`).  This file treats the
object itself (plain location 0 of `toHB`): it is written only by the modifying functions — run by the
caller of `modify_*` on the direct path or by whichever thread drains the queue — and read by them, by
`load()` and by the holders of a shared handle.  The simulation `hb_sim` shows, by induction over the
accepted trace, that the happens-before view of who holds the shared mutex `m` (mutex 0) and the queue
mutex `qm` (mutex 1) is exactly the model's `mx` / `sh` / `qm`, that the mapped trace is consistent with
(shared) mutex semantics for both, and that every write of the object is made holding `m` exclusively
and every read holding `m` in some mode.  The orders of the pending flag are an arbitrary parameter. -/
namespace ConcVerif.Deferred
open HB (lq_lt lq_mono lq_last)

variable {s s' : St} {t u : Tid} {p p' : Pc} {e : Ev} {spur : Bool} {es : List (Tid × Ev)} {o : FlagOrds} {tr : HB.Trace}

def Same3 (s s' : St) : Prop := s'.mx = s.mx ∧ s'.sh = s.sh ∧ s'.qm = s.qm

/-- a write of the object is made inside the caller's own function (direct path) or inside the function
of a queued task -/
theorem pwr_origin {v : Int} (hs : step s t (.pwr v) = some s') :
    (∃ k a, s.pc t = .aIn k a) ∨ (∃ c j, s.pc t = .dIn c j) := by
  generalize hp : s.pc t = p
  cases Step.of_step hp hs with
  | pwrI => exact .inr ⟨_, _, rfl⟩
  | pwrA => exact .inl ⟨_, _, rfl⟩

theorem pwr_pc {v : Int} (hs : step s t (.pwr v) = some s') : (s.pc t).holdsX = true := by
  rcases pwr_origin hs with ⟨_, _, h⟩ | ⟨_, _, h⟩ <;> rw [h] <;> rfl

theorem prd_pc {v : Int} (hs : step s t (.prd v) = some s') :
    (s.pc t).holdsX = true ∨ (s.pc t).holdsS = true := by
  generalize hp : s.pc t = p
  cases Step.of_step hp hs with
  | prdH | prdL => exact .inr rfl
  | prdI | prdA => exact .inl rfl

/-- mutex 0 = `m` (exclusive holder `mx`, shared holders `sh`), mutex 1 = `qm`; nothing else exists -/
def holdOf (mx : Option Tid) (sh : List Tid) (qm : Option Tid) (u : Tid) : HB.Loc → Option HB.Mode
  | 0 => if mx = some u then some .X else if u ∈ sh then some .S else none
  | 1 => if qm = some u then some .X else none
  | _ => none

def St.hold (s : St) (u : Tid) (m : HB.Loc) : Option HB.Mode := holdOf s.mx s.sh s.qm u m

theorem hold_same3 (h : Same3 s s') (u : Tid) (m : HB.Loc) : s'.hold u m = s.hold u m := by
  obtain ⟨a, b, c⟩ := h
  simp only [St.hold, a, b, c]

theorem hold_m {v : Option HB.Mode} (hq : s'.qm = s.qm) (h0 : ∀ u, s'.hold u 0 = if u = t then v else s.hold u 0)
    (u : Tid) (l : HB.Loc) : s'.hold u l = if u = t ∧ l = 0 then v else s.hold u l := by
  rcases l with _ | _ | n
  · simpa using h0 u
  · simp [St.hold, holdOf, hq]
  · simp [St.hold, holdOf]

theorem hold_qm {v : Option HB.Mode} (hm : s'.mx = s.mx) (hsh : s'.sh = s.sh)
    (h1 : ∀ u, s'.hold u 1 = if u = t then v else s.hold u 1) (u : Tid) (l : HB.Loc) :
    s'.hold u l = if u = t ∧ l = 1 then v else s.hold u l := by
  rcases l with _ | _ | n
  · simp [St.hold, holdOf, hm, hsh]
  · simpa using h1 u
  · simp [St.hold, holdOf]

/-- after the accepted trace: the happens-before view of every thread's hold on every mutex is the
model's, the mapped trace respects (shared) mutex semantics, and every access of the object (plain
location 0) is made under `m` (mutex 0) — writes exclusively -/
structure Sim (tr : HB.Trace) (s : St) : Prop where
  H : ∀ u m, HB.held tr u m = s.hold u m
  M : HB.MutexOK tr
  L : HB.LockSet tr 0 0

theorem sim_init (spur : Bool) : Sim [] (init spur) := by
  refine ⟨?_, HB.mutexOK_nil, HB.lockSet_nil 0 0⟩
  intro u m
  rcases m with _ | _ | n <;> simp [HB.held, St.hold, holdOf, init]

theorem sim_plain {he : HB.Ev} (h : Sim tr s) (h3 : Same3 s s')
    (hna : ∀ m md, he ≠ .acq m md) (hnr : ∀ m md, he ≠ .rel m md)
    (hrd : he = .rd 0 → s.hold t 0 ≠ none) (hwr : he = .wr 0 → s.hold t 0 = some .X) :
    Sim (tr ++ [(t, he)]) s' := by
  refine ⟨?_, ?_, ?_⟩
  · intro u m
    rw [HB.held_snoc, hold_same3 h3, ← h.H]
    cases he with
    | acq m' md => exact absurd rfl (hna m' md)
    | rel m' md => exact absurd rfl (hnr m' md)
    | _ => rfl
  · exact HB.mutexOK_snoc h.M (fun m md e => absurd e (hna m md)) (fun m md e => absurd e (hnr m md))
  · exact HB.lockSet_snoc h.L (fun e => by rw [h.H]; exact hrd e) (fun e => by rw [h.H]; exact hwr e)

theorem sim_quiet {he : HB.Ev} (h : Sim tr s) (h3 : Same3 s s')
    (hq : he = .nop ∨ (∃ a o, he = .ld a o) ∨ ∃ a o, he = .st a o) : Sim (tr ++ [(t, he)]) s' := by
  rcases hq with rfl | ⟨a, o, rfl⟩ | ⟨a, o, rfl⟩ <;> exact sim_plain h h3 nofun nofun nofun nofun

theorem sim_acq {m : HB.Loc} {md : HB.Mode} (h : Sim tr s)
    (hfree : s.hold t m = none) (hcompat : ∀ u, u ≠ t → HB.compat (s.hold u m) md = true)
    (hnew : ∀ u l, s'.hold u l = if u = t ∧ l = m then some md else s.hold u l) :
    Sim (tr ++ [(t, .acq m md)]) s' := by
  refine ⟨?_, ?_, ?_⟩
  · intro u l
    rw [HB.held_snoc, hnew, ← h.H]; rfl
  · apply HB.mutexOK_snoc h.M
    · intro m' md' e
      injection e with e1 e2; subst e1; subst e2
      exact ⟨by rw [h.H]; exact hfree, fun u hu => by rw [h.H]; exact hcompat u hu⟩
    · intro m' md' e; cases e
  · exact HB.lockSet_snoc h.L (fun e => by cases e) (fun e => by cases e)

theorem sim_rel {m : HB.Loc} {md : HB.Mode} (h : Sim tr s)
    (hheld : s.hold t m = some md)
    (hnew : ∀ u l, s'.hold u l = if u = t ∧ l = m then none else s.hold u l) :
    Sim (tr ++ [(t, .rel m md)]) s' := by
  refine ⟨?_, ?_, ?_⟩
  · intro u l
    rw [HB.held_snoc, hnew, ← h.H]; rfl
  · apply HB.mutexOK_snoc h.M
    · intro m' md' e; cases e
    · intro m' md' e
      injection e with e1 e2; subst e1; subst e2
      rw [h.H]; exact hheld
  · exact HB.lockSet_snoc h.L (fun e => by cases e) (fun e => by cases e)

theorem hold_of_X (hL : InvL s) (hx : (s.pc t).holdsX = true) : s.hold t 0 = some .X := by
  have := (hL.mxP t).2 hx
  simp [St.hold, holdOf, this]

theorem hold_of_S (hL : InvL s) (hx : (s.pc t).holdsS = true) : s.hold t 0 = some .S := by
  have hin := (hL.shP t).2 hx
  have hm : s.mx = none := by
    cases hmx : s.mx with
    | none => rfl
    | some w =>
      have := hL.xs (by rw [hmx]; intro h; cases h)
      rw [this] at hin; cases hin
  simp [St.hold, holdOf, hm, hin]

/-! The six kinds of lock event, about variables: what the step knows before (`hm`, `hq`, …) and what it does to the
three lock fields. -/

theorem sim_lockX (h : Sim tr s) (hm : s.mx = none) (hsh : s.sh = [])
    (hm' : s'.mx = some t) (hsh' : s'.sh = s.sh) (hq' : s'.qm = s.qm) : Sim (tr ++ [(t, .acq 0 .X)]) s' := by
  refine sim_acq h ?_ ?_ ?_
  · simp [St.hold, holdOf, hm, hsh]
  · intro u _; simp [St.hold, holdOf, hm, hsh, HB.compat]
  · refine hold_m hq' fun u => ?_
    by_cases hu : u = t
    · simp [St.hold, holdOf, hm', hu]
    · simp [St.hold, holdOf, hm', hsh', hm, hsh, hu, Ne.symm hu]

theorem sim_unlockX (hL : InvL s) (h : Sim tr s) (hm : s.mx = some t)
    (hm' : s'.mx = none) (hsh' : s'.sh = s.sh) (hq' : s'.qm = s.qm) : Sim (tr ++ [(t, .rel 0 .X)]) s' := by
  refine sim_rel h ?_ ?_
  · simp [St.hold, holdOf, hm]
  · refine hold_m hq' fun u => ?_
    by_cases hu : u = t
    · simp [St.hold, holdOf, hm', hsh', hL.xs (by rw [hm]; exact nofun), hu]
    · simp [St.hold, holdOf, hm', hsh', hm, hL.xs (by rw [hm]; exact nofun), hu, Ne.symm hu]

theorem sim_lockS (hL : InvL s) (h : Sim tr s) (hm : s.mx = none)
    (hns : (s.pc t).holdsS = false) (hm' : s'.mx = s.mx) (hsh' : s'.sh = t :: s.sh) (hq' : s'.qm = s.qm) :
    Sim (tr ++ [(t, .acq 0 .S)]) s' := by
  have hnin : t ∉ s.sh := fun hin => by have := (hL.shP t).1 hin; rw [hns] at this; cases this
  refine sim_acq h ?_ ?_ ?_
  · simp [St.hold, holdOf, hm, hnin]
  · intro u _
    by_cases hu : u ∈ s.sh <;> simp [St.hold, holdOf, hm, hu, HB.compat]
  · refine hold_m hq' fun u => ?_
    by_cases hu : u = t <;> simp [St.hold, holdOf, hm', hsh', hm, hnin, hu]

theorem sim_unlockS (hL : InvL s) (h : Sim tr s) (hin : t ∈ s.sh)
    (hm' : s'.mx = s.mx) (hsh' : s'.sh = s.sh.erase t) (hq' : s'.qm = s.qm) : Sim (tr ++ [(t, .rel 0 .S)]) s' := by
  have hm : s.mx = none := Classical.byContradiction fun hm => List.ne_nil_of_mem hin (hL.xs hm)
  refine sim_rel h ?_ ?_
  · simp [St.hold, holdOf, hm, hin]
  · refine hold_m hq' fun u => ?_
    by_cases hu : u = t <;> simp [St.hold, holdOf, hm', hsh', hm, hL.shN.mem_erase_iff, hu]

theorem sim_lockQ (h : Sim tr s) (hq : s.qm = none)
    (hm' : s'.mx = s.mx) (hsh' : s'.sh = s.sh) (hq' : s'.qm = some t) : Sim (tr ++ [(t, .acq 1 .X)]) s' := by
  refine sim_acq h ?_ ?_ ?_
  · simp [St.hold, holdOf, hq]
  · intro u _; simp [St.hold, holdOf, hq, HB.compat]
  · refine hold_qm hm' hsh' fun u => ?_
    by_cases hu : u = t
    · simp [St.hold, holdOf, hq', hu]
    · simp [St.hold, holdOf, hq', hq, hu, Ne.symm hu]

theorem sim_unlockQ (h : Sim tr s) (hq : s.qm = some t)
    (hm' : s'.mx = s.mx) (hsh' : s'.sh = s.sh) (hq' : s'.qm = none) : Sim (tr ++ [(t, .rel 1 .X)]) s' := by
  refine sim_rel h ?_ ?_
  · simp [St.hold, holdOf, hq]
  · refine hold_qm hm' hsh' fun u => ?_
    by_cases hu : u = t
    · simp [St.hold, holdOf, hq', hu]
    · simp [St.hold, holdOf, hq', hq, hu, Ne.symm hu]

theorem sim_step (hL : InvL s) (h : Sim tr s)
    (hs : step s t e = some s') : Sim (tr ++ [(t, toHB o e)]) s' := by
  generalize hp : s.pc t = p
  cases Step.of_step hp hs with
  | mtlM hm hsh | mtlS hm hsh => exact sim_lockX h hm hsh rfl rfl rfl
  | mulS _ hm | mulM hm => exact sim_unlockX hL h hm rfl rfl rfl
  | slkL hm | slk hm | stl hm | stf _ hm => exact sim_lockS hL h hm (by rw [hp]; rfl) rfl rfl rfl
  | sulH hin | sulL hin => exact sim_unlockS hL h hin rfl rfl rfl
  | qlkM hq | qlkD hq => exact sim_lockQ h hq rfl rfl rfl
  | qulM hq | qulD hq => exact sim_unlockQ h hq rfl rfl rfl
  | prdH | prdL =>
    exact sim_plain h ⟨rfl, rfl, rfl⟩ nofun nofun (fun _ => by rw [hold_of_S hL (by rw [hp]; rfl)]; exact nofun) nofun
  | prdI | prdA =>
    exact sim_plain h ⟨rfl, rfl, rfl⟩ nofun nofun (fun _ => by rw [hold_of_X hL (by rw [hp]; rfl)]; exact nofun) nofun
  | pwrI | pwrA => exact sim_plain h ⟨rfl, rfl, rfl⟩ nofun nofun nofun (fun _ => hold_of_X hL (by rw [hp]; rfl))
  | fldS | fldSF | fldD | fldDF => exact sim_quiet h ⟨rfl, rfl, rfl⟩ (.inr (.inl ⟨_, _, rfl⟩))
  | fstM | fstD => exact sim_quiet h ⟨rfl, rfl, rfl⟩ (.inr (.inr ⟨_, _, rfl⟩))
  | _ => exact sim_quiet h ⟨rfl, rfl, rfl⟩ (.inl rfl)

/-- **the simulation**: after every accepted trace (any `spur`, any flag orders) the happens-before view
of the two mutexes is the model's, the mapped trace respects mutex semantics, and the object is
accessed under `m` only (writes exclusively) -/
theorem hb_sim (o : FlagOrds) {es : List (Tid × Ev)} {s : St} (h : run spur es = some s) :
    Sim (hbTrace o es) s :=
  runFrom_trace_inv (s0 := init spur) (P := fun es s => Sim (hbTrace o es) s) (sim_init spur)
    (fun es _ _ _ _ hr ih hs => by rw [hbTrace_snoc]; exact sim_step (inv_reachable ⟨es, hr⟩).L ih hs) h

theorem hbTrace_get_inv {i : Nat} {he : HB.Ev}
    (h : (hbTrace o es)[i]? = some (t, he)) : ∃ e, es[i]? = some (t, e) ∧ toHB o e = he :=
  HB.map_get_inv h

theorem toHB_plain {x : HB.Loc} :
    (toHB o e = .rd x → x = 0 ∧ ∃ v, e = .prd v) ∧ (toHB o e = .wr x → x = 0 ∧ ∃ v, e = .pwr v) := by
  cases e with
  | mtl ok | stl ok | stf ok => cases ok <;> exact ⟨nofun, nofun⟩
  | prd v => exact ⟨fun h => by cases h; exact ⟨rfl, v, rfl⟩, nofun⟩
  | pwr v => exact ⟨nofun, fun h => by cases h; exact ⟨rfl, v, rfl⟩⟩
  | _ => exact ⟨nofun, nofun⟩

theorem hbTrace_access {i : Nat} {ei : HB.Ev} {x : HB.Loc}
    (h : (hbTrace o es)[i]? = some (t, ei)) (ha : ei.accesses x) : x = 0 := by
  obtain ⟨e, _, rfl⟩ := hbTrace_get_inv h
  rcases ha with ha | ha
  · exact (toHB_plain.1 ha).1
  · exact (toHB_plain.2 ha).1

theorem hbTrace_wr {o : FlagOrds} {es : List (Tid × Ev)} {i : Nat} {t : Tid} {x : HB.Loc}
    (h : (hbTrace o es)[i]? = some (t, .wr x)) : ∃ v, es[i]? = some (t, .pwr v) := by
  obtain ⟨e, he, h⟩ := hbTrace_get_inv h
  obtain ⟨_, v, rfl⟩ := toHB_plain.2 h
  exact ⟨v, he⟩

theorem hbTrace_rd {o : FlagOrds} {es : List (Tid × Ev)} {i : Nat} {t : Tid} {x : HB.Loc}
    (h : (hbTrace o es)[i]? = some (t, .rd x)) : ∃ v, es[i]? = some (t, .prd v) := by
  obtain ⟨e, he, h⟩ := hbTrace_get_inv h
  obtain ⟨_, v, rfl⟩ := toHB_plain.1 h
  exact ⟨v, he⟩

theorem obj_access_state (h : run spur es = some s) {n : Nat} {t : Tid}
    {e : Ev} (hn : es[n]? = some (t, e)) :
    ∃ s1, run spur (es.take n) = some s1 ∧ (∀ v, e = .pwr v → s1.mx = some t ∧ s1.sh = []) ∧
      (∀ v, e = .prd v → s1.mx = some t ∨ (s1.mx = none ∧ t ∈ s1.sh)) := by
  obtain ⟨s1, s2, h1, h2⟩ := runFrom_at h hn
  have hL : InvL s1 := (inv_reachable ⟨es.take n, h1⟩).L
  refine ⟨s1, h1, ?_, ?_⟩
  · intro v he; subst he
    have hm := (hL.mxP t).2 (pwr_pc h2)
    exact ⟨hm, hL.xs (by rw [hm]; intro h; cases h)⟩
  · intro v he; subst he
    rcases prd_pc h2 with hx | hx
    · exact .inl ((hL.mxP t).2 hx)
    · have hin := (hL.shP t).2 hx
      refine .inr ⟨?_, hin⟩
      cases hmx : s1.mx with
      | none => rfl
      | some w =>
        have := hL.xs (by rw [hmx]; intro h; cases h)
        rw [this] at hin; cases hin
/-- only `ucb` of the head of the batch brings a thread into the function of a queued task -/
theorem Step.into_dIn {c : Ctx} {j : TaskId} (h : Step s t p e s')
    (hp : s.pc t = p) (hpc : s'.pc t = .dIn c j) : p = .dIn c j ∨ ∃ rest, e = .ucb j ∧ s.batch = j :: rest := by
  cases h with
  | ucbD hb => rw [setPc_pc, upd_same] at hpc; cases hpc; exact .inr ⟨_, rfl, hb⟩
  | prdH | fpoll | fget | prdI | pwrI | prdA | pwrA | prdL => exact .inl (hp.symm.trans hpc)
  | _ => rw [setPc_pc, upd_same] at hpc; cases hpc

/-- every thread inside the function of a QUEUED task entered it at some `q` (its `ucb`), and the end of
the push of that task happens-before `q` -/
def InTask (spur : Bool) (o : FlagOrds) (es : List (Tid × Ev)) (pc : Tid → Pc) : Prop :=
  ∀ u c j, pc u = .dIn c j →
    ∃ q p, es[q]? = some (u, Ev.ucb j) ∧ Pushed spur es p j ∧ HB.HB (hbTrace o es) p q

theorem inTask_old {pc : Tid → Pc} (x : Tid × Ev)
    (h : InTask spur o es pc) {u : Tid} {c : Ctx} {j : TaskId} (hp : pc u = .dIn c j) :
    ∃ q p, (es ++ [x])[q]? = some (u, Ev.ucb j) ∧ Pushed spur (es ++ [x]) p j ∧ HB.HB (hbTrace o (es ++ [x])) p q := by
  obtain ⟨q, p, h1, h2, h3⟩ := h u c j hp
  exact ⟨q, p, lq_mono _ h1, h2.mono _, by rw [hbTrace_append]; exact h3.mono _⟩

theorem inTask_step
    (hr : run spur es = some s) (h : InTask spur o es s.pc) (hs : step s t e = some s') :
    InTask spur o (es ++ [(t, e)]) s'.pc := by
  intro u c j hp
  by_cases hu : u = t
  · subst hu
    rcases (Step.of_step rfl hs).into_dIn rfl hp with hold | ⟨rest, rfl, hb⟩
    · exact inTask_old _ h hold
    · rcases closure_hb o hr hs with ⟨hb', _⟩ | ⟨p, h1, h2⟩
      · rw [hb'] at hb; cases hb
      · exact ⟨es.length, p, lq_last _ _, h1.mono _, h2⟩
  · rw [(Kind.of_step hs).pc_other hu] at hp
    exact inTask_old _ h hp

theorem inTask_run (o : FlagOrds) {es : List (Tid × Ev)} {s : St} (h : run spur es = some s) :
    InTask spur o es s.pc :=
  runFrom_trace_inv (s0 := init spur) (P := fun es s => InTask spur o es s.pc) nofun (fun _ _ _ _ _ hr ih hs => inTask_step hr ih hs) h

end ConcVerif.Deferred
