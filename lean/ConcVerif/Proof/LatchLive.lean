import ConcVerif.Proof.Latch
import ConcVerif.Base.Live
/-! Liveness of `Latch`: the ranking function once it is open (`counter ≤ 0`), instance of `Base/Live.lean`, and
which step a thread inside a call can take (`enabled_of_free`). -/
namespace ConcVerif.Latch

variable {start : Int} {s s' : St} {t : Tid} {e : Ev}

/-- remaining own steps of a thread, valid once the latch is open.  After its `mul`, `arrive` has 1 step left (`ret`, so
the rank before the `mul` is 2), `arrive_and_wait` goes on to `wCalled` (rank 6, so 7); `aCalled` is 4 steps before the
`mul`, whence the bound 11 = 7 + 4 of `Pc.rank_le`. -/
def unlockRank : Kind → Nat
  | .aaw => 7
  | _ => 2

def Pc.rank : Pc → Nat
  | .idle => 0
  | .aRet => 1
  | .aUnlock k => unlockRank k
  | .aNotify k => unlockRank k + 1
  | .aDec k => unlockRank k + 2
  | .aLocked k => unlockRank k + 3
  | .aCalled k => unlockRank k + 4
  | .wCalled _ => 6
  | .wLock _ => 5
  | .wWait _ => 6
  | .wSleep _ => 5
  | .wLocked _ => 3
  | .wUnlock _ => 2
  | .wRet _ => 1

def isCall : Ev → Bool
  | .call _ => true
  | _ => false

def μ (s : St) (t : Tid) : Nat := (s.pc t).rank

theorem Pc.rank_le (p : Pc) : p.rank ≤ 11 := by
  cases p <;> (try (rename_i k; cases k)) <;> decide

/-- every step other than a call lowers the rank of its thread, except the loop-condition load of `wait`
that finds the latch still closed and sends the thread into `cv.wait` -/
theorem Step.rank_dec (h : Step s t e s') (hc : isCall e = false) :
    (s'.pc t).rank < (s.pc t).rank ∨ 0 < s.counter := by
  cases h with
  | callA | callW => cases hc
  | loopShut _ hpos => exact .inr hpos
  | @aUnlock k hp _ hk => cases k <;> simp [hp, Pc.rank, unlockRank] at hk ⊢
  | _ => simp [*, Pc.rank, unlockRank]

/-- once the latch is open it stays open, and no invariant is needed for the rank to go down -/
theorem ranked : Live.Ranked step (fun s => s.counter ≤ 0) isCall μ 11 where
  good := fun _ _ _ _ ho hs => Int.le_trans (Step.of_step hs).counter_le ho
  dec := fun _ _ _ _ ho hs hc => ((Step.of_step hs).rank_dec hc).resolve_right (Int.not_lt.2 ho)
  call := fun _ _ _ _ _ _ _ => Nat.le_trans (Pc.rank_le _) (Nat.le_add_left _ _)
  frame := fun _ _ _ _ _ _ hs hu => Nat.le_of_eq (congrArg Pc.rank ((Step.of_step hs).pc_other hu))

theorem call_only_idle (hc : isCall e = true) (h : (step s t e).isSome = true) :
    s.pc t = .idle := by
  obtain ⟨s', hs⟩ := Option.isSome_iff_exists.1 h
  cases Step.of_step hs with
  | callA hp _ | callW hp => exact hp
  | _ => cases hc

/-- a thread inside a call and outside the wait set has an enabled step other than a call as soon as the mutex is
free or its own: which event is decided by its pc alone -/
theorem enabled_of_free (h : Reachable start s) (hni : s.pc t ≠ .idle) (hw : t ∉ s.waiters)
    (hm : s.mtx = none ∨ s.mtx = some t) : ∃ e, isCall e = false ∧ (step s t e).isSome = true := by
  have hi := inv_reachable h
  have free : ∀ {p : Pc}, s.pc t = p → p.holds = false → s.mtx = none :=
    fun hp hh => hm.resolve_right ((hi.at hp).free hh)
  have own : ∀ {p : Pc}, s.pc t = p → p.holds = true → s.mtx = some t := fun hp => (hi.at hp).holder.1
  cases hp : s.pc t
  case idle => exact absurd hp hni
  case aCalled | wLock => exact ⟨.mlk, rfl, by simp [step, hp, free hp rfl]⟩
  case aLocked => exact ⟨.dec s.counter, rfl, by simp [step, hp]⟩
  case aDec | wCalled | wLocked => exact ⟨.ld s.counter, rfl, by simp [step, hp]⟩
  case aNotify => exact ⟨.cna, rfl, by simp [step, hp]⟩
  case aUnlock | wUnlock => exact ⟨.mul, rfl, by simp [step, hp, own hp rfl]⟩
  case aRet => exact ⟨.ret .arrive, rfl, by simp [step, hp]⟩
  case wWait => exact ⟨.cwt, rfl, by simp [step, hp, own hp rfl]⟩
  case wSleep => exact ⟨.cwk .notified, rfl, by simp [step, hp, free hp rfl, hw]⟩
  case wRet k => exact ⟨.ret k.toKind, rfl, by simp [step, hp]⟩

end ConcVerif.Latch
