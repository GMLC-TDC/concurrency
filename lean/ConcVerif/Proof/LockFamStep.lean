import ConcVerif.Model.LockFam
/-! The transitions of `Model/LockFam.lean` as an inductive relation: `Step s t p e s'` says that thread `t`,
at pc `p` in state `s`, may make event `e` and leaves state `s'`; one constructor per accepted edge
(`Step.of_step`, `Step.to_step`: it is exactly the graph of the executable `step`).  The pc is an index, so
that inverting a step at a known pc or a known event leaves only the edges that match.  The second half says
what one step does to everything but the stepping thread's own `loc`: the mutex part (`Mutex`) and the
frame (`Frame`).  Every per-step fact of the proofs is a case analysis on `Step` or on `Mutex`. -/
namespace ConcVerif.LockFam

inductive Step (s : St) (t : Tid) : Pc → Ev → St → Prop
  -- handle sessions
  | callSess : Step s t .idle .callSess (s.setPc t .sessCalled)
  | acq {sd how} : Step s t .sessCalled (.acq sd how) (s.setPc t (.acq sd how))
  | lkOk {sd how sd' s1} (he : s.enabled = true) (hsd : sd' = effSide s.capable sd) (ha : s.acquire t sd' = some s1) :
      Step s t (.acq sd how) (.lk sd' how true) (s1.setPc t (.acqd true sd'.mode))
  | lkFail {sd how sd'} (he : s.enabled = true) (hsd : sd' = effSide s.capable sd) (hb : how ≠ .block) :
      Step s t (.acq sd how) (.lk sd' how false) (s.setPc t (.acqd false .none))
  | gotOff {sd how} (he : s.enabled = false) (hl : (s.loc t).ha.live = false) :
      Step s t (.acq sd how) (.got .a true)
        (s.setLoc t { s.loc t with pc := .sess, ha := { live := true, owns := .none, nonnull := true } })
  | got {ok m} (hl : (s.loc t).ha.live = false) :
      Step s t (.acqd ok m) (.got .a ok)
        (s.setLoc t { s.loc t with pc := .sess, ha := { live := true, owns := m, nonnull := ok } })
  | sessRd {v} (hv : s.enabled = true → s.held t ≠ .none ∧ v = s.val) : Step s t .sess (.rd v) s
  | sessWr {v} (he : s.enabled = true) (hx : s.held t = .X) :
      Step s t .sess (.wr v)
        { s with val := v, committed := v, hist := s.hist ++ [({ t := t, op := .st v, res := .unit } : HEntry)] }
  | sessWrOff {v} (he : s.enabled = false) : Step s t .sess (.wr v) { s with val := v }
  | hbDestroy {i} (hl : ((s.loc t).get i).live = true) :
      Step s t .sess (.hbegin (.destroy i)) (s.setPc t (.hop (.destroy i) (decide (((s.loc t).get i).owns ≠ .none))))
  | hbUnlock {i} (hl : ((s.loc t).get i).live = true) :
      Step s t .sess (.hbegin (.unlock i)) (s.setPc t (.hop (.unlock i) (decide (((s.loc t).get i).owns ≠ .none))))
  | hbMovec {src dst} (hl : ((s.loc t).get src).live = true) (hd : ((s.loc t).get dst).live = false) (hne : src ≠ dst) :
      Step s t .sess (.hbegin (.movec src dst)) (s.setPc t (.hop (.movec src dst) false))
  | hbMovea {src dst} (hl : ((s.loc t).get src).live = true) (hd : ((s.loc t).get dst).live = true) (hne : src ≠ dst) :
      Step s t .sess (.hbegin (.movea src dst))
        (s.setPc t (.hop (.movea src dst) (decide (((s.loc t).get dst).owns ≠ .none))))
  | rel {k sd s1} (hm : modeSide ((s.loc t).get k.relSlot).owns = some sd) (hr : s.release t sd = some s1) :
      Step s t (.hop k true) (.rel sd)
        (s1.setLoc t ({ s.loc t with pc := .hop k false }.set k.relSlot { (s.loc t).get k.relSlot with owns := .none }))
  | heDestroy {i} : Step s t (.hop (.destroy i) false) (.hend none) (s.setLoc t ({ s.loc t with pc := .sess }.set i {}))
  | heUnlock {i} :
      Step s t (.hop (.unlock i) false) (.hend (some false))
        (s.setLoc t ({ s.loc t with pc := .sess }.set i { (s.loc t).get i with owns := .none, nonnull := false }))
  | heMove {k src dst} (hk : k = .movec src dst ∨ k = .movea src dst) :
      Step s t (.hop k false) (.hend none)
        (s.setLoc t ((({ s.loc t with pc := .sess } : Loc).set dst ((s.loc t).get src)).set src
          { (s.loc t).get src with owns := .none, husk := true }))
  | retSess (ha : (s.loc t).ha.live = false) (hb : (s.loc t).hb.live = false) : Step s t .sess .retSess (s.setPc t .idle)
  -- whole-object operations
  | callW {w} : Step s t .idle (.callW w) (s.setPc t (.wCalled w))
  | wLk {w sd s1} (ha : s.acquire t sd = some s1) :
      Step s t (.wCalled w) (.lk sd .block true) (s1.setPc t (.whole w sd.mode none none false))
  | wRd {w m seen thrown v} (hv : s.enabled = true → v = s.val) :
      Step s t (.whole w m seen none thrown) (.rd v) (s.setPc t (.whole w m (some v) none thrown))
  | wWr {w seen thrown v} :
      Step s t (.whole w .X seen none thrown) (.wr v) ({ s with val := v }.setPc t (.whole w .X seen (some v) thrown))
  | wUth {w m seen wrote thrown} : Step s t (.whole w m seen wrote thrown) .uth (s.setPc t (.whole w m seen wrote true))
  | wRelExc {w m seen sd s1} (hm : modeSide m = some sd) (hr : s.release t sd = some s1) :
      Step s t (.whole w m seen none true) (.rel sd) (s1.setPc t .wExc)
  | wRel {w m seen wrote sd r s1} (hm : modeSide m = some sd) (he : s.enabled = true)
      (hres : wResult w seen wrote = some r) (hr : s.release t sd = some s1) :
      Step s t (.whole w m seen wrote false) (.rel sd)
        ({ s1 with committed := s1.val, hist := s1.hist ++ [({ t := t, op := w, res := r } : HEntry)] }.setPc t (.wDone r))
  | wRelOff {w m seen wrote sd s1} (hm : modeSide m = some sd) (he : s.enabled = false) (hr : s.release t sd = some s1) :
      Step s t (.whole w m seen wrote false) (.rel sd) (s1.setPc t (.wDone .unit))
  | retW {r r'} (hr : s.enabled = false ∨ r' = r) : Step s t (.wDone r) (.retW r') (s.setPc t .idle)
  | exc : Step s t .wExc .exc (s.setPc t .idle)
  | final {v} (hv : s.enabled = true → v = s.val) : Step s t .idle (.final v) s
  | wCalledUth {w} : Step s t (.wCalled w) .uth (s.setPc t .wExc)

/-- the fields a mutex operation leaves alone -/
structure Untouched (s s1 : St) : Prop where
  loc : s1.loc = s.loc
  enabled : s1.enabled = s.enabled
  capable : s1.capable = s.capable
  val : s1.val = s.val
  committed : s1.committed = s.committed
  hist : s1.hist = s.hist

/-- the events that operate on the mutex: successful lock events and releases -/
def Ev.onMutex : Ev → Bool
  | .lk _ _ true | .rel _ => true
  | _ => false

/-- the mutex part of a step: a successful lock event is an `acquire`, a release event a `release`,
and no other event touches the mutex or its ghosts -/
inductive Mutex (s : St) (t : Tid) : Ev → St → Prop
  | acquire {sd how s1} (h : s.acquire t sd = some s1) : Mutex s t (.lk sd how true) s1
  | release {sd s1} (h : s.release t sd = some s1) : Mutex s t (.rel sd) s1
  | none {e} (h : e.onMutex = false) : Mutex s t e s

/-- `s'` is `s1` up to thread `t`'s `loc` and the data fields; the value moves only at a write, the
history only grows -/
structure Frame (s1 : St) (t : Tid) (e : Ev) (s' : St) : Prop where
  loc : ∀ u, u ≠ t → s'.loc u = s1.loc u
  excl : s'.excl = s1.excl
  shared : s'.shared = s1.shared
  held : s'.held = s1.held
  acqs : s'.acqs = s1.acqs
  rels : s'.rels = s1.rels
  enabled : s'.enabled = s1.enabled
  capable : s'.capable = s1.capable
  val : (∃ v, e = .wr v) ∨ s'.val = s1.val
  hist : ∃ l, s'.hist = s1.hist ++ l

section
variable {s s1 s' : St} {t : Tid} {p : Pc} {e : Ev} {sd : Side}

theorem Step.of_step (hs : step s t e = some s') : Step s t (s.loc t).pc e s' := by
  unfold step at hs
  simp only at hs
  split at hs
  · rename_i hp; cases hs; rw [hp]; exact .callSess
  · rename_i hp; cases hs; rw [hp]; exact .acq
  · rename_i hp
    split at hs
    · rename_i hc
      obtain ⟨he, rfl, hsd⟩ := hc
      split at hs
      · rename_i hok; subst hok
        obtain ⟨s1, ha, rfl⟩ := Option.map_eq_some_iff.1 hs
        rw [hp]; exact .lkOk he hsd ha
      · rename_i hok
        split at hs
        · cases hs
        · rename_i hb; cases hs
          rw [Bool.not_eq_true] at hok; subst hok
          rw [hp]; exact .lkFail he hsd hb
    · cases hs
  · rename_i hp
    obtain ⟨⟨he, rfl, rfl, hl⟩, ⟨⟩⟩ := Option.ite_none_right_eq_some.1 hs
    rw [hp]; exact .gotOff he hl
  · rename_i hp
    obtain ⟨⟨rfl, rfl, hl⟩, ⟨⟩⟩ := Option.ite_none_right_eq_some.1 hs
    rw [hp]; exact .got hl
  · rename_i hp
    split at hs
    · rename_i he
      obtain ⟨hc, ⟨⟩⟩ := Option.ite_none_right_eq_some.1 hs
      rw [hp]; exact .sessRd (fun _ => hc)
    · rename_i he; cases hs; rw [hp]; exact .sessRd (fun h => absurd h he)
  · rename_i hp
    split at hs
    · rename_i he
      obtain ⟨hx, ⟨⟩⟩ := Option.ite_none_right_eq_some.1 hs
      rw [hp]; exact .sessWr he hx
    · rename_i he; cases hs; rw [hp]; exact .sessWrOff (by simpa using he)
  · rename_i hp
    split at hs
    · obtain ⟨hl, ⟨⟩⟩ := Option.ite_none_right_eq_some.1 hs
      rw [hp]; exact .hbDestroy hl
    · obtain ⟨hl, ⟨⟩⟩ := Option.ite_none_right_eq_some.1 hs
      rw [hp]; exact .hbUnlock hl
    · obtain ⟨hc, ⟨⟩⟩ := Option.ite_none_right_eq_some.1 hs
      rw [hp]; exact .hbMovec hc.1 (by simpa using hc.2.1) hc.2.2
    · obtain ⟨hc, ⟨⟩⟩ := Option.ite_none_right_eq_some.1 hs
      rw [hp]; exact .hbMovea hc.1 hc.2.1 hc.2.2
  · rename_i hp
    split at hs
    · rename_i hm
      obtain ⟨s1, hr, rfl⟩ := Option.map_eq_some_iff.1 hs
      rw [hp]; exact .rel hm hr
    · cases hs
  · rename_i hp
    split at hs
    · obtain ⟨rfl, ⟨⟩⟩ := Option.ite_none_right_eq_some.1 hs
      rw [hp]; exact .heDestroy
    · obtain ⟨rfl, ⟨⟩⟩ := Option.ite_none_right_eq_some.1 hs
      rw [hp]; exact .heUnlock
    · obtain ⟨rfl, ⟨⟩⟩ := Option.ite_none_right_eq_some.1 hs
      rw [hp]; exact .heMove (.inl rfl)
    · obtain ⟨rfl, ⟨⟩⟩ := Option.ite_none_right_eq_some.1 hs
      rw [hp]; exact .heMove (.inr rfl)
  · rename_i hp
    obtain ⟨hc, ⟨⟩⟩ := Option.ite_none_right_eq_some.1 hs
    rw [hp]; exact .retSess hc.1 hc.2
  · rename_i hp; cases hs; rw [hp]; exact .callW
  · rename_i hp
    split at hs
    · rename_i hc; obtain ⟨rfl, rfl⟩ := hc
      obtain ⟨s1, ha, rfl⟩ := Option.map_eq_some_iff.1 hs
      rw [hp]; exact .wLk ha
    · cases hs
  · rename_i hp
    obtain ⟨⟨rfl, hv⟩, ⟨⟩⟩ := Option.ite_none_right_eq_some.1 hs
    rw [hp]; exact .wRd hv
  · rename_i hp
    obtain ⟨⟨rfl, rfl⟩, ⟨⟩⟩ := Option.ite_none_right_eq_some.1 hs
    rw [hp]; exact .wWr
  · rename_i hp; cases hs; rw [hp]; exact .wUth
  · rename_i hp
    split at hs
    · rename_i hm
      split at hs
      · rename_i hth; subst hth
        split at hs
        · rename_i hw; subst hw
          obtain ⟨s1, hr, rfl⟩ := Option.map_eq_some_iff.1 hs
          rw [hp]; exact .wRelExc hm hr
        · cases hs
      · rename_i hth
        rw [Bool.not_eq_true] at hth; subst hth
        split at hs
        · rename_i he
          split at hs
          · rename_i r hres
            obtain ⟨s1, hr, rfl⟩ := Option.map_eq_some_iff.1 hs
            rw [hp]; exact .wRel hm he hres hr
          · cases hs
        · rename_i he
          obtain ⟨s1, hr, rfl⟩ := Option.map_eq_some_iff.1 hs
          rw [hp]; exact .wRelOff hm (by simpa using he) hr
    · cases hs
  · rename_i hp
    obtain ⟨hc, ⟨⟩⟩ := Option.ite_none_right_eq_some.1 hs
    rw [hp]; exact .retW hc
  · rename_i hp; cases hs; rw [hp]; exact .exc
  · rename_i hp
    obtain ⟨hv, ⟨⟩⟩ := Option.ite_none_right_eq_some.1 hs
    rw [hp]; exact .final hv
  · rename_i hp; cases hs; rw [hp]; exact .wCalledUth
  · cases hs

/-- inversion at a known pc: `cases` leaves the edges from `p` only -/
theorem Step.of_step_at (hp : (s.loc t).pc = p) (hs : step s t e = some s') : Step s t p e s' :=
  hp ▸ Step.of_step hs

/-- inversion at an unknown pc: after `cases` every arm knows the pc as `hp` -/
theorem Step.of_step_ex (hs : step s t e = some s') : ∃ p, (s.loc t).pc = p ∧ Step s t p e s' :=
  ⟨_, rfl, Step.of_step hs⟩

theorem Step.to_step (hp : (s.loc t).pc = p) (h : Step s t p e s') : step s t e = some s' := by
  cases h
  case heMove hk => rcases hk with rfl | rfl <;> simp_all [step]
  all_goals simp_all [step]

theorem Step.isSome (hp : (s.loc t).pc = p) (h : Step s t p e s') : (step s t e).isSome = true := by
  rw [h.to_step hp]; rfl

/-- `acquire` inverted: what it requires and the state it returns -/
theorem acquire_inv (ha : s.acquire t sd = some s1) : s.held t = .none ∧ s.excl = none ∧
    ((sd = .X ∧ s.shared = [] ∧
        s1 = { s with excl := some t, held := upd s.held t .X, acqs := upd s.acqs t (s.acqs t + 1) }) ∨
      (sd = .S ∧ s.capable = true ∧
        s1 = { s with shared := t :: s.shared, held := upd s.held t .S, acqs := upd s.acqs t (s.acqs t + 1) })) := by
  unfold St.acquire at ha
  split at ha
  · cases ha
  · rename_i hn
    rw [ne_eq, Decidable.not_not] at hn
    cases sd <;> simp only at ha <;> split at ha <;> cases ha
    · rename_i hf; exact ⟨hn, hf.1, .inl ⟨rfl, hf.2, rfl⟩⟩
    · rename_i hf; exact ⟨hn, hf.1, .inr ⟨rfl, hf.2, rfl⟩⟩

/-- the same for `release` -/
theorem release_inv (hr : s.release t sd = some s1) : s.held t = sd.mode ∧
    ((sd = .X ∧ s.excl = some t ∧
        s1 = { s with excl := none, held := upd s.held t .none, rels := upd s.rels t (s.rels t + 1) }) ∨
      (sd = .S ∧ t ∈ s.shared ∧
        s1 = { s with shared := s.shared.erase t, held := upd s.held t .none, rels := upd s.rels t (s.rels t + 1) })) := by
  unfold St.release at hr
  cases sd <;> simp only at hr <;> split at hr <;> cases hr
  · rename_i hh; exact ⟨hh.1, .inl ⟨rfl, hh.2, rfl⟩⟩
  · rename_i hh; exact ⟨hh.1, .inr ⟨rfl, hh.2, rfl⟩⟩

theorem acquire_spec (ha : s.acquire t sd = some s1) :
    s.held t = .none ∧ s.excl = none ∧ (sd = .X → s.shared = []) ∧ s1.held = upd s.held t sd.mode ∧
    s1.acqs = upd s.acqs t (s.acqs t + 1) ∧ s1.rels = s.rels ∧ Untouched s s1 := by
  obtain ⟨hn, hx, ⟨rfl, hs, rfl⟩ | ⟨rfl, _, rfl⟩⟩ := acquire_inv ha
  · exact ⟨hn, hx, fun _ => hs, rfl, rfl, rfl, ⟨rfl, rfl, rfl, rfl, rfl, rfl⟩⟩
  · exact ⟨hn, hx, Side.noConfusion, rfl, rfl, rfl, ⟨rfl, rfl, rfl, rfl, rfl, rfl⟩⟩

theorem release_spec (hr : s.release t sd = some s1) :
    s.held t = sd.mode ∧ s1.held = upd s.held t .none ∧ s1.rels = upd s.rels t (s.rels t + 1) ∧
    s1.acqs = s.acqs ∧ Untouched s s1 := by
  obtain ⟨hm, ⟨rfl, _, rfl⟩ | ⟨rfl, _, rfl⟩⟩ := release_inv hr
  · exact ⟨hm, rfl, rfl, rfl, ⟨rfl, rfl, rfl, rfl, rfl, rfl⟩⟩
  · exact ⟨hm, rfl, rfl, rfl, ⟨rfl, rfl, rfl, rfl, rfl, rfl⟩⟩

theorem acquire_untouched (ha : s.acquire t sd = some s1) : Untouched s s1 :=
  (acquire_spec ha).2.2.2.2.2.2

theorem release_untouched (hr : s.release t sd = some s1) : Untouched s s1 :=
  (release_spec hr).2.2.2.2

theorem Untouched.refl (s : St) : Untouched s s := ⟨rfl, rfl, rfl, rfl, rfl, rfl⟩

theorem Mutex.untouched (h : Mutex s t e s1) : Untouched s s1 := by
  cases h
  case acquire h => exact acquire_untouched h
  case release h => exact release_untouched h
  case none => exact .refl s

theorem Mutex.other {u : Tid} (h : Mutex s t e s1) (hu : u ≠ t) :
    s1.held u = s.held u ∧ s1.acqs u = s.acqs u ∧ s1.rels u = s.rels u := by
  cases h
  case acquire h =>
    obtain ⟨_, _, _, h1, h2, h3, _⟩ := acquire_spec h
    rw [h1, h2, h3, upd_other _ _ _ _ hu, upd_other _ _ _ _ hu]; exact ⟨rfl, rfl, rfl⟩
  case release h =>
    obtain ⟨_, h1, h3, h2, _⟩ := release_spec h
    rw [h1, h2, h3, upd_other _ _ _ _ hu, upd_other _ _ _ _ hu]; exact ⟨rfl, rfl, rfl⟩
  case none => exact ⟨rfl, rfl, rfl⟩

theorem Frame.data {v c : Int} {l : List HEntry} (hv : (∃ v, e = .wr v) ∨ v = s.val) :
    Frame s t e { s with val := v, committed := c, hist := s.hist ++ l } :=
  ⟨fun _ _ => rfl, rfl, rfl, rfl, rfl, rfl, rfl, rfl, hv, _, rfl⟩

theorem Frame.wr {v : Int} : Frame s t (.wr v) { s with val := v } :=
  ⟨fun _ _ => rfl, rfl, rfl, rfl, rfl, rfl, rfl, rfl, .inl ⟨_, rfl⟩, [], (List.append_nil _).symm⟩

theorem Frame.refl : Frame s t e s :=
  ⟨fun _ _ => rfl, rfl, rfl, rfl, rfl, rfl, rfl, rfl, .inr rfl, [], (List.append_nil _).symm⟩

theorem Frame.setLoc {l : Loc} (h : Frame s1 t e s') : Frame s1 t e (s'.setLoc t l) :=
  { h with loc := fun u hu => (upd_other _ _ _ _ hu).trans (h.loc u hu) }

/-- every step is a mutex operation (or none) followed by a change of the stepping thread's `loc` and of the data -/
theorem Step.mutex (h : Step s t p e s') : ∃ s1, Mutex s t e s1 ∧ Frame s1 t e s' := by
  cases h
  case lkOk ha | wLk ha => exact ⟨_, .acquire ha, Frame.refl.setLoc⟩
  case rel hr | wRelExc hr | wRelOff hr => exact ⟨_, .release hr, Frame.refl.setLoc⟩
  case wRel hr => exact ⟨_, .release hr, (Frame.data (.inr rfl)).setLoc⟩
  case sessRd | final => exact ⟨_, .none rfl, .refl⟩
  case sessWr => exact ⟨_, .none rfl, .data (.inl ⟨_, rfl⟩)⟩
  case sessWrOff => exact ⟨_, .none rfl, .wr⟩
  case wWr => exact ⟨_, .none rfl, Frame.wr.setLoc⟩
  all_goals exact ⟨_, .none rfl, Frame.refl.setLoc⟩

theorem Step.held_other {u : Tid} (h : Step s t p e s') (hu : u ≠ t) : s'.held u = s.held u := by
  obtain ⟨s1, hm, hf⟩ := h.mutex
  rw [hf.held]; exact (hm.other hu).1

theorem Step.loc_other {u : Tid} (h : Step s t p e s') (hu : u ≠ t) : s'.loc u = s.loc u := by
  obtain ⟨s1, hm, hf⟩ := h.mutex
  rw [hf.loc u hu, hm.untouched.loc]

theorem Step.enabled_eq (h : Step s t p e s') : s'.enabled = s.enabled := by
  obtain ⟨s1, hm, hf⟩ := h.mutex
  rw [hf.enabled, hm.untouched.enabled]

theorem Step.capable_eq (h : Step s t p e s') : s'.capable = s.capable := by
  obtain ⟨s1, hm, hf⟩ := h.mutex
  rw [hf.capable, hm.untouched.capable]

theorem Step.val_eq (h : Step s t p e s') (hw : ∀ v, e ≠ .wr v) : s'.val = s.val := by
  obtain ⟨s1, hm, hf⟩ := h.mutex
  rcases hf.val with ⟨v, rfl⟩ | hv
  · exact absurd rfl (hw v)
  · rw [hv, hm.untouched.val]

theorem Step.hist_append (h : Step s t p e s') : ∃ l, s'.hist = s.hist ++ l := by
  obtain ⟨s1, hm, hf⟩ := h.mutex
  rw [← hm.untouched.hist]; exact hf.hist

end

end ConcVerif.LockFam
