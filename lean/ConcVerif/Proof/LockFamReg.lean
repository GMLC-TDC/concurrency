import ConcVerif.Proof.LockFam
/-! Register linearizability of the whole-object operations of the lock-based wrappers (C15):
the ghost history `hist`, ordered by the closing release of each bracket (and by each write made
through an exclusive handle), replays through the sequential register specification with exactly
the recorded results and ends in the committed value. -/
namespace ConcVerif.LockFam

/-- sequential specification: one register -/
def Reg.apply (v : Int) : WOp → Int × Res
  | .ld => (v, .val v)
  | .cv => (v, .val v)
  | .rd => (v, .val v)
  | .st x => (x, .unit)
  | .as x => (x, .unit)
  | .md => (v + 1, .unit)
  | .xc x => (x, .val v)
  | .ce e d => if v = e then (d, .cas true e) else (v, .cas false v)

/-- replay a history sequentially; `none` if some recorded result differs from the specification -/
def Reg.run (v : Int) : List HEntry → Option Int
  | [] => some v
  | e :: es => if (Reg.apply v e.op).2 = e.res then Reg.run (Reg.apply v e.op).1 es else none

theorem Reg.run_append (v : Int) (a b : List HEntry) :
    Reg.run v (a ++ b) = (Reg.run v a).bind (fun v' => Reg.run v' b) := by
  induction a generalizing v with
  | nil => simp [Reg.run]
  | cons e es ih =>
    simp only [List.cons_append, Reg.run]
    split
    · exact ih _
    · simp

/-- the accesses a bracket made amount to the register operation it claims -/
theorem wResult_sound {w : WOp} {seen wrote : Option Int} {r : Res} {v0 v1 : Int}
    (h : wResult w seen wrote = some r) (hs : ∀ c, seen = some c → c = v0)
    (hw : ∀ v, wrote = some v → v1 = v) (hn : wrote = none → v1 = v0) :
    Reg.apply v0 w = (v1, r) := by
  -- `cases h` disposes of the combinations of accesses that `wResult` rejects outright
  cases w <;> cases seen <;> cases wrote <;> try cases h
  case ld | cv | rd => cases hs _ rfl; cases hn rfl; rfl
  case st | «as» => simp only [wResult] at h; split at h <;> cases h; subst_vars; cases hw _ rfl; rfl
  case md | xc => simp only [wResult] at h; split at h <;> cases h; subst_vars; cases hs _ rfl; cases hw _ rfl; rfl
  case ce.some.some =>
    simp only [wResult] at h; split at h <;> cases h
    rename_i hc; cases hs _ rfl; cases hw _ rfl; cases hc.1; cases hc.2; exact if_pos rfl
  case ce.some.none =>
    simp only [wResult] at h; split at h <;> cases h
    rename_i hc; cases hs _ rfl; cases hn rfl; exact if_neg hc

def Pc.isWhole : Pc → Bool
  | .whole _ _ _ _ _ => true
  | _ => false

def Pc.writing : Pc → Bool
  | .whole _ _ _ (some _) _ => true
  | _ => false

/-- `rep`: the history replays to the committed value; `quiet`: the object holds it unless somebody is between a
write and its release; `bracket`: what an open bracket has seen and written so far agrees with the data. -/
structure LInv (s : St) : Prop where
  rep : Reg.run 0 s.hist = some s.committed
  quiet : (∀ t, (s.loc t).pc.writing = false) → s.val = s.committed
  bracket : ∀ t w m seen wrote th, (s.loc t).pc = .whole w m seen wrote th →
      (∀ c, seen = some c → c = s.committed) ∧
      (∀ v, wrote = some v → m = .X ∧ s.val = v) ∧ (wrote = none → s.val = s.committed)

/-- the `bracket` clause of `LInv` for one open bracket -/
def Bracket (s : St) (m : Mode) (seen wrote : Option Int) : Prop :=
  (∀ c, seen = some c → c = s.committed) ∧ (∀ v, wrote = some v → m = .X ∧ s.val = v) ∧
    (wrote = none → s.val = s.committed)

theorem linv_init (en cap : Bool) : LInv (init en cap) := by
  constructor
  · simp [init, Reg.run]
  · intro _; simp [init]
  · intro t w m seen wrote th hp; simp [init] at hp

theorem writing_held {s : St} (h : Inv s) (hl : LInv s) {u : Tid} (hw : (s.loc u).pc.writing = true) :
    s.held u = .X := by
  cases hp : (s.loc u).pc <;> rw [hp] at hw <;> try cases hw
  rename_i w m a b c
  cases b with
  | none => cases hw
  | some v => exact (whole_held h hp).1.trans ((hl.bracket u w m a (some v) c hp).2.1 v rfl).1

/-- while `t` holds the mutex in any mode, no other thread is between a write and its release -/
theorem no_other_writer {s : St} (h : Inv s) (hl : LInv s) {t u : Tid} (ht : s.held t ≠ .none) (hne : u ≠ t) :
    (s.loc u).pc.writing = false := by
  cases hw : (s.loc u).pc.writing
  · rfl
  · exact absurd (held_excl h.g (writing_held h hl hw) (Ne.symm hne)) ht

theorem no_other_whole {s : St} (h : Inv s) {t u : Tid} (ht : s.held t = .X) (hne : u ≠ t) {w : WOp} {m : Mode}
    {a b : Option Int} {c : Bool} (hp : (s.loc u).pc = .whole w m a b c) : False := by
  have hu := whole_held h hp
  rw [held_excl h.g ht hne] at hu
  exact hu.2 hu.1.symm

/-- a step of `t` that performs a mutex operation (or none) and changes `t`'s local state, leaving the data
fields alone: `t` does not stop writing, and if it is inside a bracket afterwards the bracket's record agrees
with the data -/
theorem linv_setLoc {s s1 : St} {t : Tid} {l' : Loc} (hl : LInv s) (hk : Untouched s s1)
    (hq : (s.loc t).pc.writing = true → l'.pc.writing = true)
    (hb : ∀ w m seen wrote th, l'.pc = .whole w m seen wrote th → Bracket s m seen wrote) :
    LInv (s1.setLoc t l') := by
  obtain ⟨h1, h2, h3⟩ := hl
  refine ⟨?_, fun hq' => ?_, fun u w m seen wrote th hp => ?_⟩
  · show Reg.run 0 s1.hist = some s1.committed
    rw [hk.hist, hk.committed]; exact h1
  · show s1.val = s1.committed
    rw [hk.val, hk.committed]
    refine h2 fun u => ?_
    have := hq' u
    by_cases hu : u = t
    · subst hu
      rw [setLoc_loc_self] at this
      cases hw : (s.loc u).pc.writing
      · rfl
      · rw [hq hw] at this; cases this
    · rwa [setLoc_loc, upd_other _ _ _ _ hu, hk.loc] at this
  · show Bracket s1 m seen wrote
    rw [Bracket, hk.val, hk.committed]
    by_cases hu : u = t
    · subst hu; rw [setLoc_loc_self] at hp; exact hb w m seen wrote th hp
    · rw [setLoc_loc, upd_other _ _ _ _ hu, hk.loc] at hp; exact h3 u w m seen wrote th hp

theorem linv_frame {s s1 : St} {t : Tid} {l' : Loc} (hl : LInv s) (hk : Untouched s s1)
    (hold : (s.loc t).pc.writing = false) (hnew : l'.pc.isWhole = false) : LInv (s1.setLoc t l') :=
  linv_setLoc hl hk (fun h => by rw [hold] at h; cases h) (fun _ _ _ _ _ h => by rw [h] at hnew; cases hnew)

theorem linv_step (s : St) (t : Tid) (e : Ev) (s' : St) (he : s.enabled = true) (hi : Inv s) (hl : LInv s)
    (hs : step s t e = some s') : LInv s' := by
  obtain ⟨p, hp, hst⟩ := Step.of_step_ex hs
  cases hst
  case sessRd | final => exact hl
  case sessWrOff he' | wRelOff he' _ => rw [he] at he'; cases he'
  case sessWr hx =>
    -- a write through an exclusive handle: linearised at once as a store
    refine ⟨?_, fun _ => rfl, fun u w m seen wrote th hpu => ?_⟩
    · show Reg.run 0 (s.hist ++ [_]) = _
      rw [Reg.run_append, hl.rep]; rfl
    · by_cases hu : u = t
      · subst hu; exact Pc.noConfusion (hp.symm.trans hpu)
      · exact (no_other_whole hi hx hu hpu).elim
  case wLk ha =>
    -- entering a bracket: nobody is writing, as a writer holds the mutex exclusively, yet the acquisition succeeded
    obtain ⟨_, hx, _⟩ := acquire_spec ha
    have hvc : s.val = s.committed := hl.quiet fun u => by
      cases hw : (s.loc u).pc.writing
      · rfl
      · rw [(hi.g.exclHeld u).2 (writing_held hi hl hw)] at hx; cases hx
    refine linv_setLoc hl (acquire_untouched ha) (fun h => by rw [hp] at h; cases h) ?_
    rintro _ _ _ _ _ ⟨⟩
    exact ⟨fun _ h => (nomatch h), fun _ h => (nomatch h), fun _ => hvc⟩
  case wRd hv =>
    -- a read inside a bracket returns the committed value
    have hb := hl.bracket t _ _ _ _ _ hp
    refine linv_setLoc hl (.refl s) (fun h => by rw [hp] at h; cases h) ?_
    rintro _ _ _ _ _ ⟨⟩
    exact ⟨fun c hc => by rw [← Option.some.inj hc, hv he]; exact hb.2.2 rfl, hb.2.1, hb.2.2⟩
  case wUth w m seen wrote thrown =>
    have hb := hl.bracket t _ _ _ _ _ hp
    refine linv_setLoc hl (.refl s) (fun h => by rw [hp] at h; cases wrote <;> exact h) ?_
    rintro _ _ _ _ _ ⟨⟩; exact hb
  case wWr =>
    -- the write inside a bracket
    have hb := hl.bracket t _ _ _ _ _ hp
    have hx : s.held t = .X := (whole_held hi hp).1
    refine ⟨hl.rep, fun hq => ?_, fun u w' m' seen wr th hpu => ?_⟩
    · have := hq t; rw [setPc_pc] at this; cases this
    · by_cases hu : u = t
      · subst hu; rw [setPc_pc] at hpu; cases hpu
        exact ⟨hb.1, fun _ h => ⟨rfl, Option.some.inj h⟩, fun h => nomatch h⟩
      · rw [setPc_loc_other _ hu] at hpu; exact (no_other_whole hi hx hu hpu).elim
  case wRelExc hr =>
    -- closing a bracket after a throw: nothing was written, nothing is recorded
    exact linv_setLoc hl (release_untouched hr) (fun h => by rw [hp] at h; cases h) (fun _ _ _ _ _ => Pc.noConfusion)
  case wRel w m seen wrote sd r s1 hm he' hres hr =>
    -- closing a bracket: its accesses amount to the register operation recorded
    have hk := release_untouched hr
    have hb := hl.bracket t _ _ _ _ _ hp
    have happly : Reg.apply s.committed w = (s.val, r) :=
      wResult_sound hres hb.1 (fun v hv => (hb.2.1 v hv).2) hb.2.2
    refine ⟨?_, fun _ => rfl, fun u w' m' seen' wr th hpu => ?_⟩
    · show Reg.run 0 (s1.hist ++ [_]) = some s1.val
      rw [hk.hist, hk.val, Reg.run_append, hl.rep]
      simp only [Option.bind_some, Reg.run, happly, if_true]
    · have hu : u ≠ t := by rintro rfl; rw [setPc_pc] at hpu; cases hpu
      rw [setPc_loc_other _ hu, hk.loc] at hpu
      have hbu := hl.bracket u _ _ _ _ _ hpu
      -- the committed value does not move under another open bracket
      have hsame : s.val = s.committed := by
        cases wrote with
        | none => exact hb.2.2 rfl
        | some v => exact (no_other_whole hi ((whole_held hi hp).1.trans (hb.2.1 v rfl).1) hu hpu).elim
      show Bracket { s1 with committed := s1.val } m' seen' wr
      rw [Bracket, hk.val]
      exact ⟨fun c hc => hsame.symm ▸ hbu.1 c hc, hbu.2.1, fun _ => rfl⟩
  case lkOk ha => exact linv_frame hl (acquire_untouched ha) (by rw [hp]; rfl) rfl
  case rel hr => exact linv_frame hl (release_untouched hr) (by rw [hp]; rfl) (by rw [set_pc]; rfl)
  case heDestroy | heUnlock | heMove =>
    exact linv_frame hl (.refl s) (by rw [hp]; rfl) (by simp only [set_pc]; rfl)
  all_goals exact linv_frame hl (.refl s) (by rw [hp]; rfl) rfl

theorem reachable_enabled {en cap : Bool} {s : St} (h : Reachable en cap s) : s.enabled = en :=
  (reachable_config h).1

/-- `Inv ∧ LInv` is inductive when locking is enabled -/
theorem linv_reachable {cap : Bool} {s : St} (h : Reachable true cap s) : LInv s := by
  obtain ⟨es, hes⟩ := h
  have : Inv s ∧ LInv s ∧ s.enabled = true := by
    refine runFrom_inv (Inv := fun s => Inv s ∧ LInv s ∧ s.enabled = true) ?_ ⟨inv_init true cap, linv_init true cap, rfl⟩ hes
    intro a u e b ⟨h1, h2, h3⟩ hab
    exact ⟨inv_step a u e b h1 hab, linv_step a u e b h3 h1 h2 hab, by rw [(Step.of_step hab).enabled_eq]; exact h3⟩
  exact this.2.1

end ConcVerif.LockFam
