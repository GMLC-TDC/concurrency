import ConcVerif.Model.Rcu
/-! Projection lemmas for the updaters `setPc`, `setNext`, `setBack`, `setDel`, `setRNext`, `setOwner`, `setNled`,
`setRled`, `dropHnd` of `Model/Rcu.lean`: one per field of `St`, all by `rfl` (a new field of `St` needs one more line
for each of them).  `reapAt`, `dNodeAt`, `dRecAt` have none: they are unfolded where they are used. -/
namespace ConcVerif.Rcu

@[simp] theorem setPc_nodes (s : St) (t : Tid) (p : Pc) : (s.setPc t p).nodes = s.nodes := rfl
@[simp] theorem setPc_recs (s : St) (t : Tid) (p : Pc) : (s.setPc t p).recs = s.recs := rfl
@[simp] theorem setPc_nN (s : St) (t : Tid) (p : Pc) : (s.setPc t p).nN = s.nN := rfl
@[simp] theorem setPc_nR (s : St) (t : Tid) (p : Pc) : (s.setPc t p).nR = s.nR := rfl
@[simp] theorem setPc_nled (s : St) (t : Tid) (p : Pc) : (s.setPc t p).nled = s.nled := rfl
@[simp] theorem setPc_rled (s : St) (t : Tid) (p : Pc) : (s.setPc t p).rled = s.rled := rfl
@[simp] theorem setPc_head (s : St) (t : Tid) (p : Pc) : (s.setPc t p).head = s.head := rfl
@[simp] theorem setPc_tail (s : St) (t : Tid) (p : Pc) : (s.setPc t p).tail = s.tail := rfl
@[simp] theorem setPc_zhead (s : St) (t : Tid) (p : Pc) : (s.setPc t p).zhead = s.zhead := rfl
@[simp] theorem setPc_wmtx (s : St) (t : Tid) (p : Pc) : (s.setPc t p).wmtx = s.wmtx := rfl
@[simp] theorem setPc_log (s : St) (t : Tid) (p : Pc) : (s.setPc t p).log = s.log := rfl
@[simp] theorem setPc_lst (s : St) (t : Tid) (p : Pc) : (s.setPc t p).lst = s.lst := rfl
@[simp] theorem setPc_order (s : St) (t : Tid) (p : Pc) : (s.setPc t p).order = s.order := rfl
@[simp] theorem setPc_live (s : St) (t : Tid) (p : Pc) : (s.setPc t p).live = s.live := rfl
@[simp] theorem setPc_dt (s : St) (t : Tid) (p : Pc) : (s.setPc t p).dt = s.dt := rfl
@[simp] theorem setPc_hnd (s : St) (t : Tid) (p : Pc) : (s.setPc t p).hnd = s.hnd := rfl
@[simp] theorem setPc_it (s : St) (t : Tid) (p : Pc) : (s.setPc t p).it = s.it := rfl
@[simp] theorem setPc_pc (s : St) (t : Tid) (p : Pc) : (s.setPc t p).pc = upd s.pc t p := rfl

@[simp] theorem setNext_nodes (s : St) (n : Nat) (v : Option Nat) : (s.setNext n v).nodes = upd s.nodes n { s.nodes n with next := v } := rfl
@[simp] theorem setNext_recs (s : St) (n : Nat) (v : Option Nat) : (s.setNext n v).recs = s.recs := rfl
@[simp] theorem setNext_nN (s : St) (n : Nat) (v : Option Nat) : (s.setNext n v).nN = s.nN := rfl
@[simp] theorem setNext_nR (s : St) (n : Nat) (v : Option Nat) : (s.setNext n v).nR = s.nR := rfl
@[simp] theorem setNext_nled (s : St) (n : Nat) (v : Option Nat) : (s.setNext n v).nled = s.nled := rfl
@[simp] theorem setNext_rled (s : St) (n : Nat) (v : Option Nat) : (s.setNext n v).rled = s.rled := rfl
@[simp] theorem setNext_head (s : St) (n : Nat) (v : Option Nat) : (s.setNext n v).head = s.head := rfl
@[simp] theorem setNext_tail (s : St) (n : Nat) (v : Option Nat) : (s.setNext n v).tail = s.tail := rfl
@[simp] theorem setNext_zhead (s : St) (n : Nat) (v : Option Nat) : (s.setNext n v).zhead = s.zhead := rfl
@[simp] theorem setNext_wmtx (s : St) (n : Nat) (v : Option Nat) : (s.setNext n v).wmtx = s.wmtx := rfl
@[simp] theorem setNext_log (s : St) (n : Nat) (v : Option Nat) : (s.setNext n v).log = s.log := rfl
@[simp] theorem setNext_lst (s : St) (n : Nat) (v : Option Nat) : (s.setNext n v).lst = s.lst := rfl
@[simp] theorem setNext_order (s : St) (n : Nat) (v : Option Nat) : (s.setNext n v).order = s.order := rfl
@[simp] theorem setNext_live (s : St) (n : Nat) (v : Option Nat) : (s.setNext n v).live = s.live := rfl
@[simp] theorem setNext_dt (s : St) (n : Nat) (v : Option Nat) : (s.setNext n v).dt = s.dt := rfl
@[simp] theorem setNext_hnd (s : St) (n : Nat) (v : Option Nat) : (s.setNext n v).hnd = s.hnd := rfl
@[simp] theorem setNext_it (s : St) (n : Nat) (v : Option Nat) : (s.setNext n v).it = s.it := rfl
@[simp] theorem setNext_pc (s : St) (n : Nat) (v : Option Nat) : (s.setNext n v).pc = s.pc := rfl

@[simp] theorem setBack_nodes (s : St) (n : Nat) (v : Option Nat) : (s.setBack n v).nodes = upd s.nodes n { s.nodes n with back := v } := rfl
@[simp] theorem setBack_recs (s : St) (n : Nat) (v : Option Nat) : (s.setBack n v).recs = s.recs := rfl
@[simp] theorem setBack_nN (s : St) (n : Nat) (v : Option Nat) : (s.setBack n v).nN = s.nN := rfl
@[simp] theorem setBack_nR (s : St) (n : Nat) (v : Option Nat) : (s.setBack n v).nR = s.nR := rfl
@[simp] theorem setBack_nled (s : St) (n : Nat) (v : Option Nat) : (s.setBack n v).nled = s.nled := rfl
@[simp] theorem setBack_rled (s : St) (n : Nat) (v : Option Nat) : (s.setBack n v).rled = s.rled := rfl
@[simp] theorem setBack_head (s : St) (n : Nat) (v : Option Nat) : (s.setBack n v).head = s.head := rfl
@[simp] theorem setBack_tail (s : St) (n : Nat) (v : Option Nat) : (s.setBack n v).tail = s.tail := rfl
@[simp] theorem setBack_zhead (s : St) (n : Nat) (v : Option Nat) : (s.setBack n v).zhead = s.zhead := rfl
@[simp] theorem setBack_wmtx (s : St) (n : Nat) (v : Option Nat) : (s.setBack n v).wmtx = s.wmtx := rfl
@[simp] theorem setBack_log (s : St) (n : Nat) (v : Option Nat) : (s.setBack n v).log = s.log := rfl
@[simp] theorem setBack_lst (s : St) (n : Nat) (v : Option Nat) : (s.setBack n v).lst = s.lst := rfl
@[simp] theorem setBack_order (s : St) (n : Nat) (v : Option Nat) : (s.setBack n v).order = s.order := rfl
@[simp] theorem setBack_live (s : St) (n : Nat) (v : Option Nat) : (s.setBack n v).live = s.live := rfl
@[simp] theorem setBack_dt (s : St) (n : Nat) (v : Option Nat) : (s.setBack n v).dt = s.dt := rfl
@[simp] theorem setBack_hnd (s : St) (n : Nat) (v : Option Nat) : (s.setBack n v).hnd = s.hnd := rfl
@[simp] theorem setBack_it (s : St) (n : Nat) (v : Option Nat) : (s.setBack n v).it = s.it := rfl
@[simp] theorem setBack_pc (s : St) (n : Nat) (v : Option Nat) : (s.setBack n v).pc = s.pc := rfl

@[simp] theorem setDel_nodes (s : St) (n : Nat) (v : Bool) : (s.setDel n v).nodes = upd s.nodes n { s.nodes n with deleted := v } := rfl
@[simp] theorem setDel_recs (s : St) (n : Nat) (v : Bool) : (s.setDel n v).recs = s.recs := rfl
@[simp] theorem setDel_nN (s : St) (n : Nat) (v : Bool) : (s.setDel n v).nN = s.nN := rfl
@[simp] theorem setDel_nR (s : St) (n : Nat) (v : Bool) : (s.setDel n v).nR = s.nR := rfl
@[simp] theorem setDel_nled (s : St) (n : Nat) (v : Bool) : (s.setDel n v).nled = s.nled := rfl
@[simp] theorem setDel_rled (s : St) (n : Nat) (v : Bool) : (s.setDel n v).rled = s.rled := rfl
@[simp] theorem setDel_head (s : St) (n : Nat) (v : Bool) : (s.setDel n v).head = s.head := rfl
@[simp] theorem setDel_tail (s : St) (n : Nat) (v : Bool) : (s.setDel n v).tail = s.tail := rfl
@[simp] theorem setDel_zhead (s : St) (n : Nat) (v : Bool) : (s.setDel n v).zhead = s.zhead := rfl
@[simp] theorem setDel_wmtx (s : St) (n : Nat) (v : Bool) : (s.setDel n v).wmtx = s.wmtx := rfl
@[simp] theorem setDel_log (s : St) (n : Nat) (v : Bool) : (s.setDel n v).log = s.log := rfl
@[simp] theorem setDel_lst (s : St) (n : Nat) (v : Bool) : (s.setDel n v).lst = s.lst := rfl
@[simp] theorem setDel_order (s : St) (n : Nat) (v : Bool) : (s.setDel n v).order = s.order := rfl
@[simp] theorem setDel_live (s : St) (n : Nat) (v : Bool) : (s.setDel n v).live = s.live := rfl
@[simp] theorem setDel_dt (s : St) (n : Nat) (v : Bool) : (s.setDel n v).dt = s.dt := rfl
@[simp] theorem setDel_hnd (s : St) (n : Nat) (v : Bool) : (s.setDel n v).hnd = s.hnd := rfl
@[simp] theorem setDel_it (s : St) (n : Nat) (v : Bool) : (s.setDel n v).it = s.it := rfl
@[simp] theorem setDel_pc (s : St) (n : Nat) (v : Bool) : (s.setDel n v).pc = s.pc := rfl

@[simp] theorem setRNext_nodes (s : St) (r : Nat) (v : Option Nat) : (s.setRNext r v).nodes = s.nodes := rfl
@[simp] theorem setRNext_recs (s : St) (r : Nat) (v : Option Nat) : (s.setRNext r v).recs = upd s.recs r { s.recs r with next := v } := rfl
@[simp] theorem setRNext_nN (s : St) (r : Nat) (v : Option Nat) : (s.setRNext r v).nN = s.nN := rfl
@[simp] theorem setRNext_nR (s : St) (r : Nat) (v : Option Nat) : (s.setRNext r v).nR = s.nR := rfl
@[simp] theorem setRNext_nled (s : St) (r : Nat) (v : Option Nat) : (s.setRNext r v).nled = s.nled := rfl
@[simp] theorem setRNext_rled (s : St) (r : Nat) (v : Option Nat) : (s.setRNext r v).rled = s.rled := rfl
@[simp] theorem setRNext_head (s : St) (r : Nat) (v : Option Nat) : (s.setRNext r v).head = s.head := rfl
@[simp] theorem setRNext_tail (s : St) (r : Nat) (v : Option Nat) : (s.setRNext r v).tail = s.tail := rfl
@[simp] theorem setRNext_zhead (s : St) (r : Nat) (v : Option Nat) : (s.setRNext r v).zhead = s.zhead := rfl
@[simp] theorem setRNext_wmtx (s : St) (r : Nat) (v : Option Nat) : (s.setRNext r v).wmtx = s.wmtx := rfl
@[simp] theorem setRNext_log (s : St) (r : Nat) (v : Option Nat) : (s.setRNext r v).log = s.log := rfl
@[simp] theorem setRNext_lst (s : St) (r : Nat) (v : Option Nat) : (s.setRNext r v).lst = s.lst := rfl
@[simp] theorem setRNext_order (s : St) (r : Nat) (v : Option Nat) : (s.setRNext r v).order = s.order := rfl
@[simp] theorem setRNext_live (s : St) (r : Nat) (v : Option Nat) : (s.setRNext r v).live = s.live := rfl
@[simp] theorem setRNext_dt (s : St) (r : Nat) (v : Option Nat) : (s.setRNext r v).dt = s.dt := rfl
@[simp] theorem setRNext_hnd (s : St) (r : Nat) (v : Option Nat) : (s.setRNext r v).hnd = s.hnd := rfl
@[simp] theorem setRNext_it (s : St) (r : Nat) (v : Option Nat) : (s.setRNext r v).it = s.it := rfl
@[simp] theorem setRNext_pc (s : St) (r : Nat) (v : Option Nat) : (s.setRNext r v).pc = s.pc := rfl

@[simp] theorem setOwner_nodes (s : St) (r : Nat) (v : Option Tid) : (s.setOwner r v).nodes = s.nodes := rfl
@[simp] theorem setOwner_recs (s : St) (r : Nat) (v : Option Tid) : (s.setOwner r v).recs = upd s.recs r { s.recs r with owner := v } := rfl
@[simp] theorem setOwner_nN (s : St) (r : Nat) (v : Option Tid) : (s.setOwner r v).nN = s.nN := rfl
@[simp] theorem setOwner_nR (s : St) (r : Nat) (v : Option Tid) : (s.setOwner r v).nR = s.nR := rfl
@[simp] theorem setOwner_nled (s : St) (r : Nat) (v : Option Tid) : (s.setOwner r v).nled = s.nled := rfl
@[simp] theorem setOwner_rled (s : St) (r : Nat) (v : Option Tid) : (s.setOwner r v).rled = s.rled := rfl
@[simp] theorem setOwner_head (s : St) (r : Nat) (v : Option Tid) : (s.setOwner r v).head = s.head := rfl
@[simp] theorem setOwner_tail (s : St) (r : Nat) (v : Option Tid) : (s.setOwner r v).tail = s.tail := rfl
@[simp] theorem setOwner_zhead (s : St) (r : Nat) (v : Option Tid) : (s.setOwner r v).zhead = s.zhead := rfl
@[simp] theorem setOwner_wmtx (s : St) (r : Nat) (v : Option Tid) : (s.setOwner r v).wmtx = s.wmtx := rfl
@[simp] theorem setOwner_log (s : St) (r : Nat) (v : Option Tid) : (s.setOwner r v).log = s.log := rfl
@[simp] theorem setOwner_lst (s : St) (r : Nat) (v : Option Tid) : (s.setOwner r v).lst = s.lst := rfl
@[simp] theorem setOwner_order (s : St) (r : Nat) (v : Option Tid) : (s.setOwner r v).order = s.order := rfl
@[simp] theorem setOwner_live (s : St) (r : Nat) (v : Option Tid) : (s.setOwner r v).live = s.live := rfl
@[simp] theorem setOwner_dt (s : St) (r : Nat) (v : Option Tid) : (s.setOwner r v).dt = s.dt := rfl
@[simp] theorem setOwner_hnd (s : St) (r : Nat) (v : Option Tid) : (s.setOwner r v).hnd = s.hnd := rfl
@[simp] theorem setOwner_it (s : St) (r : Nat) (v : Option Tid) : (s.setOwner r v).it = s.it := rfl
@[simp] theorem setOwner_pc (s : St) (r : Nat) (v : Option Tid) : (s.setOwner r v).pc = s.pc := rfl

@[simp] theorem setNled_nodes (s : St) (n : Nat) (l : Led) : (s.setNled n l).nodes = s.nodes := rfl
@[simp] theorem setNled_recs (s : St) (n : Nat) (l : Led) : (s.setNled n l).recs = s.recs := rfl
@[simp] theorem setNled_nN (s : St) (n : Nat) (l : Led) : (s.setNled n l).nN = s.nN := rfl
@[simp] theorem setNled_nR (s : St) (n : Nat) (l : Led) : (s.setNled n l).nR = s.nR := rfl
@[simp] theorem setNled_nled (s : St) (n : Nat) (l : Led) : (s.setNled n l).nled = upd s.nled n l := rfl
@[simp] theorem setNled_rled (s : St) (n : Nat) (l : Led) : (s.setNled n l).rled = s.rled := rfl
@[simp] theorem setNled_head (s : St) (n : Nat) (l : Led) : (s.setNled n l).head = s.head := rfl
@[simp] theorem setNled_tail (s : St) (n : Nat) (l : Led) : (s.setNled n l).tail = s.tail := rfl
@[simp] theorem setNled_zhead (s : St) (n : Nat) (l : Led) : (s.setNled n l).zhead = s.zhead := rfl
@[simp] theorem setNled_wmtx (s : St) (n : Nat) (l : Led) : (s.setNled n l).wmtx = s.wmtx := rfl
@[simp] theorem setNled_log (s : St) (n : Nat) (l : Led) : (s.setNled n l).log = s.log := rfl
@[simp] theorem setNled_lst (s : St) (n : Nat) (l : Led) : (s.setNled n l).lst = s.lst := rfl
@[simp] theorem setNled_order (s : St) (n : Nat) (l : Led) : (s.setNled n l).order = s.order := rfl
@[simp] theorem setNled_live (s : St) (n : Nat) (l : Led) : (s.setNled n l).live = s.live := rfl
@[simp] theorem setNled_dt (s : St) (n : Nat) (l : Led) : (s.setNled n l).dt = s.dt := rfl
@[simp] theorem setNled_hnd (s : St) (n : Nat) (l : Led) : (s.setNled n l).hnd = s.hnd := rfl
@[simp] theorem setNled_it (s : St) (n : Nat) (l : Led) : (s.setNled n l).it = s.it := rfl
@[simp] theorem setNled_pc (s : St) (n : Nat) (l : Led) : (s.setNled n l).pc = s.pc := rfl

@[simp] theorem setRled_nodes (s : St) (r : Nat) (l : Led) : (s.setRled r l).nodes = s.nodes := rfl
@[simp] theorem setRled_recs (s : St) (r : Nat) (l : Led) : (s.setRled r l).recs = s.recs := rfl
@[simp] theorem setRled_nN (s : St) (r : Nat) (l : Led) : (s.setRled r l).nN = s.nN := rfl
@[simp] theorem setRled_nR (s : St) (r : Nat) (l : Led) : (s.setRled r l).nR = s.nR := rfl
@[simp] theorem setRled_nled (s : St) (r : Nat) (l : Led) : (s.setRled r l).nled = s.nled := rfl
@[simp] theorem setRled_rled (s : St) (r : Nat) (l : Led) : (s.setRled r l).rled = upd s.rled r l := rfl
@[simp] theorem setRled_head (s : St) (r : Nat) (l : Led) : (s.setRled r l).head = s.head := rfl
@[simp] theorem setRled_tail (s : St) (r : Nat) (l : Led) : (s.setRled r l).tail = s.tail := rfl
@[simp] theorem setRled_zhead (s : St) (r : Nat) (l : Led) : (s.setRled r l).zhead = s.zhead := rfl
@[simp] theorem setRled_wmtx (s : St) (r : Nat) (l : Led) : (s.setRled r l).wmtx = s.wmtx := rfl
@[simp] theorem setRled_log (s : St) (r : Nat) (l : Led) : (s.setRled r l).log = s.log := rfl
@[simp] theorem setRled_lst (s : St) (r : Nat) (l : Led) : (s.setRled r l).lst = s.lst := rfl
@[simp] theorem setRled_order (s : St) (r : Nat) (l : Led) : (s.setRled r l).order = s.order := rfl
@[simp] theorem setRled_live (s : St) (r : Nat) (l : Led) : (s.setRled r l).live = s.live := rfl
@[simp] theorem setRled_dt (s : St) (r : Nat) (l : Led) : (s.setRled r l).dt = s.dt := rfl
@[simp] theorem setRled_hnd (s : St) (r : Nat) (l : Led) : (s.setRled r l).hnd = s.hnd := rfl
@[simp] theorem setRled_it (s : St) (r : Nat) (l : Led) : (s.setRled r l).it = s.it := rfl
@[simp] theorem setRled_pc (s : St) (r : Nat) (l : Led) : (s.setRled r l).pc = s.pc := rfl

@[simp] theorem dropHnd_nodes (s : St) (t : Tid) : (s.dropHnd t).nodes = s.nodes := rfl
@[simp] theorem dropHnd_recs (s : St) (t : Tid) : (s.dropHnd t).recs = s.recs := rfl
@[simp] theorem dropHnd_nN (s : St) (t : Tid) : (s.dropHnd t).nN = s.nN := rfl
@[simp] theorem dropHnd_nR (s : St) (t : Tid) : (s.dropHnd t).nR = s.nR := rfl
@[simp] theorem dropHnd_nled (s : St) (t : Tid) : (s.dropHnd t).nled = s.nled := rfl
@[simp] theorem dropHnd_rled (s : St) (t : Tid) : (s.dropHnd t).rled = s.rled := rfl
@[simp] theorem dropHnd_head (s : St) (t : Tid) : (s.dropHnd t).head = s.head := rfl
@[simp] theorem dropHnd_tail (s : St) (t : Tid) : (s.dropHnd t).tail = s.tail := rfl
@[simp] theorem dropHnd_zhead (s : St) (t : Tid) : (s.dropHnd t).zhead = s.zhead := rfl
@[simp] theorem dropHnd_wmtx (s : St) (t : Tid) : (s.dropHnd t).wmtx = s.wmtx := rfl
@[simp] theorem dropHnd_log (s : St) (t : Tid) : (s.dropHnd t).log = s.log := rfl
@[simp] theorem dropHnd_lst (s : St) (t : Tid) : (s.dropHnd t).lst = s.lst := rfl
@[simp] theorem dropHnd_order (s : St) (t : Tid) : (s.dropHnd t).order = s.order := rfl
@[simp] theorem dropHnd_live (s : St) (t : Tid) : (s.dropHnd t).live = s.live.erase t := rfl
@[simp] theorem dropHnd_dt (s : St) (t : Tid) : (s.dropHnd t).dt = s.dt := rfl
@[simp] theorem dropHnd_hnd (s : St) (t : Tid) : (s.dropHnd t).hnd = upd s.hnd t .none := rfl
@[simp] theorem dropHnd_it (s : St) (t : Tid) : (s.dropHnd t).it = upd s.it t none := rfl
@[simp] theorem dropHnd_pc (s : St) (t : Tid) : (s.dropHnd t).pc = s.pc := rfl

end ConcVerif.Rcu
