import ConcVerif.Model.SOH
/-! Lemmas about the sequential specification of SearchableObjectHolder (`Model/SOH.lean`):
sorted association lists (`lookup` / `emplace` / `erase` / `pushTag`), the predicate scan, and what
`apply` does to the two maps.  The list lemmas go by the functional induction of the operation they speak of:
one case per branch of its definition, the call already replaced by the branch's value. -/
namespace ConcVerif.SOH

/-- strictly ascending keys: the `std::map` invariant (sorted, keys unique) -/
def Sorted {α : Type} (l : List (Nat × α)) : Prop := l.Pairwise (fun a b => a.1 < b.1)

def WF (m : Maps) : Prop := Sorted m.objs ∧ Sorted m.tags

theorem sorted_nil {α : Type} : Sorted ([] : List (Nat × α)) := List.Pairwise.nil

theorem sorted_cons {α : Type} {a : Nat × α} {l : List (Nat × α)} :
    Sorted (a :: l) ↔ (∀ e ∈ l, a.1 < e.1) ∧ Sorted l := List.pairwise_cons

theorem sorted_cons_lt {α : Type} {a b : Nat × α} {l : List (Nat × α)} (h : Sorted (b :: l)) (hab : a.1 < b.1) :
    Sorted (a :: b :: l) :=
  sorted_cons.mpr ⟨List.forall_mem_cons.mpr ⟨hab, fun e he => Nat.lt_trans hab ((sorted_cons.mp h).1 e he)⟩, h⟩

section

variable {α : Type} {n x : Nat} {v w : α} {l : List (Nat × α)} {e : Nat × α}

theorem lookup_cons (x m : Nat) (w : α) (r : List (Nat × α)) :
    lookup x ((m, w) :: r) = if x = m then some w else lookup x r := rfl

theorem lookup_none_of_lt (h : ∀ e ∈ l, n < e.1) : lookup n l = none := by
  fun_induction lookup n l with
  | case1 => rfl
  | case2 w r => exact absurd (h _ List.mem_cons_self) (Nat.lt_irrefl n)
  | case3 m w r _ ih => exact ih (fun e he => h e (List.mem_cons_of_mem _ he))

theorem lookup_some_mem (h : lookup n l = some v) : (n, v) ∈ l := by
  fun_induction lookup n l with
  | case1 => cases h
  | case2 w r => cases h; exact List.mem_cons_self
  | case3 m w r _ ih => exact List.mem_cons_of_mem _ (ih h)

theorem lookup_none_not_mem {α : Type} {n : Nat} {l : List (Nat × α)} (h : lookup n l = none) : ∀ e ∈ l, e.1 ≠ n := by
  fun_induction lookup n l with
  | case1 => exact fun _ he => nomatch he
  | case2 w r => cases h
  | case3 m w r hne ih => exact List.forall_mem_cons.mpr ⟨fun hh => hne hh.symm, ih h⟩

theorem mem_lookup (hs : Sorted l) (h : (n, v) ∈ l) :
    lookup n l = some v := by
  fun_induction lookup n l with
  | case1 => cases h
  | case2 w r =>
    rcases List.mem_cons.mp h with h | h
    · cases h; rfl
    · exact absurd ((sorted_cons.mp hs).1 _ h) (Nat.lt_irrefl n)
  | case3 m w r hne ih =>
    rcases List.mem_cons.mp h with h | h
    · cases h; exact absurd rfl hne
    · exact ih (sorted_cons.mp hs).2 h

theorem sorted_key_unique {α : Type} {n : Nat} {v w : α} {l : List (Nat × α)} (hs : Sorted l)
    (h1 : (n, v) ∈ l) (h2 : (n, w) ∈ l) : v = w :=
  Option.some.inj ((mem_lookup hs h1).symm.trans (mem_lookup hs h2))

theorem mem_emplace (h : e ∈ emplace n v l) :
    e = (n, v) ∨ e ∈ l := by
  fun_induction emplace n v l with
  | case1 => exact .inl (List.mem_singleton.mp h)
  | case2 => exact List.mem_cons.mp h
  | case3 => exact .inr h
  | case4 m w r _ _ ih =>
    rcases List.mem_cons.mp h with h | h
    · exact .inr (h ▸ List.mem_cons_self)
    · exact (ih h).imp_right (List.mem_cons_of_mem _)

theorem mem_emplace_of_mem {α : Type} {n : Nat} {v : α} {l : List (Nat × α)} {e : Nat × α} (h : e ∈ l) :
    e ∈ emplace n v l := by
  fun_induction emplace n v l with
  | case1 => cases h
  | case2 => exact List.mem_cons_of_mem _ h
  | case3 => exact h
  | case4 m w r _ _ ih =>
    rcases List.mem_cons.mp h with h | h
    · exact h ▸ List.mem_cons_self
    · exact List.mem_cons_of_mem _ (ih h)

theorem sorted_emplace (hs : Sorted l) : Sorted (emplace n v l) := by
  fun_induction emplace n v l with
  | case1 => exact List.pairwise_singleton _ _
  | case2 m w r hlt => exact sorted_cons_lt hs hlt
  | case3 => exact hs
  | case4 m w r h1 h2 ih =>
    refine sorted_cons.mpr ⟨fun e he => ?_, ih (sorted_cons.mp hs).2⟩
    rcases mem_emplace he with rfl | he
    · show m < n; omega
    · exact (sorted_cons.mp hs).1 e he

/-- `emplace` never replaces: on a present key the map is unchanged -/
theorem emplace_present {α : Type} {n : Nat} {v w : α} {l : List (Nat × α)} (hs : Sorted l)
    (h : lookup n l = some w) : emplace n v l = l := by
  fun_induction lookup n l with
  | case1 => cases h
  | case2 u r => simp [emplace]
  | case3 m u r hne ih =>
    have : m < n := (sorted_cons.mp hs).1 _ (lookup_some_mem h)
    simp only [emplace, Nat.lt_asymm this, hne, if_false]
    rw [ih (sorted_cons.mp hs).2 h]

theorem lookup_emplace_absent (h : lookup n l = none) :
    lookup x (emplace n v l) = if x = n then some v else lookup x l := by
  fun_induction lookup n l with
  | case1 => rfl
  | case2 u r => cases h
  | case3 m u r hne ih =>
    simp only [emplace]
    split
    · rfl
    · simp only [lookup_cons, ih h]
      by_cases hxm : x = m
      · simp [hxm, Ne.symm hne]
      · simp [hxm]

theorem lookup_emplace (hs : Sorted l) :
    lookup x (emplace n v l) = if x = n then some ((lookup n l).getD v) else lookup x l := by
  cases h : lookup n l with
  | none => exact lookup_emplace_absent h
  | some w =>
    rw [emplace_present hs h]
    by_cases hx : x = n
    · rw [hx, h, if_pos rfl]; rfl
    · rw [if_neg hx]

theorem erase_sublist (n : Nat) (l : List (Nat × α)) : (erase n l).Sublist l := by
  fun_induction erase n l with
  | case1 => exact .slnil
  | case2 => exact List.sublist_cons_self _ _
  | case3 m u r _ ih => exact .cons_cons _ ih

theorem mem_of_mem_erase (h : e ∈ erase n l) : e ∈ l :=
  (erase_sublist n l).subset h

theorem sorted_erase (hs : Sorted l) : Sorted (erase n l) :=
  List.Pairwise.sublist (erase_sublist n l) hs

theorem lookup_erase (hs : Sorted l) :
    lookup x (erase n l) = if x = n then none else lookup x l := by
  fun_induction erase n l with
  | case1 => simp [lookup]
  | case2 u r =>
    by_cases hx : x = n
    · rw [hx, if_pos rfl]; exact lookup_none_of_lt (sorted_cons.mp hs).1
    · simp [lookup_cons, hx]
  | case3 m u r hne ih =>
    rw [lookup_cons, lookup_cons, ih (sorted_cons.mp hs).2]
    by_cases hxm : x = m
    · simp [hxm, Ne.symm hne]
    · simp [hxm]

theorem erase_absent {α : Type} {n : Nat} {l : List (Nat × α)} (h : lookup n l = none) : erase n l = l := by
  fun_induction lookup n l with
  | case1 => rfl
  | case2 u r => cases h
  | case3 m u r hne ih => simp only [erase, hne, if_false]; rw [ih h]

theorem mem_erase_iff (hs : Sorted l) :
    e ∈ erase n l ↔ e ∈ l ∧ e.1 ≠ n := by
  obtain ⟨x, v⟩ := e
  constructor
  · intro h
    refine ⟨mem_of_mem_erase h, fun hx : x = n => ?_⟩
    have := mem_lookup (sorted_erase hs) h
    rw [lookup_erase hs, if_pos hx] at this
    cases this
  · intro ⟨h, hx⟩
    apply lookup_some_mem
    rw [lookup_erase hs, if_neg hx]
    exact mem_lookup hs h

end

section

variable {n x : Nat} {ty : Ty} {l : List (Nat × List Ty)} {e : Nat × List Ty}

theorem mem_pushTag (h : e ∈ pushTag n ty l) :
    e.1 = n ∨ e ∈ l := by
  fun_induction pushTag n ty l with
  | case1 => exact .inl (congrArg Prod.fst (List.mem_singleton.mp h))
  | case2 => exact (List.mem_cons.mp h).imp_left (congrArg Prod.fst)
  | case3 w r => exact (List.mem_cons.mp h).imp (congrArg Prod.fst) (List.mem_cons_of_mem _)
  | case4 m w r _ _ ih =>
    rcases List.mem_cons.mp h with h | h
    · exact .inr (h ▸ List.mem_cons_self)
    · exact (ih h).imp_right (List.mem_cons_of_mem _)

theorem sorted_pushTag (hs : Sorted l) : Sorted (pushTag n ty l) := by
  fun_induction pushTag n ty l with
  | case1 => exact List.pairwise_singleton _ _
  | case2 m w r hlt => exact sorted_cons_lt hs hlt
  | case3 w r => have := sorted_cons.mp hs; exact sorted_cons.mpr this
  | case4 m w r h1 h2 ih =>
    refine sorted_cons.mpr ⟨fun e he => ?_, ih (sorted_cons.mp hs).2⟩
    rcases mem_pushTag he with he | he
    · show m < e.1; omega
    · exact (sorted_cons.mp hs).1 e he

/-- `typeMap[n].push_back(ty)`: the entry of `n` (created empty if missing) gets `ty` appended -/
theorem lookup_pushTag (hs : Sorted l) :
    lookup x (pushTag n ty l) =
      if x = n then some ((match lookup n l with | some w => w | none => []) ++ [ty]) else lookup x l := by
  fun_induction pushTag n ty l with
  | case1 => rfl
  | case2 m w r hlt =>
    rw [lookup_none_of_lt (l := (m, w) :: r) (List.forall_mem_cons.mpr
      ⟨hlt, fun e he => Nat.lt_trans hlt ((sorted_cons.mp hs).1 e he)⟩)]
    rfl
  | case3 w r => by_cases hx : x = n <;> simp [lookup_cons, hx]
  | case4 m w r h1 hne ih =>
    rw [lookup_cons, lookup_cons, lookup_cons, if_neg hne, ih (sorted_cons.mp hs).2]
    by_cases hxm : x = m
    · simp [hxm, Ne.symm hne]
    · simp [hxm]

end

section

variable {p : Pred} {ok : Name → Bool} {c : Nat} {l : List (Name × ObjId)} {n : Name} {k : ObjId}

def Pred.hit (p : Pred) (ok : Name → Bool) (e : Name × ObjId) : Bool := p.base.eval e.2 && ok e.1

theorem scan_found (h : scan p ok c l = .found n k) :
    ∃ pre post, l = pre ++ (n, k) :: post ∧ (∀ e ∈ pre, p.hit ok e = false) ∧ p.hit ok (n, k) = true := by
  fun_induction scan p ok c l with
  | case1 => cases h
  | case2 => cases h
  | case3 c m j r _ hhit => cases h; exact ⟨[], r, rfl, (fun _ he => nomatch he), hhit⟩
  | case4 c m j r _ hhit ih =>
    obtain ⟨pre, post, rfl, hpre, hk⟩ := ih h
    exact ⟨(m, j) :: pre, post, rfl, List.forall_mem_cons.mpr ⟨Bool.eq_false_iff.mpr hhit, hpre⟩, hk⟩

theorem scan_none (h : scan p ok c l = .none) : ∀ e ∈ l, p.hit ok e = false := by
  fun_induction scan p ok c l with
  | case1 => exact fun _ he => nomatch he
  | case2 => cases h
  | case3 => cases h
  | case4 c m j r _ hhit ih => exact List.forall_mem_cons.mpr ⟨Bool.eq_false_iff.mpr hhit, ih h⟩

theorem scan_nothrow (hp : p.thr = 0) (c : Nat) : scan p ok c l ≠ .threw := by
  fun_induction scan p ok c l with
  | case1 => exact Scan.noConfusion
  | case2 c m j r hthr => omega
  | case3 => exact Scan.noConfusion
  | case4 c m j r _ _ ih => exact ih

theorem scan_first {pre post : List (Name × ObjId)}
    (hp : p.thr = 0) (c : Nat) (hpre : ∀ e ∈ pre, p.hit ok e = false) (hk : p.hit ok (n, k) = true) :
    scan p ok c (pre ++ (n, k) :: post) = .found n k := by
  induction pre generalizing c with
  | nil => exact (if_neg (by omega)).trans (if_pos hk)
  | cons a r ih =>
    have hr := List.forall_mem_cons.mp hpre
    exact (if_neg (by omega)).trans ((if_neg (Bool.eq_false_iff.mp hr.1)).trans (ih (c + 1) hr.2))

theorem scan_threw {p : Pred} {ok : Name → Bool} {c : Nat} {l : List (Name × ObjId)} (h : scan p ok c l = .threw) :
    ∃ pre e post, l = pre ++ e :: post ∧ (∀ x ∈ pre, p.hit ok x = false) ∧ p.thr = c + pre.length + 1 := by
  fun_induction scan p ok c l with
  | case1 => cases h
  | case2 c m j r hthr => exact ⟨[], (m, j), r, rfl, (fun _ he => nomatch he), hthr⟩
  | case3 => cases h
  | case4 c m j r _ hhit ih =>
    obtain ⟨pre, e, post, rfl, hpre, ht⟩ := ih h
    exact ⟨(m, j) :: pre, e, post, rfl, List.forall_mem_cons.mpr ⟨Bool.eq_false_iff.mpr hhit, hpre⟩,
      by rw [ht, List.length_cons]; omega⟩

theorem scan_found_mem (h : scan p ok c l = .found n k) : (n, k) ∈ l := by
  obtain ⟨pre, post, rfl, _, _⟩ := scan_found h
  exact List.mem_append_right _ List.mem_cons_self

/-- for a predicate that never throws the scan IS "first hit in key order, if any" (`scan_found` / `scan_none`
with their converses) -/
theorem scan_found_iff (hp : p.thr = 0) (c : Nat) :
    (∃ n, scan p ok c l = .found n k) ↔
      ∃ n pre post, l = pre ++ (n, k) :: post ∧ p.hit ok (n, k) = true ∧ ∀ e ∈ pre, p.hit ok e = false :=
  ⟨fun ⟨n, hs⟩ => let ⟨pre, post, hl, hpre, hk⟩ := scan_found hs; ⟨n, pre, post, hl, hk, hpre⟩,
    fun ⟨n, _, _, hl, hk, hpre⟩ => ⟨n, hl ▸ scan_first hp c hpre hk⟩⟩

theorem scan_none_iff (hp : p.thr = 0) (c : Nat) :
    scan p ok c l = .none ↔ ∀ e ∈ l, p.hit ok e = false := by
  refine ⟨scan_none, fun hall => ?_⟩
  cases hs : scan p ok c l with
  | none => rfl
  | threw => exact absurd hs (scan_nothrow hp c)
  | found n k =>
    obtain ⟨pre, post, rfl, _, hk⟩ := scan_found hs
    exact absurd (hall _ (List.mem_append_right _ List.mem_cons_self)) (by rw [hk]; exact Bool.noConfusion)

theorem search_some {sc : Scan} {k : ObjId} :
    (match sc with | .found _ k => Res.obj (some k) | .none => .obj none | .threw => .threw) = .obj (some k) ↔
      ∃ n, sc = .found n k := by
  cases sc <;> simp

theorem search_none {sc : Scan} :
    (match sc with | .found _ k => Res.obj (some k) | .none => .obj none | .threw => .threw) = .obj none ↔
      sc = .none := by
  cases sc <;> simp

end

variable {m : Maps} {op : Op}

theorem apply_wf (h : WF m) (op : Op) : WF (apply m op).1 := by
  obtain ⟨ho, ht⟩ := h
  cases op with
  | empty | get | chk | find | fp | fpt => exact ⟨ho, ht⟩
  | add => exact ⟨sorted_emplace ho, ht⟩
  | addType => exact ⟨ho, sorted_pushTag ht⟩
  | addT =>
    simp only [apply]; split
    · exact ⟨sorted_emplace ho, ht⟩
    · exact ⟨sorted_emplace ho, sorted_emplace ht⟩
  | rm =>
    simp only [apply]; split
    · exact ⟨sorted_erase ho, sorted_erase ht⟩
    · exact ⟨ho, ht⟩
  | rp =>
    simp only [apply]; split
    · exact ⟨sorted_erase ho, sorted_erase ht⟩
    · exact ⟨ho, ht⟩
    · exact ⟨ho, ht⟩
  | cp =>
    simp only [apply]; split
    · exact ⟨ho, ht⟩
    · split
      · exact ⟨sorted_emplace ho, ht⟩
      · refine ⟨sorted_emplace ho, ?_⟩
        split
        · exact sorted_emplace ht
        · exact ht

/-- which calls can end with an exception at all -/
def Op.hasPred : Op → Bool
  | .rp _ => true
  | .fp _ => true
  | .fpt _ _ => true
  | _ => false

theorem apply_threw_pred (h : (apply m op).2 = .threw) : op.hasPred = true := by
  cases op with
  | rp | fp | fpt => rfl
  | add | addType | empty | get | chk | find => cases h
  | addT | rm => simp only [apply] at h; split at h <;> cases h
  | cp =>
    simp only [apply] at h; split at h
    · cases h
    · split at h <;> cases h

theorem apply_threw_unchanged (h : (apply m op).2 = .threw) : (apply m op).1 = m := by
  cases op with
  | empty | get | chk | find | fp | fpt => rfl
  | add | addT | addType | rm | cp => cases apply_threw_pred h
  | rp p =>
    simp only [apply] at h ⊢
    split at h
    · cases h
    · rfl
    · rfl

theorem apply_objs_ids {e : Name × ObjId} (h : e ∈ (apply m op).1.objs) :
    (∃ e' ∈ m.objs, e'.2 = e.2) ∨ op.newId = some e.2 := by
  have keep : e ∈ m.objs → (∃ e' ∈ m.objs, e'.2 = e.2) ∨ op.newId = some e.2 := fun h => .inl ⟨e, h, rfl⟩
  cases op with
  | addType | empty | get | chk | find | fp | fpt => exact keep h
  | add n k =>
    rcases mem_emplace h with rfl | h
    · exact .inr rfl
    · exact keep h
  | addT n k ty =>
    have : e ∈ emplace n k m.objs := by simp only [apply] at h; split at h <;> exact h
    rcases mem_emplace this with rfl | h
    · exact .inr rfl
    · exact keep h
  | rm n =>
    simp only [apply] at h; split at h
    · exact keep (mem_of_mem_erase h)
    · exact keep h
  | rp p =>
    simp only [apply] at h; split at h
    · exact keep (mem_of_mem_erase h)
    · exact keep h
    · exact keep h
  | cp a b =>
    simp only [apply] at h; split at h
    · exact keep h
    · rename_i k hk
      have : e ∈ emplace b k m.objs := by split at h <;> exact h
      rcases mem_emplace this with rfl | h
      · exact .inl ⟨(a, k), lookup_some_mem hk, rfl⟩
      · exact keep h

theorem mem_ids_obj {o : Option ObjId} {k : ObjId} (h : k ∈ (Res.obj o).ids) : o = some k := by
  cases o with
  | none => cases h
  | some j => exact congrArg some (List.mem_singleton.mp h).symm

theorem apply_res_ids {k : ObjId} (h : k ∈ (apply m op).2.ids) : ∃ e ∈ m.objs, e.2 = k := by
  cases op with
  | add | addType | empty | chk => cases h
  | addT | rm | rp => simp only [apply] at h; split at h <;> cases h
  | cp =>
    simp only [apply] at h; split at h
    · cases h
    · split at h <;> cases h
  | get => exact List.mem_map.mp h
  | find n => exact ⟨(n, k), lookup_some_mem (mem_ids_obj h), rfl⟩
  | fp | fpt =>
    simp only [apply] at h; split at h
    · rename_i n j hs
      cases mem_ids_obj h
      exact ⟨(n, k), scan_found_mem hs, rfl⟩
    · cases h
    · cases h

end ConcVerif.SOH
