import ConcVerif.Proof.HBDDStep
import ConcVerif.Proof.HBComplete
/-! Connection of the DelayedDestructor model to the happens-before layer (mapping: `Proof/HBDDMap.lean`), and, in the
second half, the ordering of conflicting accesses to the vector.

Simulation invariant `Sim`, for every accepted trace `es` ending in state `s`:
* `HB.held (hbTrace es) u 0` mirrors `s.lock`, and the mapped trace is consistent with mutex semantics;
* while the container is alive (`s.dead = none`) every access to the vector is made under `destructionLock`;
* once `~DelayedDestructor` has started in thread `d` (event `callDtor` at position `p`), everything in the mapped
  trace from that event on that is not a `nop` — every lock operation, every access — is done by `d`.

The accesses of `~DelayedDestructor` itself are made WITHOUT the lock (the code takes none), so they are ordered after
the other threads' critical sections only if the client orders the destructor call after them: `DtorOrdered`. -/
namespace ConcVerif.DD

variable {js : List Tid} {cb : Bool} {ns nt : Nat} {es : List (Tid × Ev)} {s s' : St} {t : Tid} {e : Ev}

structure Sim (js : List Tid) (cb : Bool) (ns nt : Nat) (es : List (Tid × Ev)) (s : St) : Prop where
  mtx : HB.Agrees (hbTrace js cb ns nt es) 0 (HB.ofOwner s.lock)
  live : s.dead = none → HB.LockSet (hbTrace js cb ns nt es) 0 0
  dt : ∀ d, s.dead = some d → ∃ p, es[p]? = some (d, Ev.callDtor) ∧
    OwnedFrom (hbTrace js cb ns nt es) (hbTrace js cb ns nt (es.take p)).length d

theorem callDtor_inv (h : step s t .callDtor = some s') :
    s.stk t = [] ∧ s.act = [] ∧ s.dead = none ∧ s'.dead = some t := by
  obtain ⟨fs, hfs, hS⟩ := Step.inv h
  cases hS with
  | user _ h =>
    cases h with
    | callDtor hfs' ha hd => exact ⟨hfs.trans hfs', ha, hd, xTop_dead ..⟩

theorem sim_init (js : List Tid) (cb : Bool) (ns nt : Nat) : Sim js cb ns nt [] (init cb ns nt) :=
  ⟨⟨fun _ => rfl, HB.mutexOK_nil⟩, fun _ => HB.lockSet_nil 0 0, fun d h => by simp [init] at h⟩

theorem sim_step (hr : run cb ns nt es = some s) (hS : Sim js cb ns nt es s) (hs : step s t e = some s') :
    Sim js cb ns nt (es ++ [(t, e)]) s' := by
  have hreach : Reachable cb ns nt s := ⟨es, hr⟩
  have hDt := (inv_reachable hreach).dt
  have hPY := py_reachable hreach
  refine ⟨?_, ?_, ?_⟩
  · rw [hbTrace_snoc js hr hs, toHB]
    exact agrees_step hS.mtx (step_cs hs) (fun y hy => (xHB_free _ _ _ _ _ y hy).inert)
  · intro hd'
    have hd : s.dead = none := by
      rcases (Step.of_step hs).dead with h1 | ⟨_, _, h3, _⟩
      · rw [← h1]; exact hd'
      · rw [h3] at hd'; cases hd'
    have hx : xHB js s t (s.stk t) e = [] := by
      apply Classical.byContradiction; intro hne
      rcases xHB_ne_nil hne with ⟨_, he⟩ | ⟨f, hf, hfx⟩
      · subst he
        rw [(callDtor_inv hs).2.2.2] at hd'; cases hd'
      · exact (hDt.pf t f hf).2.2 hfx hd
    rw [hbTrace_snoc js hr hs, toHB, hx, List.append_nil]
    exact ls_step (hS.live hd) hS.mtx (step_cs hs)
  · intro d hd'
    rcases (Step.of_step hs).dead with h1 | ⟨_, _, h3, _, h5⟩
    · rw [h1] at hd'
      obtain ⟨p, hp, ho⟩ := hS.dt d hd'
      have hpl := HB.lq_lt hp
      refine ⟨p, HB.lq_mono _ hp, ?_⟩
      rw [List.take_append_of_le_length (Nat.le_of_lt hpl), hbTrace_snoc js hr hs]
      apply ownedFrom_append ho
      by_cases htd : t = d
      · exact .inl htd
      · right
        rw [toHB_other hs hd' (hPY d hd' t htd)]
        intro x hx; simpa using hx
    · rw [h3] at hd'; injection hd' with hd'; subst hd'
      subst h5
      refine ⟨es.length, HB.lq_last _ _, ?_⟩
      rw [List.take_left' rfl, hbTrace_snoc js hr hs]
      exact ownedFrom_start _ _ _

theorem sim_run (js : List Tid) (h : run cb ns nt es = some s) : Sim js cb ns nt es s :=
  runFrom_trace_inv (P := Sim js cb ns nt) (sim_init js cb ns nt) (fun _ _ _ _ _ hr hS hs => sim_step hr hS hs) h

theorem mem_hbFrom {es : List (Tid × Ev)} {u : Tid} {x : HB.Ev}
    (h : (u, x) ∈ hbFrom js s es) : ∃ s1 s2 e, step s1 u e = some s2 ∧ x ∈ toHB js s1 u e := by
  induction es generalizing s with
  | nil => simp [hbFrom] at h
  | cons p es ih =>
    obtain ⟨t, e⟩ := p
    unfold hbFrom at h
    cases h2 : step s t e with
    | none => simp [h2] at h
    | some s2 =>
      simp only [h2] at h
      rcases List.mem_append.1 h with h | h
      · obtain ⟨h3, h4⟩ := mem_evs h
        subst h3
        exact ⟨s, s2, e, h2, h4⟩
      · exact ih h

theorem cs_loc {l l' : Option Tid} {cs : List HB.Ev} (hc : CsShape t l l' cs) {x : HB.Ev} (hx : x ∈ cs)
    {y : HB.Loc} (ha : x.accesses y) : y = 0 := by
  have key : ∀ z, IsAcc z → z.accesses y → y = 0 := by
    intro z hz hzy
    rcases hz with hz | hz <;> subst hz <;> rcases hzy with h | h <;> cases h <;> rfl
  cases hc with
  | acq acc _ _ h3 =>
    rcases List.mem_cons.1 hx with hx | hx
    · subst hx; rcases ha with h | h <;> cases h
    · exact key x (h3 x hx) ha
  | rel pre _ _ h3 =>
    rcases List.mem_append.1 hx with hx | hx
    · exact key x (h3 x hx) ha
    · simp at hx; subst hx; rcases ha with h | h <;> cases h
  | nop _ => simp at hx; subst hx; rcases ha with h | h <;> cases h

theorem hbTrace_access {i : Nat}
    {x : HB.Ev} {y : HB.Loc} (h : (hbTrace js cb ns nt es)[i]? = some (t, x)) (ha : x.accesses y) : y = 0 := by
  obtain ⟨s1, s2, e, hs, hx⟩ := mem_hbFrom (List.mem_of_getElem? h)
  unfold toHB at hx
  rcases List.mem_append.1 hx with hx | hx
  · exact cs_loc (step_cs hs) hx ha
  · rcases xHB_free _ _ _ _ _ x hx with h1 | h1 | ⟨u, h1⟩ <;> subst h1 <;> rcases ha with h | h <;> cases h <;> rfl

/-! ## Happens-before ordering of conflicting accesses to the vector of the DelayedDestructor model.

Before `~DelayedDestructor` starts, the lockset theorem applies.  From `callDtor` on, all accesses belong to the
destructor's thread (program order).  What remains is a pair (access of another thread before the destructor, access of
the destructor): these are ordered exactly when the client orders the destructor call after the other threads' use of
the container — hypothesis `DtorOrdered`; joining the other threads (`js`) is one way to discharge it. -/

theorem split_at {α : Type} {l : List α} {p : Nat} {x : α} (h : l[p]? = some x) :
    l = l.take p ++ x :: l.drop (p + 1) := by
  have hpl := HB.lq_lt h
  conv => lhs; rw [← List.take_append_drop p l]
  congr 1
  rw [List.drop_eq_getElem_cons hpl]
  congr 1
  exact (List.getElem?_eq_some_iff.mp h).2

theorem topAcc_head (s : St) : ∃ tl, topAcc s = .rd 0 :: tl := by
  unfold topAcc; split
  · exact ⟨_, rfl⟩
  · exact ⟨_, rfl⟩

/-- the events the start of the destructor maps to, in front of its first access -/
def dtorHead (js : List Tid) (d : Tid) : HB.Trace := (d, .nop) :: evs d (js.map HB.Ev.join)

@[simp] theorem dtorHead_length (js : List Tid) (d : Tid) : (dtorHead js d).length = 1 + js.length := by
  simp [dtorHead]; omega

/-- shape of the mapped trace around the start of the container's destructor: the prefix before `callDtor` (an
accepted trace in which the container is alive), then `nop`, the joins, the first `empty()` test -/
theorem hbTrace_dtor (js : List Tid) {p : Nat} {d : Tid}
    (h : run cb ns nt es = some s) (hp : es[p]? = some (d, Ev.callDtor)) :
    ∃ s1 rest, run cb ns nt (es.take p) = some s1 ∧ s1.dead = none ∧
      hbTrace js cb ns nt es = hbTrace js cb ns nt (es.take p) ++ (dtorHead js d ++ (d, .rd 0) :: rest) := by
  obtain ⟨s1, s2, h1, h2⟩ := runFrom_at h hp
  obtain ⟨hstk, _, hdead, _⟩ := callDtor_inv h2
  obtain ⟨tl, htl⟩ := topAcc_head s1
  refine ⟨s1, evs d tl ++ hbFrom js s2 (es.drop (p + 1)), h1, hdead, ?_⟩
  have hsplit := split_at hp
  unfold hbTrace
  conv => lhs; rw [hsplit]
  rw [hbFrom_append js h1]
  congr 1
  simp only [hbFrom, h2, toHB, hstk, csOf, xHB, htl, dtorHead, evs, List.map_append, List.map_cons,
    List.cons_append, List.nil_append, List.append_assoc]

theorem get_mid_at {α : Type} (pre : List α) {mid : List α} (post : List α) {k : Nat} {y : α} (h : mid[k]? = some y) :
    (pre ++ (mid ++ post))[pre.length + k]? = some y := by
  rw [List.getElem?_append_right (by omega), Nat.add_sub_cancel_left, List.getElem?_append_left (HB.lq_lt h)]
  exact h

theorem get_after_mid {α : Type} (pre mid : List α) (x : α) (rest : List α) :
    (pre ++ (mid ++ x :: rest))[pre.length + mid.length]? = some x := by
  rw [List.getElem?_append_right (by omega), Nat.add_sub_cancel_left, List.getElem?_append_right (by omega)]
  simp

theorem get_in_mid {α : Type} {pre mid post : List α} {j : Nat} {y : α} (h1 : pre.length ≤ j)
    (h2 : j < pre.length + mid.length) (h : (pre ++ (mid ++ post))[j]? = some y) : y ∈ mid := by
  rw [List.getElem?_append_right h1, List.getElem?_append_left (by omega)] at h
  exact List.mem_of_getElem? h

theorem dtorHead_noacc {d u : Tid} {x : HB.Ev} (h : (u, x) ∈ dtorHead js d) : ¬ IsAcc x := by
  unfold dtorHead at h
  rcases List.mem_cons.1 h with h | h
  · injection h with _ h; subst h; intro ha; rcases ha with ha | ha <;> cases ha
  · obtain ⟨_, h2⟩ := mem_evs h
    simp only [List.mem_map] at h2
    obtain ⟨v, _, rfl⟩ := h2
    intro ha; rcases ha with ha | ha <;> cases ha

/-- **Client obligation for destroying the container.**  For every start of `~DelayedDestructor` (event `callDtor`
of thread `d` at position `p` of the model trace): every access to the vector that ANOTHER thread made before it
happens-before the destructor's first access to the vector (its first `empty()` test, at position
`|hbTrace (es.take p)| + 1 + |js|` of the mapped trace).  Vacuous for traces without `callDtor`. -/
def DtorOrdered (js : List Tid) (cb : Bool) (ns nt : Nat) (es : List (Tid × Ev)) : Prop :=
  ∀ p d, es[p]? = some (d, Ev.callDtor) → ∀ i u x, i < (hbTrace js cb ns nt (es.take p)).length →
    (hbTrace js cb ns nt es)[i]? = some (u, x) → u ≠ d → x.accesses 0 →
    HB.HB (hbTrace js cb ns nt es) i ((hbTrace js cb ns nt (es.take p)).length + (1 + js.length))

theorem dd_hb
    (h : run cb ns nt es = some s) (ho : DtorOrdered js cb ns nt es) {i j : Nat} (hij : i < j)
    (hc : HB.ConflictOn (hbTrace js cb ns nt es) 0 i j) : HB.HB (hbTrace js cb ns nt es) i j := by
  have hS := sim_run js h
  cases hd : s.dead with
  | none => exact HB.lockset_hb hS.mtx.2 (hS.live hd) hij hc
  | some d =>
    obtain ⟨p, hp, hown⟩ := hS.dt d hd
    obtain ⟨s1, rest, hr1, hd1, htr⟩ := hbTrace_dtor js h hp
    have hS1 := sim_run js hr1
    obtain ⟨t, u, ei, ej, h1, h2, ha1, ha2, hor⟩ := hc
    have nn : ∀ {x : HB.Ev}, x.accesses 0 → x ≠ .nop := by
      intro x hx hn; subst hn; rcases hx with hx | hx <;> cases hx
    by_cases hjc : j < (hbTrace js cb ns nt (es.take p)).length
    · -- both accesses before the destructor: lockset
      have h1' := h1; have h2' := h2
      rw [htr, List.getElem?_append_left (by omega)] at h1'
      rw [htr, List.getElem?_append_left hjc] at h2'
      have := HB.lockset_hb hS1.mtx.2 (hS1.live hd1) hij ⟨t, u, ei, ej, h1', h2', ha1, ha2, hor⟩
      rw [htr]; exact this.mono _
    · have hju : u = d := hown j u ej (by omega) h2 (nn ha2)
      subst hju
      by_cases hic : (hbTrace js cb ns nt (es.take p)).length ≤ i
      · have hiu : t = u := hown i t ei hic h1 (nn ha1)
        subst hiu; exact .po hij h1 h2
      · by_cases htd : t = u
        · subst htd; exact .po hij h1 h2
        · have hia := ho p u hp i t ei (by omega) h1 htd ha1
          have ha : (hbTrace js cb ns nt es)[(hbTrace js cb ns nt (es.take p)).length + (1 + js.length)]? =
              some (u, .rd 0) := by
            have := get_after_mid (hbTrace js cb ns nt (es.take p)) (dtorHead js u) (u, HB.Ev.rd 0) rest
            rw [dtorHead_length] at this
            rw [htr]; exact this
          have hja : (hbTrace js cb ns nt (es.take p)).length + (1 + js.length) ≤ j := by
            apply Classical.byContradiction; intro hlt
            have h2' := h2
            rw [htr] at h2'
            have := get_in_mid (by omega) (by rw [dtorHead_length]; omega) h2'
            exact dtorHead_noacc this ha2
          by_cases heq : (hbTrace js cb ns nt (es.take p)).length + (1 + js.length) = j
          · rw [← heq]; exact hia
          · exact .trans hia (.po (by omega) ha h2)

theorem dd_no_race
    (h : run cb ns nt es = some s) (ho : DtorOrdered js cb ns nt es) : ¬ HB.Race (hbTrace js cb ns nt es) := by
  intro ⟨i, j, hij, ⟨x, hc⟩, hn⟩
  have hx : x = 0 := by
    obtain ⟨t, u, ei, ej, h1, _, ha, _⟩ := hc
    exact hbTrace_access h1 ha
  subst hx
  exact hn (dd_hb h ho hij hc)

theorem dead_of_callDtor {p : Nat} {d : Tid}
    (h : run cb ns nt es = some s) (hp : es[p]? = some (d, Ev.callDtor)) : s.dead = some d := by
  obtain ⟨s1, s2, _, h2, h3⟩ := runFrom_split_at h hp
  have hkeep : ∀ (a : St) (t : Tid) (e : Ev) (b : St), a.dead = some d → step a t e = some b → b.dead = some d := by
    intro a t e b ha hs
    rcases (Step.of_step hs).dead with h3 | ⟨_, h4, _⟩
    · rw [h3]; exact ha
    · rw [h4] at ha; cases ha
  exact runFrom_inv (Inv := fun a => a.dead = some d) hkeep (callDtor_inv h2).2.2.2 h3

theorem dtorOrdered_live
    (h : run cb ns nt es = some s) (hd : s.dead = none) : DtorOrdered js cb ns nt es := by
  intro p d hp
  rw [dead_of_callDtor h hp] at hd; cases hd

/-- **Joining discharges the obligation.**  If every thread other than the destructor's that accessed the vector
is among the joined threads `js`, the destructor is ordered after all of them. -/
theorem dtorOrdered_joined
    (h : run cb ns nt es = some s)
    (hj : ∀ (i : Nat) (u : Tid) (x : HB.Ev), (hbTrace js cb ns nt es)[i]? = some (u, x) → x.accesses 0 →
      u ∈ js ∨ s.dead = some u) :
    DtorOrdered js cb ns nt es := by
  intro p d hp i u x hi hget hud hacc
  obtain ⟨s1, rest, hr1, hd1, htr⟩ := hbTrace_dtor js h hp
  have hdd : s.dead = some d := dead_of_callDtor h hp
  have huj : u ∈ js := by
    rcases hj i u x hget hacc with h1 | h1
    · exact h1
    · rw [hdd] at h1; injection h1 with h1; exact absurd h1.symm hud
  obtain ⟨k, hk⟩ := List.getElem?_of_mem huj
  have hkl := HB.lq_lt hk
  -- position of `join u`
  have hjoin : (hbTrace js cb ns nt es)[(hbTrace js cb ns nt (es.take p)).length + (1 + k)]? = some (d, .join u) := by
    rw [htr]
    apply get_mid_at
    simp only [dtorHead, evs]
    rw [Nat.add_comm 1 k, List.getElem?_cons_succ, List.getElem?_map, List.getElem?_map, hk]; rfl
  have hfirst : (hbTrace js cb ns nt es)[(hbTrace js cb ns nt (es.take p)).length + (1 + js.length)]? =
      some (d, .rd 0) := by
    have := get_after_mid (hbTrace js cb ns nt (es.take p)) (dtorHead js d) (d, HB.Ev.rd 0) rest
    rw [dtorHead_length] at this
    rw [htr]; exact this
  exact .trans (.sw (.join (by omega) hget hjoin)) (.po (by omega) hjoin hfirst)

/-- membership form of `dtorOrdered_joined` (decidable on concrete traces) -/
theorem dtorOrdered_joined'
    (h : run cb ns nt es = some s)
    (hj : ∀ p ∈ hbTrace js cb ns nt es, p.2.accesses 0 → p.1 ∈ js ∨ (p.1, Ev.callDtor) ∈ es) :
    DtorOrdered js cb ns nt es := by
  apply dtorOrdered_joined h
  intro i u x hi ha
  rcases hj (u, x) (List.mem_of_getElem? hi) ha with h1 | h1
  · exact .inl h1
  · obtain ⟨q, hq⟩ := List.getElem?_of_mem h1
    exact .inr (dead_of_callDtor h hq)

end ConcVerif.DD
