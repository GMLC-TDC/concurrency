import ConcVerif.Proof.LRObs
/-! Facts about single steps of the left-right model: who can change `strict`, other pcs, the copies, `committed`, `base`,
`snap`; what a handle owner can do; how a `modify` gets to its return points and (`RetInv`, over `Full`) that its
operation is committed by then; the read-call vocabulary of C14 (`Pc.inReadCall`, `Pc.rdLeft`). -/
namespace ConcVerif.LR

variable {s s' : St} {t u r : Tid} {e : Ev} {p p' : Pc} {es : List (Tid × Ev)} {c x : Side} {op : OpId}
  {pc : Tid → Pc}

@[simp] theorem waitSeen_eq (op : OpId) (l : Side) (zL zR : Bool) (c : Side) :
    waitSeen op l zL zR c = .wWait op l (zL || decide (c = .L)) (zR || decide (c = .R)) := by
  cases c <;> simp [waitSeen]

theorem step_strict (hs : step s t e = some s') : s'.strict = s.strict := by
  induction Step.of_step hs with
  | inc | dec => exact setReg_strict ..
  | fEnd1 | cpEndRb | fEnd2 | cpEndRf => exact setVal_strict ..
  | _ => rfl

theorem step_pc_other (hs : step s t e = some s') (hu : u ≠ t) : s'.pc u = s.pc u := by
  induction Step.of_step hs with
  | cntWait | yld | stCL | fin | reRL | reCL | reCnt => rfl
  | inc | dec => exact (upd_other _ _ _ _ hu).trans (congrFun (setReg_pc ..) u)
  | fEnd1 | cpEndRb | fEnd2 | cpEndRf => exact (upd_other _ _ _ _ hu).trans (congrFun (setVal_pc ..) u)
  | _ => exact upd_other _ _ _ _ hu

theorem setVal_val_or (s : St) (y : Side) (v : List OpId) (x : Side) : (s.setVal y v).val x = s.val x ∨ y = x := by
  cases y <;> cases x <;> first | exact .inl rfl | exact .inr rfl

/-- a step changes the value of side `x` only if its thread is in a write window on `x` -/
theorem step_val (x : Side) (hs : step s t e = some s') :
    s'.val x = s.val x ∨ (s.pc t).writing = some x := by
  induction Step.of_step hs with
  | inc | dec => exact .inl (setReg_val ..)
  | fEnd1 hpc | cpEndRb hpc | fEnd2 hpc | cpEndRf hpc =>
    exact (setVal_val_or _ _ _ x).imp id fun hx => by rw [← hx, hpc]; rfl
  | _ => exact .inl rfl

/-- `committed` is changed only by the store that flips `rl`, which appends the holder's operation -/
theorem step_committed (hs : step s t e = some s') :
    s'.committed = s.committed ∨
    ∃ op l, s.pc t = .wF1d op l ∧ e = .stRL l.flip ∧ s'.rl = l.flip ∧ s'.committed = s.committed ++ [op] := by
  induction Step.of_step hs with
  | stRL hpc => exact .inr ⟨_, _, hpc, rfl, rfl, rfl⟩
  | inc | dec => exact .inl (setReg_committed ..)
  | fEnd1 | cpEndRb | fEnd2 | cpEndRf => exact .inl (setVal_committed ..)
  | _ => exact .inl rfl

theorem step_committed_le (hs : step s t e = some s') : s.committed <+: s'.committed := by
  rcases step_committed hs with h | ⟨op, l, _, _, _, h⟩
  · rw [h]; exact List.prefix_refl _
  · rw [h]; exact List.prefix_append _ _

theorem run_committed_le {s s' : St} {es : List (Tid × Ev)} (hr : run s es = some s') : s.committed <+: s'.committed :=
  runFrom_rel (R := fun (a b : St) => a.committed <+: b.committed) (fun _ => List.prefix_refl _)
    (fun _ _ _ h1 h2 => h1.trans h2) (fun _ _ _ _ hs => step_committed_le hs) hr

/-- what a thread that owns a handle can do: read the side it holds (observing exactly its value), or start releasing -/
theorem step_hold (hpc : s.pc r = .rdHold c x) (hs : step s r e = some s') :
    (∃ v, e = .rd x v ∧ v = s.val x ∧ s'.pc r = .rdHold c x ∧ s'.lastSeen r = v ∧ ∀ y, s'.val y = s.val y) ∨
    (e = .call .rel ∧ s'.pc r = .rdRel c x) := by
  induction Step.of_step hs with
  | rd h => cases hpc.symm.trans h; exact .inl ⟨_, rfl, rfl, upd_same .., upd_same .., fun _ => rfl⟩
  | callRel h => cases hpc.symm.trans h; exact .inr ⟨rfl, upd_same ..⟩
  | reRL h | reCL h | reCnt h _ => rw [hpc] at h; cases h
  | lock h | unlockRb h | unlockF2 h | unlockRf h | cntZero h | cntWait h | fin h => cases hpc.symm.trans h
  | _ => rename_i h; cases hpc.symm.trans h

theorem step_to_ret (hs : step s t e = some s') (h' : s'.pc t = .wRet op) :
    ∃ l, s.pc t = .wF2d op l ∧ s'.committed = s.committed := by
  induction Step.of_step hs with
  | unlockF2 hpc => cases h'.symm.trans (upd_same ..); exact ⟨_, hpc, rfl⟩
  | cntWait hpc | yld hpc | stCL hpc | fin hpc => cases h'.symm.trans hpc
  | reRL hp | reCL hp | reCnt hp _ => rw [h'] at hp; cases hp
  | @cntZero _ _ _ _ c => cases c <;> cases h'.symm.trans (upd_same ..)
  | _ => cases h'.symm.trans (upd_same ..)

/-- how a thread gets to the point of leaving `modify(op)` by exception: by unlocking after a roll-back (first
application threw) or after a roll-forward (second application threw) -/
theorem step_to_exc {fwd : Bool} (hs : step s t e = some s')
    (h' : s'.pc t = .wExc op fwd) :
    s'.committed = s.committed ∧
    ((fwd = false ∧ ∃ l, s.pc t = .wRbD op l) ∨ (fwd = true ∧ ∃ l, s.pc t = .wRfD op l)) := by
  induction Step.of_step hs with
  | unlockRb hpc => cases h'.symm.trans (upd_same ..); exact ⟨rfl, .inl ⟨rfl, _, hpc⟩⟩
  | unlockRf hpc => cases h'.symm.trans (upd_same ..); exact ⟨rfl, .inr ⟨rfl, _, hpc⟩⟩
  | cntWait hpc | yld hpc | stCL hpc | fin hpc => cases h'.symm.trans hpc
  | reRL hp | reCL hp | reCnt hp _ => rw [h'] at hp; cases hp
  | @cntZero _ _ _ _ c => cases c <;> cases h'.symm.trans (upd_same ..)
  | _ => cases h'.symm.trans (upd_same ..)

/-- a `modify(op)` that is about to return normally, or to rethrow after its second application threw, has
its operation in `committed` -/
def RetInv (s : St) : Prop :=
  ∀ t op, (s.pc t = .wRet op ∨ s.pc t = .wExc op true) → op ∈ s.committed

theorem retinv_step (hf : Full s) (h : RetInv s) (hs : step s t e = some s') :
    RetInv s' := by
  intro u op hu
  by_cases hut : u = t
  · subst hut
    rcases hu with hu | hu
    · obtain ⟨l, hl, hc⟩ := step_to_ret hs hu
      have vk := hf.vinv.vk u (by simp [hl, Pc.post]); rw [hl] at vk
      rw [hc, vk.1]; simp
    · obtain ⟨hc, hk⟩ := step_to_exc hs hu
      rcases hk with ⟨hk, _⟩ | ⟨_, l, hl⟩
      · cases hk
      · have vk := hf.vinv.vk u (by simp [hl, Pc.post]); rw [hl] at vk
        rw [hc, vk.1]; simp
  · rw [step_pc_other hs hut] at hu
    exact (step_committed_le hs).subset (h u op hu)

theorem ret_committed (h : Reachable s) : RetInv s := by
  obtain ⟨b, es, hes⟩ := h
  have := runFrom_inv (Inv := fun s => Full s ∧ RetInv s)
    (fun _ _ _ _ hi hst => ⟨full_step hi.1 hst, retinv_step hi.1 hi.2 hst⟩)
    ⟨full_init b, by intro t op h; simp [init] at h⟩ hes
  exact this.2

theorem reachable_run (h : Reachable s) (hr : run s es = some s') : Reachable s' := by
  obtain ⟨b, es0, h0⟩ := h
  refine ⟨b, es0 ++ es, ?_⟩
  simp only [run] at *
  rw [runFrom_append, h0]; exact hr

theorem reachable_step (h : Reachable s) (hs : step s t e = some s') : Reachable s' :=
  reachable_run (es := [(t, e)]) h (by simp [run, runFrom, hs])

/-- pcs of a thread inside `lock_shared` or owning / destroying a handle: `snap` is the value of `committed` at its call -/
def Pc.inRead : Pc → Bool
  | .rdCalled | .rdCL _ | .rdInc _ | .rdGot _ _ | .rdHold _ _ | .rdRel _ _ => true
  | _ => false

theorem held_inRead (h : p.held = some x) : p.inRead = true := by
  cases p <;> simp_all [Pc.held, Pc.inRead]

theorem inRead_upd (h : (!p'.inRead || (pc t).inRead) = true) (u : Tid) :
    (upd pc t p' u).inRead = true → (pc u).inRead = true := by
  by_cases hu : u = t
  · subst hu; rw [upd_same]; intro h'; rwa [h'] at h
  · rw [upd_other _ _ _ _ hu]; exact id

/-- `snap u` changes only when `u` calls `lock_shared` (from idle), and then becomes `committed` -/
theorem step_snap (hs : step s t e = some s') (u : Tid) :
    (s'.snap u = s.snap u ∧ ((s'.pc u).inRead = true → (s.pc u).inRead = true)) ∨
    (u = t ∧ s.pc t = .idle ∧ s'.snap u = s.committed) := by
  induction Step.of_step hs with
  | callLs hpc =>
    by_cases hu : u = t
    · subst hu; exact .inr ⟨rfl, hpc, upd_same ..⟩
    · exact .inl ⟨upd_other _ _ _ _ hu, by rw [setPc_pc, if_neg hu]; exact id⟩
  | inc hpc => exact .inl ⟨congrFun (setReg_snap ..) u, setReg_setPc_pc .. ▸ inRead_upd (hpc ▸ rfl) u⟩
  | dec => exact .inl ⟨congrFun (setReg_snap ..) u, setReg_setPc_pc .. ▸ inRead_upd rfl u⟩
  | fEnd1 | cpEndRb | fEnd2 | cpEndRf =>
    exact .inl ⟨congrFun (setVal_snap ..) u, setVal_setPc_pc .. ▸ inRead_upd rfl u⟩
  | cntWait | yld | stCL | fin | reRL | reCL | reCnt => exact .inl ⟨rfl, id⟩
  | @cntZero _ _ _ _ c => exact .inl ⟨rfl, inRead_upd (by cases c <;> rfl) u⟩
  | ldCL hpc | ldRL hpc | retLs hpc | callRel hpc => exact .inl ⟨rfl, inRead_upd (hpc ▸ rfl) u⟩
  | rd hpc => exact .inl ⟨rfl, inRead_upd (by rw [hpc]; rfl) u⟩
  | _ => exact .inl ⟨rfl, inRead_upd rfl u⟩

/-- pcs inside `lock_shared` (acquisition) or inside the destruction of a handle (release) -/
def Pc.inReadCall : Pc → Bool
  | .rdCalled | .rdCL _ | .rdInc _ | .rdGot _ _ | .rdRel _ _ | .rdRelD => true
  | _ => false

theorem Pc.inReadCall_post : p.inReadCall = true → p.post = false := by
  cases p <;> first | exact fun _ => rfl | exact fun h => Bool.noConfusion h

/-- own steps left until the current read-side call returns -/
def Pc.rdLeft : Pc → Nat
  | .rdCalled => 4 | .rdCL _ => 3 | .rdInc _ => 2 | .rdGot _ _ => 1
  | .rdRel _ _ => 2 | .rdRelD => 1
  | _ => 0

theorem step_base (hs : step s t e = some s') :
    s'.base = s.base ∨ (e = .lock ∧ s'.base = s.committed) := by
  induction Step.of_step hs with
  | lock => exact .inr ⟨rfl, rfl⟩
  | inc | dec => exact .inl (setReg_base ..)
  | fEnd1 | cpEndRb | fEnd2 | cpEndRf => exact .inl (setVal_base ..)
  | _ => exact .inl rfl

end ConcVerif.LR
