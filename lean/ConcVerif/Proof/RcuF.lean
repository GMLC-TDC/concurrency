import ConcVerif.Proof.RcuHist
/-! Layer F of the rcu_list invariant: list order (DESIGN §7.4 N1/N2, the part C12 needs).

`order` lists every node ever linked, in list order.  The linked nodes `lst` are a sublist of it, and every
`next` pointer of a node of `order` — linked or not — points strictly forward in `order`. -/
namespace ConcVerif.Rcu

structure InvF (s : St) : Prop where
  subl : s.lst.Sublist s.order
  fwd : ∀ c ∈ s.order, ∀ x, (s.nodes c).next = some x → x ∈ Below s.order c

theorem invF_init : InvF init := by
  constructor <;> simp [init, node0]

theorem below_sublist_of_sublist {l o : List Nat} (h : l.Sublist o) (ho : o.Nodup) {a y : Nat} (hy : y ∈ Below l a) :
    y ∈ Below o a := by
  induction h with
  | slnil => simp at hy
  | cons z h' ih =>
    rename_i l' o'
    have hz := (List.nodup_cons.1 ho).1
    have ha : a ∈ l' := mem_of_mem_below' hy
    have : z ≠ a := fun e => hz (e ▸ h'.subset ha)
    rw [below_cons_ne _ this]
    exact ih (List.nodup_cons.1 ho).2 hy
  | cons_cons z h' ih =>
    rename_i l' o'
    rw [below_cons] at hy ⊢
    split at hy
    · rename_i e; simp only [e, if_true]; exact h'.subset hy
    · rename_i e; simp only [e, if_false]; exact ih (List.nodup_cons.1 ho).2 hy

theorem nx_frame {s s' : St} (h : ∀ c, (s'.nodes c).next = (s.nodes c).next) :
    (fun n => (s'.nodes n).next) = fun n => (s.nodes n).next := by funext c; exact h c

theorem invF_step {s s' : St} {t : Tid} {e : Ev} (hi : Inv s) (h : InvF s) (hs : Step s t e s') : InvF s' := by
  have hsub : s.lst.Sublist s.order := h.subl
  have hfwd : ∀ c ∈ s.order, ∀ x, (s.nodes c).next = some x → x ∈ Below s.order c := h.fwd
  have hond : s.order.Nodup := hi.c.ordNd
  have hnx0 : ∀ a ∈ s.lst, (s.nodes a).next = (Below s.lst a).head? := hi.c.nx
  have wr := hi.c.wr t
  simp only [cview_vpc] at wr
  by_cases he : Edge s t e s'
  case neg =>
    have q := hs.quiet he
    refine ⟨by rw [q.lst, q.order]; exact hsub, fun c hc x hx => ?_⟩
    rw [q.order] at hc ⊢; rw [q.next] at hx; exact hfwd c hc x hx
  cases he
  case beg | nxt | retLock | relFresh | uClear | casRegOk | pushLock | eraseLock | pThrownMul | pUnlock | eUnlock => exact ⟨hsub, hfwd⟩
  case pCon f em x n hpc =>
    rw [hpc] at wr; simp only [CView, WriterP, cview_order] at wr
    refine ⟨hsub, fun c hc x' hx' => hfwd c hc x' ?_⟩
    have : c ≠ n := fun e => wr.1 (e ▸ hc)
    simp only [setPc_nodes, setNled_nodes] at hx'
    rwa [upd_other _ _ _ _ this] at hx'
  case pF1 k n h0 o hpc =>
    rw [hpc] at wr; simp only [CView, WriterP, FreshN, cview_order] at wr
    refine ⟨hsub, fun c hc x' hx' => hfwd c hc x' ?_⟩
    have : c ≠ n := fun e => wr.1.1 (e ▸ hc)
    simp only [setPc_nodes, setNext_nodes] at hx'
    rwa [upd_other _ _ _ _ this] at hx'
  case pE1 k n o hpc =>
    rw [hpc] at wr; simp only [CView, WriterP, FreshN, cview_order, cview_nodes, cview_lst] at wr
    obtain ⟨⟨g1, _, g3, _, _⟩, g6, _⟩ := wr
    refine ⟨List.Sublist.cons_cons n hsub, ?_⟩
    intro c hc x hx
    rcases List.mem_cons.1 hc with e | e
    · subst e; simp only [setPc_nodes] at hx; rw [g3] at hx; cases hx
    · have hcn : n ≠ c := fun e' => g1 (e' ▸ e)
      exact (below_cons_ne _ hcn).symm ▸ hfwd c e x hx
  case pF3 k n o hpc =>
    rw [hpc] at wr; simp only [CView, WriterP, FreshN, cview_order, cview_nodes, cview_lst] at wr
    obtain ⟨h0, ⟨g1, _, g3, _, _⟩, g6, _⟩ := wr
    refine ⟨List.Sublist.cons_cons n hsub, ?_⟩
    intro c hc x hx
    rcases List.mem_cons.1 hc with e | e
    · subst e; simp only [setPc_nodes] at hx; rw [g3] at hx; injection hx with hx; subst hx
      exact (below_cons_self c s.order).symm ▸ hsub.subset (mem_of_head? g6)
    · have hcn : n ≠ c := fun e' => g1 (e' ▸ e)
      exact (below_cons_ne _ hcn).symm ▸ hfwd c e x hx
  case pB2 k n h0 o hpc =>
    rw [hpc] at wr; simp only [CView, WriterP, FreshN, NextIs, cview_order, cview_nodes, cview_lst] at wr
    obtain ⟨⟨g1, _, g3, _, _⟩, ⟨g6, _⟩, _⟩ := wr
    have hh0 : h0 ∈ s.order := hsub.subset g6
    have hne : n ≠ h0 := fun e => g1 (e ▸ hh0)
    refine ⟨List.Sublist.append hsub (List.Sublist.refl _), ?_⟩
    intro c hc x hx
    simp only [setPc_order, setPc_nodes, setNext_nodes] at hc hx ⊢
    rcases List.mem_append.1 hc with e | e
    · rw [below_append_singleton e]
      by_cases ec : c = h0
      · subst ec; rw [upd_same] at hx; simp at hx; subst hx; simp
      · rw [upd_other _ _ _ _ ec] at hx; exact List.mem_append_left _ (hfwd c e x hx)
    · simp at e; subst e
      rw [upd_other _ _ _ _ hne, g3] at hx; cases hx
  case eUnlPrev c orig pp x z o hpc =>
    rw [hpc] at wr; simp only [CView, WriterP, NextIs, cview_nodes, cview_lst] at wr
    obtain ⟨g1, _, _, ⟨g4, g4'⟩, g5⟩ := wr
    have hco : c ∈ s.order := hsub.subset g1
    have hpo : pp ∈ s.order := hsub.subset g4
    refine ⟨(List.erase_sublist).trans hsub, ?_⟩
    intro c' hc' x' hx'
    simp only [setPc_order, setPc_nodes, setNext_nodes] at hc' hx' ⊢
    by_cases ec : c' = pp
    · subst ec; rw [upd_same] at hx'; simp only at hx'
      have h1 : c ∈ Below s.order c' := hfwd c' hpo c (by rw [hnx0 c' g4]; exact g4')
      have h2 : x' ∈ Below s.order c := hfwd c hco x' (by rw [hnx0 c g1, ← g5]; exact hx')
      exact below_trans hond h1 h2
    · rw [upd_other _ _ _ _ ec] at hx'; exact hfwd c' hc' x' hx'
  case eUnlHead c orig x z o hpc => exact ⟨(List.erase_sublist).trans hsub, hfwd⟩
  case dFreN m nx hpc => cases nx <;> exact ⟨(List.erase_sublist).trans hsub, hfwd⟩

end ConcVerif.Rcu
