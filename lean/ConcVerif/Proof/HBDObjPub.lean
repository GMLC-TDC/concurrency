import ConcVerif.Proof.HBDObj
/-! Publication of a value through a promise of `DelayedObjects`: which `set_value` event (`pset`) satisfies
which promise, and the happens-before edge from it to the consumer's `got`.

The model's `pset v` does not name its promise.  The critical section that performs it logged its
`set_value` calls in the ghost `St.sets` when it took the lock (all of one critical section carry the same
value: `apply_same_value`), and must perform exactly that many before its unlock; critical sections do not
overlap.  So the `j`-th `pset` event of a trace is matched with the `j`-th entry of the log (`PInv`): the
entry belongs to the critical section the event lies in and has the event's value.  Within one critical
section (several promises satisfied by `fulfillAllPromises` / the destructor) the matching is the order of
the log; any other matching differs only by a permutation of adjacent events of one thread inside one
critical section. -/
namespace ConcVerif.DObj

theorem psetCount_not (es : List (Tid × Ev)) (t : Tid) {e : Ev} (he : e.isPset = false) :
    psetCount (es ++ [(t, e)]) = psetCount es := by
  rw [psetCount_snoc]; simp [he]

/-- the `set_value` events performed so far are matched with a prefix of the log; the rest of the log is what
the lock holder still has to perform -/
structure PInv (es : List (Tid × Ev)) (s : St) : Prop where
  le : psetCount es ≤ s.sets.length
  todo : ∀ t o r td, s.pc t = .locked o r td →
    (s.sets.drop (psetCount es)).map Prod.snd = td ∧ ∃ v, ∀ x ∈ td, x = v
  free : s.lock = none → psetCount es = s.sets.length

section
variable {es : List (Tid × Ev)} {s : St} {t : Tid}

/-- the next `set_value(v)` of the lock holder is matched with the first unmatched log entry, which carries `v` -/
theorem PInv.next {o : Op} {r : Res} {todo : List Val} {v : Val}
    (h : PInv es s) (hpc : s.pc t = .locked o r todo) (hv : v ∈ todo) :
    ∃ p rest, s.sets.drop (psetCount es) = (p, v) :: rest ∧ rest.map Prod.snd = todo.erase v := by
  obtain ⟨hd, v0, hall⟩ := h.todo t o r todo hpc
  cases hdr : s.sets.drop (psetCount es) with
  | nil => rw [hdr] at hd; subst hd; cases hv
  | cons e rest =>
    rw [hdr] at hd
    subst hd
    have he : e.2 = v := by rw [hall v hv]; exact hall _ (.head _)
    obtain ⟨p, w⟩ := e
    cases he
    exact ⟨p, rest, rfl, by simp⟩

theorem pinv_frame {es : List (Tid × Ev)} {s s' : St} {t : Tid} {e : Ev} (h : PInv es s) (he : e.isPset = false)
    (hsets : s'.sets = s.sets) (hpc : ∀ u o r td, s'.pc u = .locked o r td → s.pc u = .locked o r td)
    (hlock : s'.lock = none → s.lock = none) : PInv (es ++ [(t, e)]) s' := by
  refine ⟨?_, ?_, ?_⟩ <;> rw [psetCount_not _ _ he, hsets]
  · exact h.le
  · exact fun u o r td hp => h.todo u o r td (hpc u o r td hp)
  · exact fun hl => h.free (hlock hl)

theorem pinv_run (h : run es = some s) : PInv es s := by
  refine run_induction (P := PInv) ⟨Nat.zero_le _, fun t o r td hp => (nomatch hp), fun _ => rfl⟩ ?_ h
  intro es s t e s' hr hP htr
  have hi : Inv s := inv_reachable ⟨es, hr⟩
  induction htr with
  | mlk o σ r l hpc hl ha =>
    have hf := hP.free hl
    refine ⟨?_, ?_, nofun⟩ <;> rw [psetCount_not _ _ rfl]
    · simp only [setPc_sets, List.length_append]; omega
    · intro u o' r' td hp
      rcases upd_eq hp with ⟨rfl, hb⟩ | ⟨_, hp⟩
      · cases hb
        obtain ⟨v, hv⟩ := apply_same_value ha
        exact ⟨by simp only [setPc_sets, hf, List.drop_left'], v, List.forall_mem_map.2 hv⟩
      · have := (hi.lockPc u).2 ⟨o', r', td, hp⟩
        rw [hl] at this; cases this
  | pset o r todo v hpc hv =>
    obtain ⟨p, rest, hdr, hrest⟩ := hP.next hpc hv
    have hcnt : psetCount (es ++ [(t, Ev.pset v)]) = psetCount es + 1 := by rw [psetCount_snoc]; rfl
    have hlk := (hi.lockPc t).2 ⟨o, r, todo, hpc⟩
    refine ⟨?_, ?_, ?_⟩ <;> rw [hcnt]
    · apply Classical.byContradiction
      intro hn
      rw [List.drop_eq_nil_iff.2 (by simp only [setPc_sets] at hn; omega)] at hdr; cases hdr
    · intro u o' r' td hp
      rcases upd_eq hp with ⟨rfl, hb⟩ | ⟨hu, hp⟩
      · cases hb
        rw [setPc_sets, ← List.drop_drop, hdr]
        obtain ⟨_, v0, hall⟩ := hP.todo u o r todo hpc
        exact ⟨hrest, v0, fun x hx => hall x (List.mem_of_mem_erase hx)⟩
      · have h1 := (hi.lockPc u).2 ⟨o', r', td, hp⟩
        rw [hlk] at h1; cases h1; exact absurd rfl hu
    · intro hh
      rw [setPc_lock, hlk] at hh; cases hh
  | mul o r hpc hl =>
    -- nothing is left to perform: the whole log is matched
    have hlen : s.sets.length ≤ psetCount es :=
      List.drop_eq_nil_iff.1 (List.map_eq_nil_iff.1 (hP.todo t o r [] hpc).1)
    refine ⟨?_, ?_, ?_⟩ <;> rw [psetCount_not _ _ rfl]
    · exact hP.le
    · intro u o' r' td hp
      obtain ⟨hu, hp⟩ := upd_ne hp nofun
      have h1 := (hi.lockPc u).2 ⟨o', r', td, hp⟩
      rw [hl] at h1; cases h1; exact absurd rfl hu
    · exact fun _ => Nat.le_antisymm hP.le hlen
  | call o hpc hc hok => exact pinv_frame hP rfl rfl (fun u o r td h => (upd_ne h nofun).2) id
  | ret o r hpc => exact pinv_frame hP rfl rfl (fun u o r td h => (upd_ne h nofun).2) id
  | _ => exact pinv_frame hP rfl rfl (fun _ _ _ _ h => h) id

theorem sets_mono {es : List (Tid × Ev)} {s s1 : St} {n : Nat} (h : run es = some s) (h1 : run (es.take n) = some s1) :
    ∃ ext, s.sets = s1.sets ++ ext := by
  rw [← List.take_append_drop n es] at h
  obtain ⟨s1', h2, h3⟩ := runFrom_append_eq_some.mp h
  cases h1.symm.trans h2
  refine runFrom_rel (R := fun a b => ∃ ext, b.sets = a.sets ++ ext) (fun a => ⟨[], by simp⟩) ?_ ?_ h3
  · rintro a b c ⟨x, hx⟩ ⟨y, hy⟩; exact ⟨x ++ y, by rw [hy, hx, List.append_assoc]⟩
  · intro a t e b hs
    induction step_tr hs with
    | mlk o σ r l _ _ _ => exact ⟨l, rfl⟩
    | _ => exact ⟨[], by simp⟩

theorem psetCount_lt {es : List (Tid × Ev)} {q m : Nat} {t : Tid} {v : Val} (hq : es[q]? = some (t, Ev.pset v))
    (hqm : q < m) : psetCount (es.take q) < psetCount (es.take m) := by
  have h1 : psetCount (es.take (q + 1)) = psetCount (es.take q) + 1 := by
    rw [List.take_add_one, hq]; exact psetCount_snoc _ _
  have h2 : psetCount (es.take (q + 1)) ≤ psetCount (es.take m) := by
    have : es.take (q + 1) = (es.take m).take (q + 1) := by rw [List.take_take]; congr 1; omega
    rw [this]
    exact (List.take_sublist _ _).countP_le
  omega

theorem pset_pos (es : List (Tid × Ev)) {j g : Nat} (hj : j < psetCount (es.take g)) :
    ∃ q t v, q < g ∧ es[q]? = some (t, Ev.pset v) ∧ psetCount (es.take q) = j := by
  induction g with
  | zero => exact absurd hj (Nat.not_lt_zero _)
  | succ g ih =>
    by_cases hlt : j < psetCount (es.take g)
    · obtain ⟨q, t, v, hq, h⟩ := ih hlt
      exact ⟨q, t, v, Nat.lt_succ_of_lt hq, h⟩
    · rw [List.take_add_one] at hj
      cases hg : es[g]? with
      | none => rw [hg, Option.toList, List.append_nil] at hj; exact absurd hj hlt
      | some x =>
        obtain ⟨t, e⟩ := x
        rw [hg, Option.toList, psetCount_snoc] at hj
        cases e with
        | pset v => exact ⟨g, t, v, Nat.lt_succ_self g, hg, by simp [Ev.isPset] at hj; omega⟩
        | _ => exact absurd hj hlt

theorem nodup_idx {l : List (Id × Val)} (hn : (l.map (·.1)).Nodup) {a b : Nat} {x y : Id × Val}
    (ha : l[a]? = some x) (hb : l[b]? = some y) (hxy : x.1 = y.1) : a = b :=
  (List.getElem?_inj (by simpa using HB.lq_lt ha) hn).1 (by simp [ha, hb, hxy])

/-- **matching**: the `set_value` event at `q` (value `v`) is matched with an entry of the final log that
carries the same value — the entry its own critical section logged when it took the lock -/
theorem pset_entry (h : run es = some s) {q : Nat} {t : Tid} {v : Val}
    (hq : es[q]? = some (t, Ev.pset v)) : ∃ p, s.sets[psetCount (es.take q)]? = some (p, v) := by
  obtain ⟨s1, s2, h1, h2⟩ := runFrom_at h hq
  obtain ⟨ext, hext⟩ := sets_mono h h1
  cases step_tr h2 with
  | pset o r todo v hpc hv =>
    obtain ⟨p, rest, hdr, _⟩ := (pinv_run h1).next hpc hv
    refine ⟨p, ?_⟩
    rw [hext]
    apply HB.lq_mono
    have := congrArg (fun l => l[0]?) hdr
    simpa using this

theorem st_is_pset {L : List (Id × Val)} {es : List (Tid × Ev)} {k : Nat} {w : Tid} {a : HB.Loc} {o : HB.Ord}
    (hk : (hbTraceP L es)[k]? = some (w, .st a o)) :
    ∃ v e, es[k]? = some (w, Ev.pset v) ∧ L[psetCount (es.take k)]? = some e ∧ a = e.1 + 1 := by
  obtain ⟨e, he, hh⟩ := hbTraceP_inv L hk
  cases e with
  | pset v =>
    simp only [toHBP] at hh
    split at hh
    · rename_i e' he'
      injection hh with h1 _
      exact ⟨v, e', he, he', h1⟩
    · cases hh
  | _ => simp [toHBP] at hh

/-- **publication through a promise.**  When a consumer finds future `p` ready with value `v` at position `g`
of an accepted trace, then EITHER the `set_value(v)` event matched with promise `p` lies at some `q < g` and
happens-before `g` in the promise-aware trace (promise/future trusted as a release/acquire pair; the edge
exists because no other `set_value` is ever matched with `p`: exactly-once), OR the model accepted the
observation early: the thread that will satisfy `p` is inside its critical section (it holds the lock) and
still has a `set_value(v)` to perform. -/
theorem got_published (h : run es = some s) {g : Nat} {u : Tid} {p : Id} {v : Val}
    (hg : es[g]? = some (u, Ev.got p (.val v))) :
    (∃ q t, q < g ∧ es[q]? = some (t, Ev.pset v) ∧ s.sets[psetCount (es.take q)]? = some (p, v) ∧
        HB.HB (hbTraceP s.sets es) q g) ∨
    (∃ s1 t o r td, run (es.take g) = some s1 ∧ s1.lock = some t ∧ s1.pc t = .locked o r td ∧ v ∈ td) := by
  obtain ⟨s1, s2, h1, h2⟩ := runFrom_at h hg
  have hi1 : Inv s1 := inv_reachable ⟨_, h1⟩
  have hi : Inv s := inv_reachable ⟨_, h⟩
  have hp1 := pinv_run h1
  obtain ⟨ext, hext⟩ := sets_mono h h1
  cases step_tr h2 with
  | got p x hpc hx hpv =>
    have hmem : (p, v) ∈ s1.sets := (hi1.setsIff p v).1 hpv
    obtain ⟨j, hj⟩ := List.mem_iff_getElem?.1 hmem
    have hjs : s.sets[j]? = some (p, v) := by rw [hext]; exact HB.lq_mono ext hj
    -- `(p, v)` is entry `j` of the log: either the `j`-th `set_value` event lies before `g`, or it is still to come
    by_cases hjc : j < psetCount (es.take g)
    · left
      obtain ⟨q, t, v', hqg, hq', hcq⟩ := pset_pos es hjc
      obtain ⟨p', hp'⟩ := pset_entry h hq'
      rw [hcq, hjs] at hp'
      cases hp'
      refine ⟨q, t, hqg, hq', by rw [hcq]; exact hjs, ?_⟩
      have hq2 : (hbTraceP s.sets es)[q]? = some (t, .st (p + 1) .rel) := by
        rw [hbTraceP_get s.sets hq', toHBP, hcq, hjs]
      have hg2 : (hbTraceP s.sets es)[g]? = some (u, .ld (p + 1) .acq) := by
        rw [hbTraceP_get s.sets hg]; rfl
      refine .sw (.atomic hqg hq2 hg2 ⟨.rel, rfl, .inl rfl⟩ ⟨.acq, rfl, .inl rfl⟩ ?_)
      -- no other store to the shared state of `p` in between: it would be matched with entry `j` too (ids are unique
      -- in the log), but the count of `set_value` events has moved on after `q`
      intro k w o hqk hkg hk
      obtain ⟨v'', e, hek, hLk, hpe⟩ := st_is_pset hk
      have : psetCount (es.take k) = j :=
        nodup_idx hi.setsNodup hLk hjs (Nat.add_right_cancel hpe).symm
      have := psetCount_lt hq' hqk
      omega
    · right
      have hlen : j < s1.sets.length := HB.lq_lt hj
      cases hl : s1.lock with
      | none => have := hp1.free hl; omega
      | some t =>
        obtain ⟨o, r, td, hpc'⟩ := (hi1.lockPc t).1 hl
        obtain ⟨hd, _⟩ := hp1.todo t o r td hpc'
        refine ⟨s1, t, o, r, td, h1, hl, hpc', ?_⟩
        rw [← hd]
        refine List.mem_map.2 ⟨(p, v), ?_, rfl⟩
        refine List.mem_of_getElem? (i := j - psetCount (es.take g)) ?_
        rw [List.getElem?_drop, Nat.add_sub_cancel' (Nat.le_of_not_lt hjc)]
        exact hj

end

end ConcVerif.DObj
