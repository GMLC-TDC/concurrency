import ConcVerif.Proof.DDOwn
/-! Life cycle of the payload objects of the DelayedDestructor model: the invariants `Life` and `PendFr`. -/
namespace ConcVerif.DD

variable {s s' X : St} {t : Tid} {fs rest : List Frame} {f : Frame} {k : ObjId} {e : Ev} {c : Cfg}

/-! ## `Life`: an object's reference ledger is zero exactly when it was never
created, or is pending destruction, or has been destroyed; pending and destroyed objects are listed once. -/

structure LifeP (r : ObjId → Nat) (c p d : List ObjId) : Prop where
  zero : ∀ k, r k = 0 ↔ (k ∉ c ∨ k ∈ p ∨ k ∈ d)
  made : ∀ k, k ∈ p ∨ k ∈ d → k ∈ c
  nodup : (p ++ d).Nodup

theorem lifeP_congr {r r' : ObjId → Nat} {c p d : List ObjId} (h : LifeP r c p d) (hr : ∀ k, r' k = r k) : LifeP r' c p d :=
  ⟨fun k => by rw [hr k]; exact h.zero k, h.made, h.nodup⟩

theorem lifeP_new {r r' : ObjId → Nat} {c p d : List ObjId} (h : LifeP r c p d) (k : ObjId) (hk : k ∉ c)
    (hrk : r' k > 0) (hr : ∀ j, j ≠ k → r' j = r j) : LifeP r' (k :: c) p d := by
  have hnp : ¬ (k ∈ p ∨ k ∈ d) := fun hh => hk (h.made k hh)
  refine ⟨fun j => ?_, fun j hj => List.mem_cons_of_mem _ (h.made j hj), h.nodup⟩
  by_cases hj : j = k
  · subst hj
    constructor
    · intro h0; omega
    · intro hh; rcases hh with hh | hh
      · exact absurd (List.mem_cons_self) hh
      · exact absurd hh hnp
  · rw [hr j hj, h.zero j]
    simp [hj]

theorem lifeP_inc {r r' : ObjId → Nat} {c p d : List ObjId} (h : LifeP r c p d) (k : ObjId) (hk : r k > 0)
    (hrk : r' k > 0) (hr : ∀ j, j ≠ k → r' j = r j) : LifeP r' c p d := by
  refine ⟨fun j => ?_, h.made, h.nodup⟩
  by_cases hj : j = k
  · subst hj
    have := h.zero j
    constructor
    · intro h0; omega
    · intro hh; have := this.mpr hh; omega
  · rw [hr j hj]; exact h.zero j

theorem lifeP_rel_pos {r r' : ObjId → Nat} {c p d : List ObjId} (h : LifeP r c p d) (k : ObjId) (hk : r k > 0)
    (hrk : r' k ≠ 0) (hr : ∀ j, j ≠ k → r' j = r j) : LifeP r' c p d :=
  lifeP_inc h k hk (Nat.pos_of_ne_zero hrk) hr

theorem lifeP_rel_zero {r r' : ObjId → Nat} {c p d : List ObjId} (h : LifeP r c p d) (k : ObjId) (hk : r k > 0)
    (hrk : r' k = 0) (hr : ∀ j, j ≠ k → r' j = r j) : LifeP r' c (k :: p) d := by
  have hz := h.zero k
  have hkc : k ∈ c := by
    apply Classical.byContradiction; intro hn; have := hz.mpr (Or.inl hn); omega
  have hnp : ¬ (k ∈ p ∨ k ∈ d) := fun hh => by have := hz.mpr (Or.inr hh); omega
  refine ⟨fun j => ?_, fun j hj => ?_, ?_⟩
  · by_cases hj : j = k
    · subst hj; simp [hrk]
    · rw [hr j hj, h.zero j]; simp [hj]
  · rcases hj with hj | hj
    · cases hj with
      | head => exact hkc
      | tail _ hj => exact h.made j (Or.inl hj)
    · exact h.made j (Or.inr hj)
  · simp only [List.cons_append, List.nodup_cons]
    refine ⟨fun hm => hnp (List.mem_append.mp hm), h.nodup⟩

theorem lifeP_pdt {r : ObjId → Nat} {c p d : List ObjId} (h : LifeP r c p d) (k : ObjId) (hk : k ∈ p) :
    LifeP r c (p.erase k) (k :: d) := by
  have hnd := h.nodup
  have hp : p.Nodup := (List.nodup_append.mp hnd).1
  have hmem : ∀ j, (j ∈ p.erase k ∨ j ∈ k :: d) ↔ (j ∈ p ∨ j ∈ d) := by
    intro j
    rw [hp.mem_erase_iff]
    by_cases hj : j = k
    · subst hj; simp [hk]
    · simp [hj]
  refine ⟨fun j => ?_, fun j hj => h.made j ((hmem j).mp hj), ?_⟩
  · rw [h.zero j]
    constructor
    · intro hh; rcases hh with hh | hh
      · exact Or.inl hh
      · exact Or.inr ((hmem j).mpr hh)
    · intro hh; rcases hh with hh | hh
      · exact Or.inl hh
      · exact Or.inr ((hmem j).mp hh)
  · have hperm : (p.erase k ++ k :: d).Perm (p ++ d) := by
      have h1 : (k :: p.erase k).Perm p := (List.perm_cons_erase hk).symm
      have h2 : (p.erase k ++ k :: d).Perm (k :: p.erase k ++ d) := by
        simpa using (List.perm_middle (a := k) (l₁ := p.erase k) (l₂ := d))
      exact h2.trans (List.Perm.append_right d h1)
    exact hperm.nodup_iff.mpr hnd

def Life (s : St) : Prop := LifeP (refs s) s.created s.pend s.destroyed

theorem lifeP_rel {r r' : ObjId → Nat} {c p d : List ObjId} (h : LifeP r c p d) (k : ObjId)
    (hr : (∀ j, r' j = r j - if j = k then 1 else 0) ∧ r k > 0) :
    (r' k = 0 → LifeP r' c (k :: p) d) ∧ (¬ r' k = 0 → LifeP r' c p d) :=
  ⟨fun h0 => lifeP_rel_zero h k hr.2 h0 (fun j hj => (hr.1 j).trans (by simp [hj])),
   fun h0 => lifeP_rel_pos h k hr.2 h0 (fun j hj => (hr.1 j).trans (by simp [hj]))⟩

theorem refs_vrel {a : ObjId} {v : List ObjId} (hv : X.vec = a :: v) (r : List ObjId) :
    (∀ j, refs { X with vec := v, vrel := r } j = refs X j - if j = a then 1 else 0) ∧ refs X a > 0 := by
  refine ⟨fun j => ?_, by simp only [refs, hv, List.count_cons_self]; omega⟩
  simp only [refs, hv, List.count_cons]
  by_cases hj : j = a
  · subst hj; simp; omega
  · have : ¬ (a == j) = true := by simpa using fun h => hj h.symm
    simp [hj, this]

theorem refs_erel {ec R : List ObjId}
    (h : ∀ j, X.ecs.count (t, j) = (k :: ec ++ R).count j) :
    (∀ j, refs { X with ecs := X.ecs.erase (t, k) } j = refs X j - if j = k then 1 else 0) ∧ refs X k > 0 := by
  have hmem : (t, k) ∈ X.ecs := List.count_pos_iff.mp (by rw [h k]; simp)
  have hp : (X.ecs.map Prod.snd).count k ≥ 1 := List.count_pos_iff.mpr (List.mem_map.mpr ⟨(t, k), hmem, rfl⟩)
  refine ⟨fun j => ?_, by simp only [refs]; omega⟩
  have hc := count_map_snd_erase X.ecs t k j hmem
  simp only [refs]
  by_cases hj : j = k
  · subst hj; simp only [if_true] at hc ⊢; omega
  · simp only [hj, if_false] at hc ⊢; omega

/-- the references the silent code releases are entries of `t`'s own `ecall` vectors (`hown`) or vector entries -/
theorem life_sil (h : Sil t X c s') (hI : Life X)
    (hown : ∀ j, X.ecs.count (t, j) = (owned c.stk).count j) : Life s' := by
  induction h with
  | caught _ ih | doneVec _ ih => exact ih hI hown
  | ecLast h0 => exact (lifeP_rel hI _ (refs_erel hown)).1 h0
  | ecNext h0 _ ih => exact ih ((lifeP_rel hI _ (refs_erel hown)).2 h0) (own_erase hown)
  | vecDone hv => exact lifeP_congr hI (fun k => by simp [refs, hv])
  | vecLast hv h0 => exact (lifeP_rel hI _ (refs_vrel hv _)).1 h0
  | vecNext hv h0 _ ih => exact ih ((lifeP_rel hI _ (refs_vrel hv _)).2 h0) hown
  | @scanSome X skip _ _ =>
    refine lifeP_congr hI (fun j => ?_)
    have h2 := count_split X.vec (fun k => selectable X k && !skip.contains k) j
    simp only [refs, sel, setStk_ext, setStk_vec, setStk_ecs, List.map_append, List.map_map, List.count_append]
    have : (Prod.snd ∘ fun k => (t, k)) = (id : ObjId → ObjId) := rfl
    rw [this, List.map_id]
    omega
  | _ => exact hI

theorem life_add (t : Tid) (k : ObjId) (l : Option Tid) (fs) (hk : s.ext k > 0) (h : Life s) :
    Life ({ s with lock := l, vec := s.vec ++ [k], added := k :: s.added,
                   ext := fun j => if j = k then s.ext k - 1 else s.ext j }.setStk t fs) := by
  refine lifeP_congr h (fun j => ?_)
  simp only [refs, setStk_ext, setStk_vec, setStk_ecs, List.count_append, List.count_cons, List.count_nil]
  by_cases hj : j = k
  · subst hj; simp; omega
  · have : ¬ (k == j) = true := by simpa using fun h => hj h.symm
    simp [hj, this]

theorem life_incExt (k : ObjId) (hk : refs s k > 0) (h : Life s) :
    Life { s with ext := fun j => if j = k then s.ext k + 1 else s.ext j } :=
  lifeP_inc h k hk (by simp [refs]; omega) (fun j hj => by simp [refs, hj])

theorem refs_decExt (s : St) (k j : ObjId) : refs (s.decExt k) j = if j = k then s.ext k - 1 + s.vec.count k + (s.ecs.map Prod.snd).count k else refs s j := by
  by_cases hj : j = k
  · subst hj; simp [refs, St.decExt]
  · simp [refs, St.decExt, hj]

theorem refs_pos_of_ext (h : s.ext k > 0) : refs s k > 0 := by unfold refs; omega

theorem refs_pos_of_mem (h : (t, k) ∈ s.ecs) : refs s k > 0 := by
  have hp : (s.ecs.map Prod.snd).count k ≥ 1 := List.count_pos_iff.mpr (List.mem_map.mpr ⟨(t, k), h, rfl⟩)
  simp only [refs]; omega

theorem incb_refs (hOwn : Own s) (hWf : Wf s) {fs} (hfs : s.stk t = fs) (k : ObjId)
    (h : inCbOf k fs = true) : refs s k > 0 := by
  match fs, h with
  | .dInCb sz ec cbs k' todo :: rest, h =>
    simp only [inCbOf, decide_eq_true_eq] at h
    subst h
    have hmem : Frame.dInCb sz ec cbs k' todo ∈ s.stk t := by rw [hfs]; exact List.mem_cons_self
    have hw := hWf t _ hmem
    simp only [wfF] at hw
    have hk : k' ∈ ecOf (Frame.dInCb sz ec cbs k' todo) := by simp [ecOf, hw.1]
    exact refs_pos_of_mem (own_mem hOwn hmem hk)

/-- the references a step of `t` releases are entries of `t`'s own `ecall` vectors (`hown`), or the last vector
entries; the reference a callback adds is backed by the entry of the object whose callback runs (`hcb`) -/
theorem Step.life (h : Step s t fs e s') (hI : Life s)
    (hown : ∀ j, s.ecs.count (t, j) = (owned fs).count j) (hcb : ∀ k, inCbOf k fs = true → refs s k > 0) :
    Life s' := by
  cases h with
  | user _ h =>
    cases h with
    | new hk => exact lifeP_new hI _ hk (by simp [refs]; omega) (fun j hj => by simp [refs, hj])
    | dup hk => exact life_incExt _ (refs_pos_of_ext hk) hI
    | @dropLast k hk h0 =>
      exact lifeP_rel_zero hI k (refs_pos_of_ext hk) h0 (fun j hj => (refs_decExt s k j).trans (by simp [hj]))
    | @drop k hk h0 =>
      exact lifeP_rel_pos hI k (refs_pos_of_ext hk) h0 (fun j hj => (refs_decExt s k j).trans (by simp [hj]))
    | callAdd _ hk => exact life_incExt (s := s) _ (hk.elim refs_pos_of_ext (hcb _)) hI
    | callDtor hfs' => subst hfs'; exact life_sil (X := { s with dead := some t }) (xTop_sil ..) hI hown
    | _ => exact hI
  | addLock _ hk => exact life_add _ _ _ _ hk hI
  | dtorStart hk => exact lifeP_pdt hI _ hk
  | dLock => exact life_sil (select_sil ..) hI (by exact hown)
  | dTimeout | dUnlock0 | dRelockTimeout | dUnlock2 =>
    exact life_sil (dDone_sil ..) (by exact hI) (by exact hown)
  | dUnlock1 | cbEndLast | cbThrow => exact life_sil (drain_sil ..) (by exact hI) (by exact hown)
  | dtorEnd => exact life_sil (resume_sil ..) hI (by exact hown)
  | xYield | xSleep => exact life_sil (xTop_sil ..) hI (by exact hown)
  | _ => exact hI

theorem life_step (hI : Life s) (hOwn : Own s) (hWf : Wf s) (h : step s t e = some s') :
    Life s' :=
  (Step.of_step h).life hI (hOwn t) (incb_refs hOwn hWf rfl)

/-! ## `PendFr`: every pending object (last reference gone, destructor not yet started) belongs to a `dying` frame of some thread:
nobody can forget to run a destructor. -/

def dyK : Frame → List ObjId
  | .dying k => [k]
  | _ => []

def dyingOf : List Frame → List ObjId
  | [] => []
  | f :: fs => dyK f ++ dyingOf fs

@[simp] theorem dyingOf_nil : dyingOf [] = [] := rfl
@[simp] theorem dyingOf_cons (f fs) : dyingOf (f :: fs) = dyK f ++ dyingOf fs := rfl

/-- `s'` (the result of a silent loop of thread `t` started in `s` above the frames `rest`) adds pending objects only
together with their `dying` frame and keeps the `dying` frames of `rest` -/
structure Keeps (s s' : St) (t : Tid) (rest : List Frame) : Prop where
  pend : ∀ k, k ∈ s'.pend → k ∈ s.pend ∨ k ∈ dyingOf (s'.stk t)
  keep : ∀ k, k ∈ dyingOf rest → k ∈ dyingOf (s'.stk t)

theorem dyingOf_suffix {rest fs : List Frame} (h : rest <:+ fs) (hk : k ∈ dyingOf rest) : k ∈ dyingOf fs := by
  obtain ⟨p, rfl⟩ := h
  induction p with
  | nil => exact hk
  | cons f p ih => exact List.mem_append_right _ ih

theorem keeps_setStk (X : St) (t : Tid) (fs rest : List Frame) (hp : X.pend = s.pend) (hsub : rest <:+ fs) :
    Keeps s (X.setStk t fs) t rest :=
  ⟨fun k hk => Or.inl (hp ▸ hk), fun k hk => by rw [setStk_stk_same]; exact dyingOf_suffix hsub hk⟩

theorem keeps_push (X : St) (t : Tid) (k0 : ObjId) (fs : List Frame) (hp : X.pend = k0 :: s.pend) :
    Keeps s (X.setStk t (.dying k0 :: fs)) t fs := by
  refine ⟨fun k hk => ?_, fun k hk => by simp [dyK, hk]⟩
  simp only [setStk_pend, hp, List.mem_cons] at hk
  rcases hk with hk | hk
  · right; simp [dyK, hk]
  · exact Or.inl hk

theorem Keeps.of_pend {X s s' : St} (h : Keeps X s' t rest) (hp : X.pend = s.pend) :
    Keeps s s' t rest :=
  ⟨fun k hk => by rw [← hp]; exact h.pend k hk, h.keep⟩

theorem Keeps.tail {s s' : St} {t : Tid} {f : Frame} {rest : List Frame} (h : Keeps s s' t (f :: rest)) :
    Keeps s s' t rest :=
  ⟨h.pend, fun k hk => h.keep k (by simp [hk])⟩

theorem Keeps.cons (h : Keeps s s' t rest) (hf : dyK f = []) :
    Keeps s s' t (f :: rest) :=
  ⟨h.pend, fun k hk => h.keep k (by rwa [dyingOf_cons, hf] at hk)⟩

theorem keeps_sil (h : Sil t X c s') : Keeps X s' t c.stk := by
  induction h with
  | stop => exact keeps_setStk _ _ _ _ rfl (List.suffix_refl _)
  | caught _ ih => exact ih.cons (by rfl)
  | ecLast => exact (keeps_push _ _ _ _ rfl).tail.cons (by rfl)
  | ecNext _ _ ih => exact (ih.of_pend (by rfl)).tail.cons (by rfl)
  | vecLast => exact keeps_push _ _ _ _ rfl
  | vecNext _ _ _ ih => exact ih.of_pend rfl
  | doneCall => exact (keeps_setStk _ _ _ _ rfl ((List.suffix_cons _ _).trans (List.suffix_cons _ _))).cons (by rfl)
  | doneVec _ ih => exact ih.tail.cons (by rfl)
  | doneRet | topEmpty | scanNone | scanSome => exact keeps_setStk _ _ _ _ (by rfl) (List.suffix_cons _ _)
  | topCall => exact keeps_setStk _ _ _ _ rfl ((List.suffix_cons _ _).trans (List.suffix_cons _ _))
  | _ => exact (keeps_setStk _ _ _ _ (by rfl) (List.suffix_cons _ _)).cons (by rfl)

theorem UStep.keeps (h : UStep s t fs e s') (hfs : s.stk t = fs) : Keeps s s' t fs := by
  cases h with
  | new | dup | drop => exact ⟨fun _ hk => .inl hk, fun _ hk => hfs ▸ hk⟩
  | dropLast => exact keeps_push _ _ _ _ rfl
  | callDtor hfs' => subst hfs'; exact (keeps_sil (xTop_sil ..)).of_pend rfl
  | _ => exact keeps_setStk _ _ _ _ rfl (List.suffix_cons _ _)

def PendStep (s s' : St) (t : Tid) : Prop :=
  (∀ k, k ∈ s'.pend → k ∈ s.pend ∨ k ∈ dyingOf (s'.stk t)) ∧
  (∀ k, k ∈ dyingOf (s.stk t) → k ∈ dyingOf (s'.stk t) ∨ k ∉ s'.pend)

theorem of_keeps (hK : Keeps s s' t rest)
    (heq : s.stk t = f :: rest) (hf : dyK f = []) : PendStep s s' t :=
  ⟨hK.pend, fun k hk => Or.inl (hK.keep k (by rw [heq] at hk; simpa [hf] using hk))⟩

theorem of_keeps_whole (hK : Keeps s s' t fs) (heq : s.stk t = fs) :
    PendStep s s' t :=
  ⟨hK.pend, fun k hk => Or.inl (hK.keep k (by rw [heq] at hk; exact hk))⟩

theorem pendStep_pdt (t : Tid) (k0 : ObjId) (rest : List Frame) (heq : s.stk t = .dying k0 :: rest)
    (hnd : s.pend.Nodup) :
    PendStep s ({ s with pend := s.pend.erase k0, destroyed := k0 :: s.destroyed }.setStk t (.inDt k0 :: rest)) t := by
  refine ⟨fun k hk => Or.inl (List.mem_of_mem_erase hk), fun k hk => ?_⟩
  rw [heq] at hk
  simp only [dyingOf_cons, dyK, List.mem_append, List.mem_singleton] at hk
  rcases hk with hk | hk
  · right; subst hk
    simp only [setStk_pend]
    intro hm; exact ((hnd.mem_erase_iff).mp hm).1 rfl
  · left; simp [dyK, hk]

theorem Step.pend (h : Step s t fs e s') (hfs : s.stk t = fs) (hnd : s.pend.Nodup) :
    PendStep s s' t := by
  cases h with
  | user _ h => exact of_keeps_whole (h.keeps hfs) hfs
  | dtorStart => exact pendStep_pdt _ _ _ hfs hnd
  | addRet | sizeRet | dRet | gRet | xRet => exact of_keeps (keeps_setStk _ _ _ _ rfl (List.suffix_refl _)) hfs rfl
  | dLock => exact of_keeps (keeps_sil (select_sil ..)) hfs rfl
  | dTimeout | dUnlock0 | dRelockTimeout | dUnlock2 => exact of_keeps ((keeps_sil (dDone_sil ..)).of_pend rfl) hfs rfl
  | dUnlock1 | cbEndLast | cbThrow => exact of_keeps ((keeps_sil (drain_sil ..)).tail.of_pend rfl) hfs rfl
  | dtorEnd => exact of_keeps (keeps_sil (resume_sil ..)) hfs rfl
  | gUnlockD =>
    exact of_keeps (keeps_setStk _ _ _ _ rfl ((List.suffix_cons _ _).trans (List.suffix_cons _ _))) hfs rfl
  | xYield | xSleep => exact of_keeps (keeps_sil (xTop_sil ..)) hfs rfl
  | _ => exact of_keeps (keeps_setStk _ _ _ _ rfl (List.suffix_cons _ _)) hfs rfl

def PendFr (s : St) : Prop := ∀ k, k ∈ s.pend → ∃ t, k ∈ dyingOf (s.stk t)

theorem pendFr_step (hI : PendFr s) (hL : Life s) (h : step s t e = some s') :
    PendFr s' := by
  have hnd : s.pend.Nodup := (List.nodup_append.mp hL.nodup).1
  obtain ⟨h1, h2⟩ := (Step.of_step h).pend rfl hnd
  intro k hk
  rcases h1 k hk with hk1 | hk1
  · obtain ⟨u, hu⟩ := hI k hk1
    by_cases hut : u = t
    · subst hut
      rcases h2 k hu with h3 | h3
      · exact ⟨u, h3⟩
      · exact absurd hk h3
    · exact ⟨u, by rw [step_stk_other h hut]; exact hu⟩
  · exact ⟨t, hk1⟩

theorem pendFr_init (cb ns nt) : PendFr (init cb ns nt) := by intro k hk; simp [init] at hk

theorem mem_dyingOf (h : k ∈ dyingOf fs) : Frame.dying k ∈ fs := by
  induction fs with
  | nil => cases h
  | cons f fs ih =>
    simp only [dyingOf_cons, List.mem_append] at h
    rcases h with h | h
    · cases f <;> simp [dyK] at h
      subst h; exact List.mem_cons_self
    · exact List.mem_cons_of_mem _ (ih h)

theorem life_init (cb ns nt) : Life (init cb ns nt) := by
  refine ⟨fun k => ?_, fun k hk => by simp [init] at hk, by simp [init]⟩
  by_cases hnt : nt = 0
  · subst hnt; simp [init, refs]
  · simp [init, refs, hnt]

end ConcVerif.DD
