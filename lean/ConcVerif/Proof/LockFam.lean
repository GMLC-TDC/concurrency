import ConcVerif.Proof.LockFamStep
/-! The invariant of the lock-family model: `GInv` (the mutex word agrees with the ghost `held`), `TInv` (what a
thread's pc and handle slots say agrees with what it holds and how often it acquired and released), their
preservation by every step (`inv_step`), and the first consequences (`held_excl`, `read_held`, `write_held`). -/
namespace ConcVerif.LockFam

/-! ## Global invariant: the mutex state and the per-thread `held` ghost agree -/

structure GInv (s : St) : Prop where
  exclHeld : ∀ t, s.excl = some t ↔ s.held t = .X
  sharedHeld : ∀ t, t ∈ s.shared ↔ s.held t = .S
  sharedNodup : s.shared.Nodup
  xorRW : s.excl ≠ none → s.shared = []
  capS : s.shared ≠ [] → s.capable = true

theorem ginv_init (en cap : Bool) : GInv (init en cap) := by
  constructor <;> simp [init]

theorem ginv_congr {s s' : St} (h : GInv s) (h1 : s'.excl = s.excl) (h2 : s'.shared = s.shared)
    (h3 : s'.held = s.held) (h4 : s'.capable = s.capable) : GInv s' := by
  obtain ⟨a, b, c, d, e⟩ := h
  constructor
  · intro t; rw [h1, h3]; exact a t
  · intro t; rw [h2, h3]; exact b t
  · rw [h2]; exact c
  · rw [h1, h2]; exact d
  · rw [h2, h4]; exact e

theorem ginv_acquire {s s1 : St} {t : Tid} {sd : Side} (h : GInv s) (ha : s.acquire t sd = some s1) : GInv s1 := by
  obtain ⟨a, b, c, d, e⟩ := h
  obtain ⟨hn, hx, ⟨rfl, hs, rfl⟩ | ⟨rfl, hcap, rfl⟩⟩ := acquire_inv ha
  · constructor
    · intro u; simp only [upd_apply]
      by_cases hu : u = t
      · subst hu; simp
      · simp [hu]; constructor
        · intro h; exact absurd h.symm hu
        · intro h; have := (a u).2 h; simp [hx] at this
    · intro u; simp only [upd_apply]
      by_cases hu : u = t
      · subst hu; simp [hs]
      · simp [hu]; exact b u
    · exact c
    · intro _; exact hs
    · exact e
  · have htn : t ∉ s.shared := by intro hin; have := (b t).1 hin; simp [hn] at this
    constructor
    · intro u; simp only [upd_apply]
      by_cases hu : u = t
      · subst hu; simp [hx]
      · simp [hu]; exact a u
    · intro u; simp only [upd_apply]
      by_cases hu : u = t
      · subst hu; simp
      · simp [hu]; exact b u
    · exact List.nodup_cons.2 ⟨htn, c⟩
    · intro hne; exact absurd hx hne
    · intro _; exact hcap

theorem ginv_release {s s1 : St} {t : Tid} {sd : Side} (h : GInv s) (hr : s.release t sd = some s1) : GInv s1 := by
  obtain ⟨a, b, c, d, e⟩ := h
  obtain ⟨hx, ⟨rfl, hex, rfl⟩ | ⟨rfl, hin, rfl⟩⟩ := release_inv hr
  · constructor
    · intro u; simp only [upd_apply]
      by_cases hu : u = t
      · subst hu; simp
      · simp [hu]; intro h; have := (a u).2 h; rw [hex] at this; injection this with this; exact hu this.symm
    · intro u; simp only [upd_apply]
      by_cases hu : u = t
      · subst hu; simp; intro hin; have := (b u).1 hin; simp [hx, Side.mode] at this
      · simp [hu]; exact b u
    · exact c
    · intro hne; exact absurd rfl hne
    · exact e
  · constructor
    · intro u; simp only [upd_apply]
      by_cases hu : u = t
      · subst hu; simp; intro h; have := (a u).1 h; simp [hx, Side.mode] at this
      · simp [hu]; exact a u
    · intro u; simp only [upd_apply]
      by_cases hu : u = t
      · subst hu; simp; exact List.Nodup.not_mem_erase c
      · simp [hu]; exact b u
    · exact c.erase t
    · intro hne
      have := d hne; rw [this] at hin; simp at hin
    · intro hne; apply e; intro h0; rw [h0] at hne; simp at hne

/-! ## Thread-local invariant -/

def slotsMode (l : Loc) : Mode := if l.ha.owns ≠ .none then l.ha.owns else l.hb.owns

/-- what the thread's local state says it holds on the mutex -/
def ownMode (l : Loc) : Mode :=
  match l.pc with
  | .whole _ m _ _ _ => m
  | .acqd _ m => m
  | _ => slotsMode l

/-- only a live, non-null, not moved-from handle owns a lock -/
def Handle.ok (h : Handle) : Prop :=
  h.owns ≠ .none → h.live = true ∧ h.nonnull = true ∧ h.husk = false

/-- (locking enabled) a live, non-null, not moved-from handle owns the lock -/
def Handle.keeps (h : Handle) : Prop :=
  h.live = true → h.nonnull = true → h.husk = false → h.owns ≠ .none

def Pc.inSession : Pc → Bool
  | .sess | .hop _ _ => true
  | _ => false

def HopK.wf (l : Loc) : HopK → Prop
  | .destroy i => (l.get i).live = true
  | .unlock i => (l.get i).live = true
  | .movec src dst => (l.get src).live = true ∧ (l.get dst).live = false ∧ src ≠ dst
  | .movea src dst => (l.get src).live = true ∧ (l.get dst).live = true ∧ src ≠ dst

/-- One thread: `held`, `acqs`, `rels` are its ghost entries, `l` its local state.  `link`/`counts` tie the ghosts to
the pc and the slots; `ha`/`hb`/`one`: only a usable handle owns, and at most one does; `dead`: handles live only
inside a session; the last three say what the pcs `acqd`, `hop`, `whole` record.  `keeps` exempts the slot a
handle operation works on: between its release and its `hend` that slot is still live and non-null but owns nothing. -/
structure TInv (en : Bool) (held : Mode) (acqs rels : Nat) (l : Loc) : Prop where
  link : held = ownMode l
  counts : acqs = rels + (if held = .none then 0 else 1)
  ha : l.ha.ok
  hb : l.hb.ok
  keeps : en = true → ∀ j, (∀ k p, l.pc = .hop k p → j ≠ k.relSlot) → (l.get j).keeps
  one : ¬ (l.ha.owns ≠ .none ∧ l.hb.owns ≠ .none)
  dead : l.pc.inSession = false → l.ha.live = false ∧ l.hb.live = false
  acqdOk : ∀ ok m, l.pc = .acqd ok m → (ok = true ↔ m ≠ .none)
  hopOk : ∀ k p, l.pc = .hop k p → k.wf l ∧ (p = true ↔ (l.get k.relSlot).owns ≠ .none)
  wholeM : ∀ w m a b c, l.pc = .whole w m a b c → m ≠ .none

structure Inv (s : St) : Prop where
  g : GInv s
  l : ∀ t, TInv s.enabled (s.held t) (s.acqs t) (s.rels t) (s.loc t)

theorem tinv_init (en : Bool) : TInv en .none 0 0 {} := by
  constructor <;> simp [ownMode, slotsMode, Handle.ok, Pc.inSession]
  intro _ j; cases j <;> simp [Loc.get, Handle.keeps]

theorem inv_init (en cap : Bool) : Inv (init en cap) :=
  ⟨ginv_init en cap, fun _ => tinv_init en⟩

@[simp] theorem setLoc_loc (s : St) (t : Tid) (l : Loc) : (s.setLoc t l).loc = upd s.loc t l := rfl
@[simp] theorem setLoc_held (s : St) (t : Tid) (l : Loc) : (s.setLoc t l).held = s.held := rfl
@[simp] theorem setLoc_acqs (s : St) (t : Tid) (l : Loc) : (s.setLoc t l).acqs = s.acqs := rfl
@[simp] theorem setLoc_rels (s : St) (t : Tid) (l : Loc) : (s.setLoc t l).rels = s.rels := rfl
@[simp] theorem setLoc_excl (s : St) (t : Tid) (l : Loc) : (s.setLoc t l).excl = s.excl := rfl
@[simp] theorem setLoc_shared (s : St) (t : Tid) (l : Loc) : (s.setLoc t l).shared = s.shared := rfl
@[simp] theorem setLoc_enabled (s : St) (t : Tid) (l : Loc) : (s.setLoc t l).enabled = s.enabled := rfl
@[simp] theorem setLoc_capable (s : St) (t : Tid) (l : Loc) : (s.setLoc t l).capable = s.capable := rfl
@[simp] theorem setLoc_val (s : St) (t : Tid) (l : Loc) : (s.setLoc t l).val = s.val := rfl
@[simp] theorem setLoc_committed (s : St) (t : Tid) (l : Loc) : (s.setLoc t l).committed = s.committed := rfl
@[simp] theorem setLoc_hist (s : St) (t : Tid) (l : Loc) : (s.setLoc t l).hist = s.hist := rfl
@[simp] theorem setLoc_loc_self (s : St) (t : Tid) (l : Loc) : (s.setLoc t l).loc t = l := upd_same _ _ _
@[simp] theorem setPc_pc (s : St) (t : Tid) (p : Pc) : ((s.setPc t p).loc t).pc = p :=
  congrArg Loc.pc (setLoc_loc_self s t _)
theorem setPc_loc_other (s : St) {t u : Tid} (hu : u ≠ t) (p : Pc) : (s.setPc t p).loc u = s.loc u :=
  upd_other _ _ _ _ hu

@[simp] theorem slotsMode_setPc (l : Loc) (p : Pc) : slotsMode { l with pc := p } = slotsMode l := rfl

@[simp] theorem get_setPc (l : Loc) (p : Pc) (i : Slot) : ({ l with pc := p } : Loc).get i = l.get i := by
  cases i <;> rfl
@[simp] theorem set_pc (l : Loc) (i : Slot) (h : Handle) : (l.set i h).pc = l.pc := by cases i <;> rfl
theorem get_set (l : Loc) (i j : Slot) (h : Handle) : (l.set i h).get j = if j = i then h else l.get j := by
  cases i <;> cases j <;> rfl
theorem ha_eq (l : Loc) : l.ha = l.get .a := rfl
theorem hb_eq (l : Loc) : l.hb = l.get .b := rfl

theorem modeSide_some {m : Mode} {sd : Side} (h : modeSide m = some sd) : m = sd.mode := by
  cases m <;> cases h <;> rfl

/-- pcs outside sessions and outside brackets: the thread holds nothing and has no live handle -/
def Pc.plain : Pc → Bool
  | .idle | .sessCalled | .acq _ _ | .wCalled _ | .wDone _ | .wExc => true
  | _ => false

theorem Pc.plain_spec {p : Pc} (h : p.plain = true) :
    p.inSession = false ∧ (∀ l : Loc, ownMode { l with pc := p } = slotsMode l) ∧ (∀ ok m, p ≠ .acqd ok m) ∧
    ∀ w m x y z, p ≠ .whole w m x y z := by
  cases p
  case acqd | sess | hop | whole => cases h
  all_goals exact ⟨rfl, fun _ => rfl, fun _ _ => Pc.noConfusion, fun _ _ _ _ _ => Pc.noConfusion⟩

theorem Side.mode_ne_none (sd : Side) : sd.mode ≠ .none := by cases sd <;> exact Mode.noConfusion

theorem ite_owns (x : Mode) : (if x ≠ .none then x else .none) = x := by cases x <;> rfl

theorem keeps_of_not_live {h : Handle} (hl : h.live = false) : h.keeps := by
  intro x; rw [hl] at x; cases x

theorem ok_of_owns_none {h : Handle} (hn : h.owns = .none) : h.ok := fun x => absurd hn x

/-! Which mode the two slots own together (`slotsMode`), when at most one of them owns. -/

theorem slotsMode_set {l : Loc} {i : Slot} {h' : Handle} (h1 : (l.get i).owns = .none) (h2 : h'.owns = .none) :
    slotsMode (l.set i h') = slotsMode l := by
  cases i <;> simp only [Loc.get] at h1 <;> simp only [slotsMode, Loc.set, h1, h2]

theorem slotsMode_of_owns {l : Loc} (hone : ¬ (l.ha.owns ≠ .none ∧ l.hb.owns ≠ .none)) {i : Slot}
    (hown : (l.get i).owns ≠ .none) : slotsMode l = (l.get i).owns := by
  cases i
  · exact if_pos hown
  · exact if_neg fun ha => hone ⟨ha, hown⟩

theorem ownMode_inSession {l : Loc} (h : l.pc.inSession = true) : ownMode l = slotsMode l := by
  unfold ownMode
  split
  · next hp => rw [hp] at h; cases h
  · next hp => rw [hp] at h; cases h
  · rfl

theorem slotsMode_clear {l : Loc} (hone : ¬ (l.ha.owns ≠ .none ∧ l.hb.owns ≠ .none)) {i : Slot} {h' : Handle}
    (hown : (l.get i).owns ≠ .none) (hn : h'.owns = .none) : slotsMode (l.set i h') = .none := by
  cases i <;> simp only [Loc.get] at hown <;> simp only [slotsMode, Loc.set, hn]
  · rw [if_neg (fun x => x rfl)]; exact Decidable.not_not.1 fun hb => hone ⟨hown, hb⟩
  · exact (ite_owns _).trans (Decidable.not_not.1 fun ha => hone ⟨ha, hown⟩)

theorem slotsMode_move {l : Loc} {src dst : Slot} (hne : src ≠ dst) (hd : (l.get dst).owns = .none) :
    slotsMode ((l.set dst (l.get src)).set src { l.get src with owns := .none, husk := true }) = slotsMode l := by
  cases src <;> cases dst <;> simp only [Loc.get] at hd <;> simp only [slotsMode, Loc.set, Loc.get, hd]
  · exact absurd rfl hne
  · rw [ite_owns]; exact if_neg (fun x => x rfl)
  · exact ite_owns _
  · exact absurd rfl hne

theorem one_set (l : Loc) (i : Slot) {h' : Handle} (hn : h'.owns = .none) :
    ¬ ((l.set i h').ha.owns ≠ .none ∧ (l.set i h').hb.owns ≠ .none) := by
  cases i
  · exact fun x => x.1 hn
  · exact fun x => x.2 hn

theorem wf_congr {l l' : Loc} {k : HopK} (hlive : ∀ j, (l'.get j).live = (l.get j).live) (h : k.wf l) : k.wf l' := by
  cases k <;> simp only [HopK.wf] at h ⊢ <;> simp only [hlive] <;> exact h

section
variable {en : Bool} {hd : Mode} {a r : Nat} {l : Loc}

/-- a thread without live handle moves to a pc outside sessions: only what it holds, its counters and the facts
about the new pc are to be supplied -/
theorem tinv_outside {hd' : Mode} {a' r' : Nat} {p' : Pc} (h : TInv en hd a r l)
    (hdead : l.ha.live = false ∧ l.hb.live = false) (hns : p'.inSession = false)
    (hlink : hd' = ownMode { l with pc := p' }) (hcount : a' = r' + (if hd' = .none then 0 else 1))
    (hacqd : ∀ ok m, p' = .acqd ok m → (ok = true ↔ m ≠ .none))
    (hwhole : ∀ w m x y z, p' = .whole w m x y z → m ≠ .none) : TInv en hd' a' r' { l with pc := p' } := by
  refine ⟨hlink, hcount, h.ha, h.hb, fun _ j _ => ?_, h.one, fun _ => hdead, hacqd, ?_, hwhole⟩
  · cases j
    · exact keeps_of_not_live hdead.1
    · exact keeps_of_not_live hdead.2
  · rintro _ _ rfl; cases hns

theorem TInv.slots_none (h : TInv en hd a r l) (hp : l.pc.inSession = false) :
    l.ha.owns = .none ∧ l.hb.owns = .none :=
  ⟨Decidable.not_not.1 fun hne => (nomatch (h.dead hp).1.symm.trans (h.ha hne).1),
    Decidable.not_not.1 fun hne => (nomatch (h.dead hp).2.symm.trans (h.hb hne).1)⟩

theorem tinv_plain {p' : Pc} (h : TInv en hd a r l)
    (hp : l.pc.plain = true) (hp' : p'.plain = true) : TInv en hd a r { l with pc := p' } := by
  obtain ⟨hns, hown, _⟩ := Pc.plain_spec hp
  obtain ⟨hns', hown', hacqd', hwhole'⟩ := Pc.plain_spec hp'
  exact tinv_outside h (h.dead hns) hns' (h.link.trans ((hown l).trans (hown' l).symm)) h.counts
    (fun _ _ hk => absurd hk (hacqd' _ _)) (fun _ _ _ _ _ hk => absurd hk (hwhole' _ _ _ _ _))

theorem TInv.plain_none (h : TInv en hd a r l)
    (hp : l.pc.plain = true) : hd = .none := by
  obtain ⟨hns, hown, _⟩ := Pc.plain_spec hp
  have hsl := h.slots_none hns
  rw [h.link, show ownMode l = slotsMode l from hown l, slotsMode, hsl.1, hsl.2]; rfl

theorem slot_ok (h : TInv en hd a r l) (i : Slot) : (l.get i).ok := by
  cases i
  · exact h.ha
  · exact h.hb

theorem TInv.held_of_owns (h : TInv en hd a r l)
    (hs : l.pc.inSession = true) {i : Slot} (hown : (l.get i).owns ≠ .none) : hd = (l.get i).owns := by
  rw [h.link, ownMode_inSession hs, slotsMode_of_owns h.one hown]

/-- the local invariant between handle operations, from facts about the two slots -/
theorem tinv_sess (hpc : l.pc = .sess) (link : hd = slotsMode l)
    (counts : a = r + (if hd = .none then 0 else 1)) (ok : ∀ j, (l.get j).ok)
    (keeps : en = true → ∀ j, (l.get j).keeps) (one : ¬ (l.ha.owns ≠ .none ∧ l.hb.owns ≠ .none)) :
    TInv en hd a r l := by
  refine ⟨by rw [link, ownMode, hpc], counts, ok .a, ok .b, fun he j _ => keeps he j, one, ?_, ?_, ?_, ?_⟩
  · exact fun hk => nomatch hpc ▸ hk
  · exact fun _ _ hk => Pc.noConfusion (hpc.symm.trans hk)
  · exact fun _ _ hk => Pc.noConfusion (hpc.symm.trans hk)
  · exact fun _ _ _ _ _ hk => Pc.noConfusion (hpc.symm.trans hk)

theorem tinv_hbegin {k : HopK} {p : Bool} (h : TInv en hd a r l)
    (hpc : l.pc = .sess) (hwf : k.wf l) (hp : p = true ↔ (l.get k.relSlot).owns ≠ .none) :
    TInv en hd a r { l with pc := .hop k p } := by
  refine ⟨by rw [h.link]; simp only [ownMode, hpc]; rfl, h.counts, h.ha, h.hb,
    fun he j _ => h.keeps he j (fun _ _ hk => Pc.noConfusion (hpc.symm.trans hk)), h.one, Bool.noConfusion,
    fun _ _ hk => Pc.noConfusion hk, ?_, fun _ _ _ _ _ hk => Pc.noConfusion hk⟩
  rintro _ _ ⟨⟩
  exact ⟨by cases k <;> exact hwf, hp⟩

theorem tinv_hop_rel {k : HopK} (h : TInv en hd a r l)
    (hpc : l.pc = .hop k true) :
    TInv en .none a (r + 1)
      (({ l with pc := .hop k false } : Loc).set k.relSlot { l.get k.relSlot with owns := .none }) := by
  obtain ⟨hwf, hp⟩ := h.hopOk k true hpc
  have hown : (l.get k.relSlot).owns ≠ .none := hp.1 rfl
  have hhd := h.held_of_owns (by rw [hpc]; rfl) hown
  refine ⟨?_, ?_, ?_, ?_, ?_, one_set _ _ rfl, ?_, ?_, ?_, ?_⟩
  · rw [ownMode, set_pc]
    exact (slotsMode_clear (l := { l with pc := .hop k false }) h.one (by rw [get_setPc]; exact hown) rfl).symm
  · have := h.counts; rwa [if_neg (hhd ▸ hown)] at this
  · rw [ha_eq, get_set]; split
    · exact ok_of_owns_none rfl
    · exact h.ha
  · rw [hb_eq, get_set]; split
    · exact ok_of_owns_none rfl
    · exact h.hb
  · intro he j hj
    have hjne : j ≠ k.relSlot := hj k false (set_pc _ _ _)
    rw [get_set, if_neg hjne, get_setPc]
    exact h.keeps he j (by rw [hpc]; rintro _ _ ⟨⟩; exact hjne)
  · rw [set_pc]; exact Bool.noConfusion
  · rw [set_pc]; exact fun _ _ => Pc.noConfusion
  · rw [set_pc]; rintro _ _ ⟨⟩
    refine ⟨wf_congr (fun j => ?_) hwf, by rw [get_set, if_pos rfl]; exact ⟨Bool.noConfusion, fun x => absurd rfl x⟩⟩
    rw [get_set, get_setPc]; split
    · next hj => rw [hj]
    · rfl
  · rw [set_pc]; exact fun _ _ _ _ _ => Pc.noConfusion

theorem TInv.hop_false {k : HopK} (h : TInv en hd a r l)
    (hpc : l.pc = .hop k false) : k.wf l ∧ (l.get k.relSlot).owns = .none ∧ hd = slotsMode l ∧
      (en = true → ∀ j, j ≠ k.relSlot → (l.get j).keeps) := by
  obtain ⟨hwf, hp⟩ := h.hopOk k false hpc
  refine ⟨hwf, Decidable.not_not.1 fun hne => (nomatch hp.2 hne), ?_, ?_⟩
  · rw [h.link]; simp only [ownMode, hpc]
  · exact fun he j hj => h.keeps he j (by rw [hpc]; rintro _ _ ⟨⟩; exact hj)

/-- end of `destroy` / `unlock`: the slot operated on, which owns nothing by now, gets a handle that owns nothing -/
theorem tinv_hend_set {k : HopK} {h' : Handle} (h : TInv en hd a r l)
    (hpc : l.pc = .hop k false) (hn : h'.owns = .none) (hk : h'.keeps) :
    TInv en hd a r (({ l with pc := .sess } : Loc).set k.relSlot h') := by
  obtain ⟨_, hown, hlink, hkeep⟩ := h.hop_false hpc
  refine tinv_sess (set_pc _ _ _) ?_ h.counts (fun j => ?_) (fun he j => ?_) (one_set _ _ hn)
  · rw [hlink, slotsMode_set (by rw [get_setPc]; exact hown) hn]; rfl
  · rw [get_set, get_setPc]; split
    · exact ok_of_owns_none hn
    · exact slot_ok h j
  · rw [get_set, get_setPc]; split
    · exact hk
    · next hj => exact hkeep he j hj

/-- end of a move (construct or assign): the destination takes over, the source becomes a husk -/
theorem tinv_hend_move {k : HopK} {src dst : Slot} (h : TInv en hd a r l)
    (hpc : l.pc = .hop k false) (hk : k = .movec src dst ∨ k = .movea src dst) :
    TInv en hd a r
      ((({ l with pc := .sess } : Loc).set dst (l.get src)).set src { l.get src with owns := .none, husk := true }) := by
  obtain ⟨hwf, hown, hlink, hkeep⟩ := h.hop_false hpc
  have hne : src ≠ dst := by rcases hk with rfl | rfl <;> exact hwf.2.2
  have hrs : k.relSlot = dst := by rcases hk with rfl | rfl <;> rfl
  rw [hrs] at hown hkeep
  refine tinv_sess (by rw [set_pc, set_pc]) ?_ h.counts (fun j => ?_) (fun he j => ?_) (one_set _ _ rfl)
  · rw [hlink]; exact (slotsMode_move (l := { l with pc := .sess }) hne (by rw [get_setPc]; exact hown)).symm
  · rw [get_set]; split
    · exact ok_of_owns_none rfl
    · rw [get_set, get_setPc]; split
      · exact slot_ok h src
      · exact slot_ok h j
  · rw [get_set]; split
    · exact fun _ _ x => nomatch x
    · next hj =>
      rw [get_set, get_setPc]; split
      · exact hkeep he src hne
      · next hj' => exact hkeep he j hj'

theorem tinv_got {ok : Bool} {m : Mode} (h : TInv en hd a r l)
    (hns : l.pc.inSession = false) (hm : hd = m) (h1 : m ≠ .none → ok = true) (h2 : en = true → ok = true → m ≠ .none) :
    TInv en hd a r { l with pc := .sess, ha := { live := true, owns := m, nonnull := ok } } := by
  have hsl := h.slots_none hns
  refine tinv_sess rfl ?_ h.counts (fun j => ?_) (fun he j => ?_) (fun x => x.2 hsl.2)
  · show hd = if m ≠ .none then m else l.hb.owns
    rw [hm, hsl.2, ite_owns]
  · cases j
    · exact fun hne => ⟨rfl, h1 hne, rfl⟩
    · exact h.hb
  · cases j
    · exact fun _ hn _ => h2 he hn
    · exact keeps_of_not_live (h.dead hns).2

theorem tinv_whole_setPc {w w' : WOp} {m : Mode} {x y x' y' : Option Int}
    {z z' : Bool} (h : TInv en hd a r l) (hpc : l.pc = .whole w m x y z) :
    TInv en hd a r { l with pc := .whole w' m x' y' z' } := by
  refine tinv_outside h (h.dead (by rw [hpc]; rfl)) rfl (by rw [h.link]; simp only [ownMode, hpc]) h.counts
    (fun _ _ hk => Pc.noConfusion hk) ?_
  rintro _ _ _ _ _ ⟨⟩; exact h.wholeM w m x y z hpc

theorem tinv_whole_rel {w : WOp} {m : Mode} {x y : Option Int}
    {z : Bool} {p' : Pc} (h : TInv en hd a r l) (hpc : l.pc = .whole w m x y z) (hp' : p'.plain = true) :
    TInv en .none a (r + 1) { l with pc := p' } := by
  have hns : l.pc.inSession = false := by rw [hpc]; rfl
  have hsl := h.slots_none hns
  obtain ⟨hns', hown', hacqd', hwhole'⟩ := Pc.plain_spec hp'
  have hhd : hd ≠ .none := by rw [h.link]; simp only [ownMode, hpc]; exact h.wholeM w m x y z hpc
  refine tinv_outside h (h.dead hns) hns' ?_ ?_ (fun _ _ hk => absurd hk (hacqd' _ _))
    (fun _ _ _ _ _ hk => absurd hk (hwhole' _ _ _ _ _))
  · rw [hown' l, slotsMode, hsl.1, hsl.2]; rfl
  · have := h.counts; rwa [if_neg hhd] at this

end

theorem tinv_acquire {s s1 : St} {t : Tid} {sd : Side} {p' : Pc} (h : Inv s) (hacq : s.acquire t sd = some s1)
    (hplain : (s.loc t).pc.plain = true)
    (hp' : p' = .acqd true sd.mode ∨ ∃ w, p' = .whole w sd.mode none none false) :
    TInv s.enabled (s1.held t) (s1.acqs t) (s1.rels t) { s1.loc t with pc := p' } := by
  obtain ⟨hn, _, _, hheld, hacqs, hrels, hk⟩ := acquire_spec hacq
  have hl := h.l t
  rw [hheld, hacqs, hrels, hk.loc, upd_same, upd_same]
  have hc : s.acqs t = s.rels t := by have := hl.counts; rwa [hn, if_pos rfl] at this
  have hcnt : s.acqs t + 1 = s.rels t + (if sd.mode = .none then 0 else 1) := by rw [if_neg sd.mode_ne_none, hc]
  have hdead := hl.dead (Pc.plain_spec hplain).1
  rcases hp' with rfl | ⟨w, rfl⟩
  · refine tinv_outside hl hdead rfl rfl hcnt ?_ (fun _ _ _ _ _ hk => Pc.noConfusion hk)
    rintro _ _ ⟨⟩; exact ⟨fun _ => sd.mode_ne_none, fun _ => rfl⟩
  · refine tinv_outside hl hdead rfl rfl hcnt (fun _ _ hk => Pc.noConfusion hk) ?_
    rintro _ _ _ _ _ ⟨⟩; exact sd.mode_ne_none

theorem tinv_release {s s1 : St} {t : Tid} {sd : Side} {en : Bool} {l' : Loc} (hr : s.release t sd = some s1)
    (ht : TInv en .none (s.acqs t) (s.rels t + 1) l') : TInv en (s1.held t) (s1.acqs t) (s1.rels t) l' := by
  obtain ⟨_, hheld, hrels, hacqs, _⟩ := release_spec hr
  rw [hheld, hacqs, hrels, upd_same, upd_same]; exact ht

theorem tinv_setLoc {s : St} {t : Tid} {en : Bool} {l' : Loc} (h : TInv en (s.held t) (s.acqs t) (s.rels t) l') :
    TInv en ((s.setLoc t l').held t) ((s.setLoc t l').acqs t) ((s.setLoc t l').rels t) ((s.setLoc t l').loc t) := by
  rw [setLoc_loc_self]; exact h

theorem tinv_step {s s' : St} {t : Tid} {p : Pc} {e : Ev} (h : Inv s) (hp : (s.loc t).pc = p) (hs : Step s t p e s') :
    TInv s.enabled (s'.held t) (s'.acqs t) (s'.rels t) (s'.loc t) := by
  have hl := h.l t
  cases hs
  case callSess | acq | callW | exc | wCalledUth | retW => exact tinv_setLoc (tinv_plain hl (by rw [hp]; rfl) rfl)
  case lkOk ha => exact tinv_setLoc (tinv_acquire h ha (by rw [hp]; rfl) (.inl rfl))
  case wLk ha => exact tinv_setLoc (tinv_acquire h ha (by rw [hp]; rfl) (.inr ⟨_, rfl⟩))
  case lkFail =>
    -- failed try / timed attempt: nothing acquired
    refine tinv_setLoc (tinv_outside hl (hl.dead (by rw [hp]; rfl)) rfl (hl.plain_none (by rw [hp]; rfl)) hl.counts ?_
      (fun _ _ _ _ _ hk => Pc.noConfusion hk))
    rintro _ _ ⟨⟩; exact ⟨Bool.noConfusion, fun x => absurd rfl x⟩
  case gotOff he _ =>
    exact tinv_setLoc (tinv_got hl (by rw [hp]; rfl) (hl.plain_none (by rw [hp]; rfl)) (fun x => absurd rfl x)
      (fun he' => by rw [he] at he'; cases he'))
  case got =>
    have hok := hl.acqdOk _ _ hp
    exact tinv_setLoc (tinv_got hl (by rw [hp]; rfl) (by rw [hl.link]; simp only [ownMode, hp]) hok.2 (fun _ => hok.1))
  case sessRd | final | sessWr | sessWrOff => exact hl
  case hbDestroy hlive => exact tinv_setLoc (tinv_hbegin (k := .destroy _) hl hp hlive decide_eq_true_iff)
  case hbUnlock hlive => exact tinv_setLoc (tinv_hbegin (k := .unlock _) hl hp hlive decide_eq_true_iff)
  case hbMovea hsrc hdst hne =>
    exact tinv_setLoc (tinv_hbegin (k := .movea _ _) hl hp ⟨hsrc, hdst, hne⟩ decide_eq_true_iff)
  case hbMovec hsrc hdst hne =>
    -- the destination is not live, so it owns nothing
    exact tinv_setLoc (tinv_hbegin (k := .movec _ _) hl hp ⟨hsrc, hdst, hne⟩
      ⟨Bool.noConfusion, fun hown => nomatch hdst.symm.trans (slot_ok hl _ hown).1⟩)
  case rel hr => exact tinv_setLoc (tinv_release hr (tinv_hop_rel hl hp))
  case heDestroy => exact tinv_setLoc (tinv_hend_set (k := .destroy _) hl hp rfl (keeps_of_not_live rfl))
  case heUnlock => exact tinv_setLoc (tinv_hend_set (k := .unlock _) hl hp rfl (fun _ x => nomatch x))
  case heMove hk => exact tinv_setLoc (tinv_hend_move hl hp hk)
  case retSess ha hb =>
    exact tinv_setLoc (tinv_outside hl ⟨ha, hb⟩ rfl (by rw [hl.link]; simp only [ownMode, hp]; rfl) hl.counts
      (fun _ _ hk => Pc.noConfusion hk) (fun _ _ _ _ _ hk => Pc.noConfusion hk))
  case wRd | wUth | wWr => exact tinv_setLoc (tinv_whole_setPc hl hp)
  case wRelExc hr | wRelOff hr =>
    exact tinv_setLoc (tinv_release hr ((release_untouched hr).loc ▸ tinv_whole_rel hl hp rfl))
  case wRel w m seen wrote sd r s1 hm he hres hr =>
    exact tinv_setLoc (s := s1) (tinv_release hr ((release_untouched hr).loc ▸ tinv_whole_rel hl hp rfl))

theorem ginv_step {s s' : St} {t : Tid} {p : Pc} {e : Ev} (h : GInv s) (hs : Step s t p e s') : GInv s' := by
  obtain ⟨s1, hm, hf⟩ := hs.mutex
  refine ginv_congr ?_ hf.excl hf.shared hf.held hf.capable
  cases hm
  case acquire ha => exact ginv_acquire h ha
  case release hr => exact ginv_release h hr
  case none => exact h

theorem inv_step (s : St) (t : Tid) (e : Ev) (s' : St) (h : Inv s) (hs : step s t e = some s') : Inv s' := by
  have hst := Step.of_step hs
  refine ⟨ginv_step h.g hst, fun u => ?_⟩
  rw [hst.enabled_eq]
  by_cases hu : u = t
  · subst hu; exact tinv_step h rfl hst
  · obtain ⟨s1, hm, hf⟩ := hst.mutex
    obtain ⟨h1, h2, h3⟩ := hm.other hu
    rw [hf.held, hf.acqs, hf.rels, h1, h2, h3, hf.loc u hu, hm.untouched.loc]; exact h.l u

theorem whole_held {s : St} (h : Inv s) {t : Tid} {w : WOp} {m : Mode} {a b : Option Int} {c : Bool}
    (hp : (s.loc t).pc = .whole w m a b c) : s.held t = m ∧ m ≠ .none :=
  ⟨by rw [(h.l t).link]; simp only [ownMode, hp], (h.l t).wholeM w m a b c hp⟩

theorem held_excl {s : St} (hg : GInv s) {t u : Tid} (hx : s.held t = .X) (hne : u ≠ t) : s.held u = .none := by
  have hex := (hg.exclHeld t).2 hx
  cases hu : s.held u with
  | none => rfl
  | X => exact absurd (Option.some.inj (((hg.exclHeld u).2 hu).symm.trans hex)) hne
  | S =>
    have hin := (hg.sharedHeld u).2 hu
    rw [hg.xorRW (by rw [hex]; exact fun h => nomatch h)] at hin
    cases hin

theorem read_held {s s' : St} {t : Tid} {v : Int} (hi : Inv s) (he : s.enabled = true)
    (hs : step s t (.rd v) = some s') : s.held t ≠ .none ∧ v = s.val := by
  obtain ⟨p, hp, hst⟩ := Step.of_step_ex hs
  cases hst with
  | sessRd hv => exact hv he
  | wRd hv =>
    have hw := whole_held hi hp
    exact ⟨hw.1 ▸ hw.2, hv he⟩

theorem write_held {s s' : St} {t : Tid} {v : Int} (hi : Inv s) (he : s.enabled = true)
    (hs : step s t (.wr v) = some s') : s.held t = .X := by
  obtain ⟨p, hp, hst⟩ := Step.of_step_ex hs
  cases hst with
  | sessWr _ hx => exact hx
  | sessWrOff he' => rw [he] at he'; cases he'
  | wWr => exact (whole_held hi hp).1

theorem inv_reachable {en cap : Bool} {s : St} (h : Reachable en cap s) : Inv s := by
  obtain ⟨es, hes⟩ := h
  exact runFrom_inv inv_step (inv_init en cap) hes

theorem Reachable.step {en cap : Bool} {s s' : St} {t : Tid} {e : Ev} (h : Reachable en cap s)
    (hs : step s t e = some s') : Reachable en cap s' := by
  obtain ⟨es, hes⟩ := h
  exact ⟨es ++ [(t, e)], runFrom_snoc_eq_some.2 ⟨s, hes, hs⟩⟩

/-- the configuration of a run never changes -/
theorem reachable_config {en cap : Bool} {s : St} (h : Reachable en cap s) : s.enabled = en ∧ s.capable = cap := by
  obtain ⟨es, hes⟩ := h
  exact runFrom_rel (R := fun a b => b.enabled = a.enabled ∧ b.capable = a.capable) (fun _ => ⟨rfl, rfl⟩)
    (fun a b c h1 h2 => ⟨by rw [h2.1, h1.1], by rw [h2.2, h1.2]⟩)
    (fun a u e b hab => ⟨(Step.of_step hab).enabled_eq, (Step.of_step hab).capable_eq⟩) hes

end ConcVerif.LockFam
