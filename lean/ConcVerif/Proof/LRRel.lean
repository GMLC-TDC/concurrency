import ConcVerif.Model.LR
/-! Field lemmas of the state updates of `Model/LR.lean`, and the accepted edges of the model as a relation:
`Step s t e s'` has one constructor per edge of `step` (the counter load of the wait loop is two edges, the catch-all
arm of redundant loads three), with the pc of the acting thread as a hypothesis and the event and the successor state
written out.  `Step.of_step` / `Step.to_step`: the relation is exactly the graph of `step`.  A fact about single steps
is proved by `cases` (rule induction) on `Step.of_step hs`, with concrete pcs in every arm and the arms that a concrete
event excludes removed by unification; an enabledness claim is a constructor followed by `to_step`. -/
namespace ConcVerif.LR

theorem side_cases (y l : Side) : y = l ∨ y = l.flip := by cases y <;> cases l <;> simp [Side.flip]

theorem side_ne_iff {a b : Side} : a ≠ b ↔ a = b.flip := by cases a <;> cases b <;> simp [Side.flip]

@[simp] theorem setPc_pc (s : St) (t u : Tid) (p : Pc) : (s.setPc t p).pc u = if u = t then p else s.pc u := rfl
@[simp] theorem setPc_strict (s : St) (t : Tid) (p : Pc) : (s.setPc t p).strict = s.strict := rfl
@[simp] theorem setReg_strict (s : St) (c : Side) (l : List Tid) : (s.setReg c l).strict = s.strict := by cases c <;> rfl
@[simp] theorem setVal_strict (s : St) (x : Side) (v : List OpId) : (s.setVal x v).strict = s.strict := by cases x <;> rfl
@[simp] theorem setPc_rl (s : St) (t : Tid) (p : Pc) : (s.setPc t p).rl = s.rl := rfl
@[simp] theorem setPc_cl (s : St) (t : Tid) (p : Pc) : (s.setPc t p).cl = s.cl := rfl
@[simp] theorem setPc_mtx (s : St) (t : Tid) (p : Pc) : (s.setPc t p).mtx = s.mtx := rfl
@[simp] theorem setPc_regL (s : St) (t : Tid) (p : Pc) : (s.setPc t p).regL = s.regL := rfl
@[simp] theorem setPc_regR (s : St) (t : Tid) (p : Pc) : (s.setPc t p).regR = s.regR := rfl
@[simp] theorem setPc_valL (s : St) (t : Tid) (p : Pc) : (s.setPc t p).valL = s.valL := rfl
@[simp] theorem setPc_valR (s : St) (t : Tid) (p : Pc) : (s.setPc t p).valR = s.valR := rfl
@[simp] theorem setPc_committed (s : St) (t : Tid) (p : Pc) : (s.setPc t p).committed = s.committed := rfl
@[simp] theorem setPc_base (s : St) (t : Tid) (p : Pc) : (s.setPc t p).base = s.base := rfl
@[simp] theorem setPc_snap (s : St) (t : Tid) (p : Pc) : (s.setPc t p).snap = s.snap := rfl
@[simp] theorem setPc_lastSeen (s : St) (t : Tid) (p : Pc) : (s.setPc t p).lastSeen = s.lastSeen := rfl
@[simp] theorem setPc_reg (s : St) (t : Tid) (p : Pc) (c : Side) : (s.setPc t p).reg c = s.reg c := by cases c <;> rfl
@[simp] theorem setPc_val (s : St) (t : Tid) (p : Pc) (x : Side) : (s.setPc t p).val x = s.val x := by cases x <;> rfl
@[simp] theorem setReg_pc (s : St) (c : Side) (l : List Tid) : (s.setReg c l).pc = s.pc := by cases c <;> rfl
@[simp] theorem setReg_rl (s : St) (c : Side) (l : List Tid) : (s.setReg c l).rl = s.rl := by cases c <;> rfl
@[simp] theorem setReg_cl (s : St) (c : Side) (l : List Tid) : (s.setReg c l).cl = s.cl := by cases c <;> rfl
@[simp] theorem setReg_mtx (s : St) (c : Side) (l : List Tid) : (s.setReg c l).mtx = s.mtx := by cases c <;> rfl
@[simp] theorem setReg_valL (s : St) (c : Side) (l : List Tid) : (s.setReg c l).valL = s.valL := by cases c <;> rfl
@[simp] theorem setReg_valR (s : St) (c : Side) (l : List Tid) : (s.setReg c l).valR = s.valR := by cases c <;> rfl
@[simp] theorem setReg_val (s : St) (c : Side) (l : List Tid) (x : Side) : (s.setReg c l).val x = s.val x := by
  cases c <;> cases x <;> rfl
@[simp] theorem setReg_committed (s : St) (c : Side) (l : List Tid) : (s.setReg c l).committed = s.committed := by
  cases c <;> rfl
@[simp] theorem setReg_base (s : St) (c : Side) (l : List Tid) : (s.setReg c l).base = s.base := by cases c <;> rfl
@[simp] theorem setReg_snap (s : St) (c : Side) (l : List Tid) : (s.setReg c l).snap = s.snap := by cases c <;> rfl
@[simp] theorem setReg_lastSeen (s : St) (c : Side) (l : List Tid) : (s.setReg c l).lastSeen = s.lastSeen := by
  cases c <;> rfl
theorem setReg_reg (s : St) (c c' : Side) (l : List Tid) : (s.setReg c l).reg c' = if c' = c then l else s.reg c' := by
  cases c <;> cases c' <;> simp [St.setReg, St.reg]
theorem setReg_self (s : St) (c : Side) : s.setReg c (s.reg c) = s := by cases c <;> rfl
@[simp] theorem setVal_pc (s : St) (x : Side) (v : List OpId) : (s.setVal x v).pc = s.pc := by cases x <;> rfl
@[simp] theorem setVal_rl (s : St) (x : Side) (v : List OpId) : (s.setVal x v).rl = s.rl := by cases x <;> rfl
@[simp] theorem setVal_cl (s : St) (x : Side) (v : List OpId) : (s.setVal x v).cl = s.cl := by cases x <;> rfl
@[simp] theorem setVal_mtx (s : St) (x : Side) (v : List OpId) : (s.setVal x v).mtx = s.mtx := by cases x <;> rfl
@[simp] theorem setVal_regL (s : St) (x : Side) (v : List OpId) : (s.setVal x v).regL = s.regL := by cases x <;> rfl
@[simp] theorem setVal_regR (s : St) (x : Side) (v : List OpId) : (s.setVal x v).regR = s.regR := by cases x <;> rfl
@[simp] theorem setVal_reg (s : St) (x : Side) (v : List OpId) (c : Side) : (s.setVal x v).reg c = s.reg c := by
  cases x <;> cases c <;> rfl
@[simp] theorem setVal_committed (s : St) (x : Side) (v : List OpId) : (s.setVal x v).committed = s.committed := by
  cases x <;> rfl
@[simp] theorem setVal_base (s : St) (x : Side) (v : List OpId) : (s.setVal x v).base = s.base := by cases x <;> rfl
@[simp] theorem setVal_snap (s : St) (x : Side) (v : List OpId) : (s.setVal x v).snap = s.snap := by cases x <;> rfl
@[simp] theorem setVal_lastSeen (s : St) (x : Side) (v : List OpId) : (s.setVal x v).lastSeen = s.lastSeen := by
  cases x <;> rfl
theorem setVal_val (s : St) (x y : Side) (v : List OpId) : (s.setVal x v).val y = if y = x then v else s.val y := by
  cases x <;> cases y <;> simp [St.setVal, St.val]
@[simp] theorem setVal_val_same (s : St) (x : Side) (v : List OpId) : (s.setVal x v).val x = v := by
  simp [setVal_val]
@[simp] theorem setVal_val_flip (s : St) (x : Side) (v : List OpId) : (s.setVal x.flip v).val x = s.val x := by
  simp [setVal_val]
@[simp] theorem setVal_val_flip' (s : St) (x : Side) (v : List OpId) : (s.setVal x v).val x.flip = s.val x.flip := by
  simp [setVal_val]

@[simp] theorem setPc_pc_self (s : St) (t : Tid) (p : Pc) : (s.setPc t p).pc t = p := upd_same ..

theorem setReg_setPc_pc (s : St) (c : Side) (l : List Tid) (t : Tid) (p : Pc) :
    ((s.setReg c l).setPc t p).pc = upd s.pc t p := congrArg (upd · t p) (setReg_pc ..)

theorem setVal_setPc_pc (s : St) (x : Side) (v : List OpId) (t : Tid) (p : Pc) :
    ((s.setVal x v).setPc t p).pc = upd s.pc t p := congrArg (upd · t p) (setVal_pc ..)

theorem stutter_eq {s s' : St} {e : Ev} (h : stutter s e = some s') : s' = s := by
  cases e <;> simp [stutter] at h
  all_goals (obtain ⟨_, h⟩ := h; exact h.symm)

/-- The implicit arguments of a constructor (`op l c x zL zR k v fwd`) are bound in the order of their first occurrence
in it: `@cntZero op l zL zR c hpc hz`, `@inc c hpc`, `@rd c x hpc`. -/
inductive Step (s : St) (t : Tid) : Ev → St → Prop
  -- reader
  | callLs (hpc : s.pc t = .idle) :
      Step s t (.call (.ls k)) ({ s with snap := upd s.snap t s.committed }.setPc t .rdCalled)
  | ldCL (hpc : s.pc t = .rdCalled) : Step s t (.ldCL s.cl) (s.setPc t (.rdCL s.cl))
  | inc (hpc : s.pc t = .rdCL c) :
      Step s t (.inc c (s.reg c).length) ((s.setReg c (t :: s.reg c)).setPc t (.rdInc c))
  | ldRL (hpc : s.pc t = .rdInc c) : Step s t (.ldRL s.rl) (s.setPc t (.rdGot c s.rl))
  | retLs (hpc : s.pc t = .rdGot c x) : Step s t (.ret (.ls k)) (s.setPc t (.rdHold c x))
  | rd (hpc : s.pc t = .rdHold c x) :
      Step s t (.rd x (s.val x)) ({ s with lastSeen := upd s.lastSeen t (s.val x) }.setPc t (.rdHold c x))
  | callRel (hpc : s.pc t = .rdHold c x) : Step s t (.call .rel) (s.setPc t (.rdRel c x))
  | dec (hpc : s.pc t = .rdRel c x) :
      Step s t (.dec c (s.reg c).length) ((s.setReg c ((s.reg c).erase t)).setPc t .rdRelD)
  | retRel (hpc : s.pc t = .rdRelD) : Step s t (.ret .rel) (s.setPc t .idle)
  -- writer
  | callMod (hpc : s.pc t = .idle) : Step s t (.call (.modify op)) (s.setPc t (.wCalled op))
  | lock (hpc : s.pc t = .wCalled op) (hm : s.mtx = none) :
      Step s t .lock ({ s with mtx := some t, base := s.committed }.setPc t (.wA op s.rl))
  | fBegin1 (hpc : s.pc t = .wA op l) : Step s t (.fBegin l.flip) (s.setPc t (.wF1 op l))
  | uthA (hpc : s.pc t = .wA op l) : Step s t .uth (s.setPc t (.wRb op l))
  | fEnd1 (hpc : s.pc t = .wF1 op l) :
      Step s t (.fEnd l.flip (s.val l.flip ++ [op])) ((s.setVal l.flip (s.val l.flip ++ [op])).setPc t (.wF1d op l))
  | uthF1 (hpc : s.pc t = .wF1 op l) : Step s t .uth (s.setPc t (.wRb op l))
  | uthF1d (hpc : s.pc t = .wF1d op l) : Step s t .uth (s.setPc t (.wRb op l))
  | stRL (hpc : s.pc t = .wF1d op l) :
      Step s t (.stRL l.flip)
        ({ s with rl := l.flip, committed := s.committed ++ [op] }.setPc t (.wWait op l false false))
  | cpBeginRb (hpc : s.pc t = .wRb op l) : Step s t (.cpBegin l.flip) (s.setPc t (.wRbC op l))
  | cpEndRb (hpc : s.pc t = .wRbC op l) :
      Step s t (.cpEnd l.flip (s.val l)) ((s.setVal l.flip (s.val l)).setPc t (.wRbD op l))
  | unlockRb (hpc : s.pc t = .wRbD op l) (hm : s.mtx = some t) :
      Step s t .unlock ({ s with mtx := none }.setPc t (.wExc op false))
  | cntZero (hpc : s.pc t = .wWait op l zL zR)
      (hz : (s.reg c).length = 0) : Step s t (.ldCnt c 0) (s.setPc t (waitSeen op l zL zR c))
  | cntWait (hpc : s.pc t = .wWait op l zL zR)
      (hnz : (s.reg c).length ≠ 0) (hcl : ¬ (s.strict = true ∧ s.cl = c)) : Step s t (.ldCnt c (s.reg c).length) s
  | yld (hpc : s.pc t = .wWait op l zL zR) : Step s t .yld s
  | stCL (hpc : s.pc t = .wWait op l zL zR) :
      Step s t (.stCL v) { s with cl := v }
  | fBegin2 (hpc : s.pc t = .wWait op l true true) : Step s t (.fBegin l) (s.setPc t (.wF2 op l))
  | uthWait (hpc : s.pc t = .wWait op l true true) : Step s t .uth (s.setPc t (.wRf op l))
  | fEnd2 (hpc : s.pc t = .wF2 op l) :
      Step s t (.fEnd l (s.val l ++ [op])) ((s.setVal l (s.val l ++ [op])).setPc t (.wF2d op l))
  | uthF2 (hpc : s.pc t = .wF2 op l) : Step s t .uth (s.setPc t (.wRf op l))
  | uthF2d (hpc : s.pc t = .wF2d op l) : Step s t .uth (s.setPc t (.wRf op l))
  | unlockF2 (hpc : s.pc t = .wF2d op l) (hm : s.mtx = some t) :
      Step s t .unlock ({ s with mtx := none }.setPc t (.wRet op))
  | cpBeginRf (hpc : s.pc t = .wRf op l) : Step s t (.cpBegin l) (s.setPc t (.wRfC op l))
  | cpEndRf (hpc : s.pc t = .wRfC op l) :
      Step s t (.cpEnd l (s.val l.flip)) ((s.setVal l (s.val l.flip)).setPc t (.wRfD op l))
  | unlockRf (hpc : s.pc t = .wRfD op l) (hm : s.mtx = some t) :
      Step s t .unlock ({ s with mtx := none }.setPc t (.wExc op true))
  | retMod (hpc : s.pc t = .wRet op) : Step s t (.ret (.modify op)) (s.setPc t .idle)
  | excMod (hpc : s.pc t = .wExc op fwd) : Step s t (.exc (.modify op)) (s.setPc t .idle)
  | fin (hpc : s.pc t = .idle) (hm : s.mtx = none) : Step s t (.fin s.valL s.valR) s
  -- redundant loads by the mutex holder
  | reRL (hpost : (s.pc t).post = true) : Step s t (.ldRL s.rl) s
  | reCL (hpost : (s.pc t).post = true) : Step s t (.ldCL s.cl) s
  | reCnt (hpost : (s.pc t).post = true) (hw : ∀ op l zL zR, s.pc t ≠ .wWait op l zL zR) :
      Step s t (.ldCnt c (s.reg c).length) s

theorem Step.of_stutter {s s' : St} {t : Tid} {e : Ev} (hp : (s.pc t).post = true)
    (hw : ∀ op l zL zR c v, s.pc t = .wWait op l zL zR → e = .ldCnt c v → False) (h : stutter s e = some s') :
    Step s t e s' := by
  cases e with
  | ldRL v => obtain ⟨rfl, h2⟩ := ite_some h; cases h2; exact .reRL hp
  | ldCL v => obtain ⟨rfl, h2⟩ := ite_some h; cases h2; exact .reCL hp
  | ldCnt c v => obtain ⟨rfl, h2⟩ := ite_some h; cases h2; exact .reCnt hp fun op l zL zR h => hw op l zL zR c _ h rfl
  | _ => cases h

theorem Step.of_step {s s' : St} {t : Tid} {e : Ev} (hs : step s t e = some s') : Step s t e s' := by
  unfold step at hs
  -- one bullet per arm of the `match` in `step`, in its order
  split at hs
  · cases hs; exact .callLs ‹_›
  · obtain ⟨rfl, h2⟩ := ite_some hs; cases h2; exact .ldCL ‹_›
  · obtain ⟨⟨rfl, rfl⟩, h2⟩ := ite_some hs; cases h2; exact .inc ‹_›
  · obtain ⟨rfl, h2⟩ := ite_some hs; cases h2; exact .ldRL ‹_›
  · cases hs; exact .retLs ‹_›
  · obtain ⟨⟨rfl, rfl⟩, h2⟩ := ite_some hs; cases h2; exact .rd ‹_›
  · cases hs; exact .callRel ‹_›
  · obtain ⟨⟨rfl, rfl⟩, h2⟩ := ite_some hs; cases h2; exact .dec ‹_›
  · cases hs; exact .retRel ‹_›
  · cases hs; exact .callMod ‹_›
  · obtain ⟨hm, h2⟩ := ite_some hs; cases h2; exact .lock ‹_› hm
  · obtain ⟨rfl, h2⟩ := ite_some hs; cases h2; exact .fBegin1 ‹_›
  · cases hs; exact .uthA ‹_›
  · obtain ⟨⟨rfl, rfl⟩, h2⟩ := ite_some hs; cases h2; exact .fEnd1 ‹_›
  · cases hs; exact .uthF1 ‹_›
  · cases hs; exact .uthF1d ‹_›
  · obtain ⟨rfl, h2⟩ := ite_some hs; cases h2; exact .stRL ‹_›
  · obtain ⟨rfl, h2⟩ := ite_some hs; cases h2; exact .cpBeginRb ‹_›
  · obtain ⟨⟨rfl, rfl⟩, h2⟩ := ite_some hs; cases h2; exact .cpEndRb ‹_›
  · obtain ⟨hm, h2⟩ := ite_some hs; cases h2; exact .unlockRb ‹_› hm
  · obtain ⟨rfl, h2⟩ := ite_eq_some hs
    split at h2
    · rename_i hz; cases h2; rw [hz]; exact .cntZero ‹_› hz
    · rename_i hz; split at h2
      · cases h2
      · rename_i hcl; cases h2; exact .cntWait ‹_› hz hcl
  · cases hs; exact .yld ‹_›
  · cases hs; exact .stCL ‹_›
  · obtain ⟨⟨rfl, rfl, rfl⟩, h2⟩ := ite_some hs; cases h2; exact .fBegin2 ‹_›
  · obtain ⟨⟨rfl, rfl⟩, h2⟩ := ite_some hs; cases h2; exact .uthWait ‹_›
  · obtain ⟨⟨rfl, rfl⟩, h2⟩ := ite_some hs; cases h2; exact .fEnd2 ‹_›
  · cases hs; exact .uthF2 ‹_›
  · cases hs; exact .uthF2d ‹_›
  · obtain ⟨hm, h2⟩ := ite_some hs; cases h2; exact .unlockF2 ‹_› hm
  · obtain ⟨rfl, h2⟩ := ite_some hs; cases h2; exact .cpBeginRf ‹_›
  · obtain ⟨⟨rfl, rfl⟩, h2⟩ := ite_some hs; cases h2; exact .cpEndRf ‹_›
  · obtain ⟨hm, h2⟩ := ite_some hs; cases h2; exact .unlockRf ‹_› hm
  · obtain ⟨rfl, h2⟩ := ite_some hs; cases h2; exact .retMod ‹_›
  · obtain ⟨rfl, h2⟩ := ite_some hs; cases h2; exact .excMod ‹_›
  · obtain ⟨⟨hm, rfl, rfl⟩, h2⟩ := ite_some hs; cases h2; exact .fin ‹_› hm
  · obtain ⟨hp, h2⟩ := ite_eq_some hs; exact .of_stutter hp (by assumption) h2

theorem Step.to_step {s s' : St} {t : Tid} {e : Ev} (h : Step s t e s') : step s t e = some s' := by
  unfold step
  generalize hp : s.pc t = p
  cases h with
  | ldCL hpc | ldRL hpc | fBegin1 hpc | stRL hpc | cpBeginRb hpc | cpBeginRf hpc | retMod hpc | excMod hpc =>
    cases hp.symm.trans hpc; exact if_pos rfl
  | inc hpc | rd hpc | dec hpc | fEnd1 hpc | cpEndRb hpc | uthWait hpc | fEnd2 hpc | cpEndRf hpc =>
    cases hp.symm.trans hpc; exact if_pos ⟨rfl, rfl⟩
  | fBegin2 hpc => cases hp.symm.trans hpc; exact if_pos ⟨rfl, rfl, rfl⟩
  | lock hpc hm | unlockRb hpc hm | unlockF2 hpc hm | unlockRf hpc hm => cases hp.symm.trans hpc; exact if_pos hm
  | fin hpc hm => cases hp.symm.trans hpc; exact if_pos ⟨hm, rfl, rfl⟩
  | cntZero hpc hz => cases hp.symm.trans hpc; exact (if_pos hz.symm).trans (if_pos rfl)
  | cntWait hpc hnz hcl => cases hp.symm.trans hpc; exact (if_pos rfl).trans ((if_neg hnz).trans (if_neg hcl))
  -- redundant loads, by pc: not past the lock (impossible), waiting (`ldCnt` has an arm of its own there, excluded
  -- by `hw`), otherwise the catch-all arm applies
  | reRL hq | reCL hq =>
    rw [hp] at hq; cases p <;> first | exact Bool.noConfusion hq | exact (if_pos rfl).trans (if_pos rfl)
  | reCnt hq hw =>
    rw [hp] at hq hw
    cases p <;> first | exact Bool.noConfusion hq | exact (hw _ _ _ _ rfl).elim | exact (if_pos rfl).trans (if_pos rfl)
  | _ => rename_i hpc; cases hp.symm.trans hpc; rfl

theorem run_cons_of_step {s s1 s' : St} {t : Tid} {e : Ev} {es : List (Tid × Ev)} (h : step s t e = some s1)
    (hr : run s1 es = some s') : run s ((t, e) :: es) = some s' := by
  rw [run, runFrom_cons, h]; exact hr

theorem Step.enabled {s s' : St} {t : Tid} {e : Ev} (h : Step s t e s') : (step s t e).isSome = true := by
  rw [h.to_step]; rfl

end ConcVerif.LR
