import ConcVerif.Proof.RcuHist
/-! Writers are serialised (C12, second half).

Invariant W: the linked nodes are what the logged mutations produce when executed one after the other on an empty
list, the tags are strictly increasing (at most one mutation per critical section, in acquisition order), and a `push`
that got as far as its unlock has logged its mutation. -/
namespace ConcVerif.Rcu

/-- inside a critical section of the write mutex, before the mutation -/
def preMut : Pc → Bool
  | .pAlloc _ | .pCons .. | .pThrown _ | .pLoad .. | .pE1 .. | .pF1 .. | .pF2 .. | .pF3 .. | .pB1 .. | .pB2 ..
  | .eOrig .. | .eDel .. | .eAlloc .. | .eCons .. | .eMark .. | .eBack .. | .eNext .. | .eUnl .. => true
  | _ => false

/-- a `push` after its linking store, up to and including its unlock; an `erase` after its unlinking store, up to the
push of its zombie record — not `eUnlock`, which an `erase` of an already erased node reaches without a mutation -/
def pushDone : Pc → Bool
  | .pE2 .. | .pB3 .. | .pUnlock _ => true
  | .eFix .. | .eZh .. | .pushStore (.erase _) .. | .pushCas (.erase _) .. => true
  | _ => false

variable {s s' : St} {w : Wh} {t : Tid} {e : Ev}

theorem pushDone_holds {p : Pc} (h : pushDone p = true) : holdsW p = true := by
  unfold pushDone at h; split at h <;> first | rfl | cases h

theorem preMut_holds {p : Pc} (h : preMut p = true) : holdsW p = true := by
  unfold preMut at h; split at h <;> first | rfl | cases h

/-- the part of a critical section before the mutation is entered only by taking the mutex -/
theorem preMut_step (hs : Step s t e s') (h : preMut (s'.pc t) = true) : preMut (s.pc t) = true ∨ e = .mlk := by
  cases hs
  case regPst | pPstDel | pPstData | ePst | dDesZNpld | dFreZNpld => exact .inl h
  case uNextNone | rFreZ | dFreZ | dFreN | dtorHead | dZhead =>
    simp only [St.reapAt, St.dNodeAt, St.dRecAt] at h; split at h <;> (rw [setPc_pc_self] at h; cases h)
  case pushLock | eraseLock => exact .inr rfl
  case pAlo | pAloFail | pCon | pThrow | pLoadFrontNone | pLoadFrontSome | pLoadBackNone | pLoadBackSome | pF1 | pF2 | pB1 |
      eOrig | eDelFresh | eAlo | eAloFail | eCon | eMark | eBack | eNext =>
    rw [‹s.pc t = _›]; exact .inl rfl
  all_goals (rw [setPc_pc_self] at h; cases h)

/-- the part of a critical section after the mutation is entered only by the linearisation store -/
theorem pushDone_step (hs : Step s t e s') (h : pushDone (s'.pc t) = true) :
    pushDone (s.pc t) = true ∨ linOf (s.pc t) ≠ none := by
  cases hs
  case regPst | pPstDel | pPstData | ePst | dDesZNpld | dFreZNpld => exact .inl h
  case uNextNone | rFreZ | dFreZ | dFreN | dtorHead | dZhead =>
    simp only [St.reapAt, St.dNodeAt, St.dRecAt] at h; split at h <;> (rw [setPc_pc_self] at h; cases h)
  case pE1 | pF3 | pB2 | eUnlPrev | eUnlHead => rw [‹s.pc t = _›]; exact .inr nofun
  case pE2 | pB3 | eFixNext | eFixTail | eZh => rw [‹s.pc t = _›]; exact .inl rfl
  case pushStore k r exp o hpc | casFail k r exp o hpc ho =>
    rw [setPc_pc_self] at h; rw [hpc]; cases k
    · cases h
    · exact .inl rfl
  all_goals (rw [setPc_pc_self] at h; cases h)

def seqOf (hist : List (Nat × WOp)) : List Nat := (hist.map (·.2)).foldl applyW []

theorem seqOf_append (hist : List (Nat × WOp)) (k : Nat) (op : WOp) :
    seqOf (hist ++ [(k, op)]) = applyW (seqOf hist) op := by
  simp [seqOf, List.foldl_append]

structure InvW (s : St) (w : Wh) : Prop where
  /-- the linked nodes are the result of the sequential execution of the logged mutations -/
  seq : s.dt = false → s.lst = seqOf w.hist
  /-- at most one mutation per critical section, logged in acquisition order -/
  tags : w.hist.Pairwise (fun a b => a.1 < b.1)
  le : ∀ x ∈ w.hist, x.1 ≤ w.ncs
  lt : ∀ t, preMut (s.pc t) = true → ∀ x ∈ w.hist, x.1 < w.ncs
  done : ∀ t, pushDone (s.pc t) = true → ∃ x ∈ w.hist, x.1 = w.ncs

theorem invW_init : InvW init wh0 := by
  constructor <;> simp [init, wh0, seqOf, preMut, pushDone]

/-- a step that neither takes the mutex nor mutates the list -/
theorem invW_frame (h : InvW s w) (hl : s'.dt = false → s'.lst = s.lst ∧ s.dt = false)
    (hvpc : ∀ u, u ≠ t → s'.pc u = s.pc u)
    (hp : preMut (s'.pc t) = true → preMut (s.pc t) = true)
    (hd : pushDone (s'.pc t) = true → pushDone (s.pc t) = true) : InvW s' w := by
  obtain ⟨h1, h2, h3, h4, h5⟩ := h
  refine ⟨?_, h2, h3, ?_, ?_⟩
  · intro hdt; obtain ⟨a, b⟩ := hl hdt; rw [a]; exact h1 b
  · intro u hu
    by_cases hut : u = t
    · subst hut; exact h4 u (hp hu)
    · rw [hvpc u hut] at hu; exact h4 u hu
  · intro u hu
    by_cases hut : u = t
    · subst hut; exact h5 u (hd hu)
    · rw [hvpc u hut] at hu; exact h5 u hu

/-- the mutex is acquired: a new critical section starts -/
theorem invW_acq (ha : InvA s) (h : InvW s w) (hm : s.wmtx = none)
    (hl : s'.lst = s.lst) (hdt : s'.dt = s.dt) (hvpc : ∀ u, u ≠ t → s'.pc u = s.pc u)
    (hd : pushDone (s'.pc t) = false) : InvW s' { w with ncs := w.ncs + 1 } := by
  obtain ⟨h1, h2, h3, h4, h5⟩ := h
  refine ⟨?_, h2, ?_, ?_, ?_⟩
  · intro hd'; rw [hl]; rw [hdt] at hd'; exact h1 hd'
  · intro x hx; exact Nat.le_succ_of_le (h3 x hx)
  · intro u _ x hx; exact Nat.lt_succ_of_le (h3 x hx)
  · intro u hu
    exfalso
    by_cases hut : u = t
    · subst hut; rw [hd] at hu; cases hu
    · rw [hvpc u hut] at hu
      have := (ha.wm u).1 (pushDone_holds hu)
      rw [hm] at this; cases this

/-- the linearisation store of the mutex holder -/
theorem invW_lin (ha : InvA s) (h : InvW s w) (op : WOp)
    (hph : preMut (s.pc t) = true) (hl : s'.lst = applyW s.lst op) (hdt : s'.dt = s.dt)
    (hvpc : ∀ u, u ≠ t → s'.pc u = s.pc u) (hp : preMut (s'.pc t) = false) :
    InvW s' { w with hist := w.hist ++ [(w.ncs, op)] } := by
  obtain ⟨h1, h2, h3, h4, h5⟩ := h
  have hlt := h4 t hph
  refine ⟨?_, ?_, ?_, ?_, ?_⟩
  · intro hd'
    rw [hdt] at hd'
    simp only
    rw [seqOf_append, hl, h1 hd']
  · simp only
    rw [List.pairwise_append]
    refine ⟨h2, by simp, ?_⟩
    intro a ha' b hb
    simp at hb; subst hb
    exact hlt a ha'
  · intro x hx
    simp only at hx ⊢
    rcases List.mem_append.1 hx with e | e
    · exact h3 x e
    · simp at e; subst e; exact Nat.le_refl _
  · intro u hu
    exfalso
    by_cases hut : u = t
    · subst hut; rw [hp] at hu; cases hu
    · rw [hvpc u hut] at hu
      have a := (ha.wm u).1 (preMut_holds hu)
      have b := (ha.wm t).1 (preMut_holds hph)
      rw [a] at b; injection b with b; exact hut b
  · intro u _
    exact ⟨(w.ncs, op), by simp, rfl⟩

theorem invW_step (hx : InvX s) (h : InvW s w) (hs : Step s t e s') :
    InvW s' (whUpd s w t e) := by
  have ha := hx.i.a
  have hvpc : ∀ u, u ≠ t → s'.pc u = s.pc u := fun u hut => hs.pc_other hut
  by_cases he : Edge s t e s'
  case neg =>
    have q := hs.quiet he
    rw [whUpd_quiet hs he]
    refine invW_frame (t := t) h (fun hd => ⟨q.lst, q.dt hd⟩) hvpc
      (fun hp => (preMut_step hs hp).resolve_right (by rintro rfl; exact he hs.mlk_edge))
      (fun hd => (pushDone_step hs hd).resolve_right fun e => e q.lin)
  cases he
  case pushLock f em v hpc hm | eraseLock adv c hpc hm =>
    exact invW_acq (t := t) ha h hm rfl rfl hvpc (by rw [setPc_pc_self]; rfl)
  case pE1 k n o hpc =>
    have wr := hx.i.c.wr t
    simp only [cview_vpc, hpc, CView, WriterP, cview_lst] at wr
    unfold whUpd; rw [hpc]
    refine invW_lin (t := t) ha h _ (by rw [hpc]; rfl) ?_ rfl hvpc (by rw [setPc_pc_self]; rfl)
    simp only [setPc_lst]
    rw [wr.2.1]
    split <;> rfl
  case pF3 k n o hpc | pB2 k n h0 o hpc | eUnlPrev c orig pp x z o hpc | eUnlHead c orig x z o hpc =>
    unfold whUpd; rw [hpc]
    exact invW_lin (t := t) ha h _ (by rw [hpc]; rfl) rfl rfl hvpc (by rw [setPc_pc_self]; rfl)
  case dFreN m nx hpc =>
    unfold whUpd; rw [hpc]
    have hdt := ha.dtd t (by rw [hpc]; rfl)
    refine invW_frame (t := t) h (fun hd' => ?_) hvpc (fun hp => (preMut_step hs hp).resolve_right nofun)
      (fun hd => (pushDone_step hs hd).resolve_right fun e => e (by rw [hpc]; rfl))
    exfalso; rw [show (_ : St).dt = s.dt by cases nx <;> rfl, hdt] at hd'; cases hd'
  -- the other edges neither take the mutex nor mutate the list
  all_goals
    unfold whUpd; rw [‹s.pc t = _›]
    exact invW_frame (t := t) h (fun hd => ⟨rfl, hd⟩) hvpc
      (fun hp => (preMut_step hs hp).resolve_right nofun) (fun hd => (pushDone_step hs hd).resolve_right fun e => e (by rw [‹s.pc t = _›]; rfl))

theorem invW_reachable {sw : St × Wh} (h : ReachableW sw) : InvW sw.1 sw.2 := by
  obtain ⟨es, hes⟩ := h
  exact (ghost_inv (Inv := fun sw : St × Wh => InvX sw.1 ∧ InvW sw.1 sw.2)
    (fun s w t e s' hi h1 => ⟨invX_step hi.1 h1, invW_step hi.1 hi.2 (step_sound h1)⟩) ⟨invX_init, invW_init⟩ hes).2

end ConcVerif.Rcu
