import ConcVerif.Proof.LockFam
/-! Ties the ghost acquisition / release counters of the lock-family model to the *events of the
trace*: `acqs t` is the number of successful lock events (`lk _ _ true` = mlk / successful mtl,
mtf, slk, stl, stf) thread `t` made, `rels t` the number of its unlock events (`rel` = mul / sul). -/
namespace ConcVerif.LockFam

def lkN : Ev → Nat
  | .lk _ _ true => 1
  | _ => 0

def relN : Ev → Nat
  | .rel _ => 1
  | _ => 0

/-- successful lock events of thread `t` in a trace -/
def locksOf (t : Tid) : List (Tid × Ev) → Nat
  | [] => 0
  | (u, e) :: es => (if u = t then lkN e else 0) + locksOf t es

/-- unlock events of thread `t` in a trace -/
def unlocksOf (t : Tid) : List (Tid × Ev) → Nat
  | [] => 0
  | (u, e) :: es => (if u = t then relN e else 0) + unlocksOf t es

theorem Mutex.counts {s s1 : St} {t : Tid} {e : Ev} (h : Mutex s t e s1) (u : Tid) :
    s1.acqs u = s.acqs u + (if u = t then lkN e else 0) ∧
    s1.rels u = s.rels u + (if u = t then relN e else 0) := by
  cases h
  case acquire h =>
    obtain ⟨_, _, _, _, h3, h4, _⟩ := acquire_spec h
    rw [h3, h4, upd_apply]; split <;> simp [lkN, relN, *]
  case release h =>
    obtain ⟨_, _, h3, h4, _⟩ := release_spec h
    rw [h3, h4, upd_apply]; split <;> simp [lkN, relN, *]
  case none h =>
    have : lkN e = 0 ∧ relN e = 0 := by
      cases e
      case lk _ _ ok => cases ok
                        · exact ⟨rfl, rfl⟩
                        · cases h
      case rel => cases h
      all_goals exact ⟨rfl, rfl⟩
    rw [this.1, this.2]; simp

theorem step_counts {s s' : St} {t : Tid} {e : Ev} (hs : step s t e = some s') (u : Tid) :
    s'.acqs u = s.acqs u + (if u = t then lkN e else 0) ∧
    s'.rels u = s.rels u + (if u = t then relN e else 0) := by
  obtain ⟨s1, hm, hf⟩ := (Step.of_step hs).mutex
  rw [hf.acqs, hf.rels]; exact hm.counts u

theorem run_counts {s s' : St} (es : List (Tid × Ev)) (hr : runFrom step s es = some s') (u : Tid) :
    s'.acqs u = s.acqs u + locksOf u es ∧ s'.rels u = s.rels u + unlocksOf u es := by
  induction es generalizing s with
  | nil => cases hr; exact ⟨rfl, rfl⟩
  | cons te es ih =>
    obtain ⟨t, e⟩ := te
    rw [runFrom_cons] at hr
    cases hst : step s t e with
    | none => rw [hst] at hr; cases hr
    | some s1 =>
      rw [hst] at hr
      obtain ⟨h1, h2⟩ := step_counts hst u
      obtain ⟨i1, i2⟩ := ih hr
      rw [i1, i2, h1, h2, Nat.add_assoc, Nat.add_assoc]
      simp only [locksOf, unlocksOf, eq_comm (a := u), and_self]

end ConcVerif.LockFam
