import ConcVerif.Proof.DeferredN
/-! The wrapped object of `deferred_guarded` as a register: a conservative ghost extension of the
model by the log of completed applications.  `stepL` runs the very `step` of the model and appends
`(k, value of the object)` whenever the thread leaves the function of task `k` (`uce k r` / `uth k`);
it accepts exactly the traces `step` accepts (`runL_fst`, `runL_of_run`). -/
namespace ConcVerif.Deferred

abbrev VLog := List (TaskId × Int)

variable {s s' : St} {t u : Tid} {p p' : Pc} {e : Ev} {spur : Bool} {es : List (Tid × Ev)} {l : VLog}

/-- the value after the last completed application (0 = the initial value) -/
def lastVal (l : VLog) : Int :=
  match l.reverse with
  | [] => 0
  | p :: _ => p.2

@[simp] theorem lastVal_snoc (l : VLog) (k : TaskId) (v : Int) : lastVal (l ++ [(k, v)]) = v := by
  simp [lastVal]

def logStep (s : St) (t : Tid) (s' : St) (l : VLog) : VLog :=
  match (s.pc t).running, (s'.pc t).running with
  | some k, none => l ++ [(k, s.val)]
  | _, _ => l

def stepL (sl : St × VLog) (t : Tid) (e : Ev) : Option (St × VLog) :=
  (step sl.1 t e).map (fun s' => (s', logStep sl.1 t s' sl.2))

def runL (spur : Bool) (es : List (Tid × Ev)) : Option (St × VLog) := runFrom stepL (init spur, []) es

theorem runFromL_fst {sl sl' : St × VLog} (h : runFrom stepL sl es = some sl') :
    runFrom step sl.1 es = some sl'.1 := by
  induction es generalizing sl with
  | nil => simp at h; subst h; rfl
  | cons x xs ih =>
    obtain ⟨t, e⟩ := x
    rw [runFrom_cons] at h ⊢
    cases hs : step sl.1 t e with
    | none => simp [stepL, hs] at h
    | some s1 =>
      simp only [stepL, hs, Option.map_some, Option.bind_some] at h ⊢
      exact ih h

theorem runFromL_of (h : runFrom step s es = some s') :
    ∃ l', runFrom stepL (s, l) es = some (s', l') := by
  induction es generalizing s l with
  | nil => simp at h; subst h; exact ⟨l, rfl⟩
  | cons x xs ih =>
    obtain ⟨t, e⟩ := x
    rw [runFrom_cons] at h
    cases hs : step s t e with
    | none => simp [hs] at h
    | some s1 =>
      simp only [hs, Option.bind_some] at h
      obtain ⟨l', hl'⟩ := ih (l := logStep s t s1 l) h
      exact ⟨l', by rw [runFrom_cons]; simp [stepL, hs, hl']⟩

theorem runL_fst (h : runL spur es = some (s, l)) :
    run spur es = some s := runFromL_fst h

theorem runL_of_run (h : run spur es = some s) :
    ∃ l, runL spur es = some (s, l) := runFromL_of h

/-- the log lists the completed applications in order; the running one (if any) is the last of `applied` -/
structure InvR (s : St) (l : VLog) : Prop where
  a1 : ∀ u k, (s.pc u).running = some k → s.applied = l.map Prod.fst ++ [k]
  a2 : (∀ u, (s.pc u).running = none) → s.applied = l.map Prod.fst ∧ s.val = lastVal l

theorem invR_init (spur : Bool) : InvR (init spur) [] := by
  constructor <;> simp [init, Pc.running, lastVal]

theorem logStep_same (h : (s'.pc t).running = (s.pc t).running) :
    logStep s t s' l = l := by
  unfold logStep; rw [h]; cases (s.pc t).running <;> rfl

theorem invR_keep (h : InvR s l) (hp : s.pc t = p)
    (hpc : s'.pc = upd s.pc t p') (hr : p'.running = p.running) (ha : s'.applied = s.applied) (hv : s'.val = s.val) :
    InvR s' (logStep s t s' l) := by
  subst hp
  have hall : ∀ u, (s'.pc u).running = (s.pc u).running := by
    intro u; rw [hpc]; exact upd_proj Pc.running s.pc t p' hr u
  rw [logStep_same (hall t)]
  refine ⟨?_, ?_⟩
  · intro u k hk; rw [hall] at hk; rw [ha]; exact h.a1 u k hk
  · intro hn; rw [ha, hv]; exact h.a2 (fun u => by rw [← hall]; exact hn u)

theorem invR_begin {j : TaskId} (hL : InvL s) (h : InvR s l)
    (hp : s.pc t = p) (hpc : s'.pc = upd s.pc t p') (hX : p.holdsX = true) (h0 : p.running = none)
    (hj : p'.running = some j) (ha : s'.applied = s.applied ++ [j]) : InvR s' (logStep s t s' l) := by
  subst hp
  have hl : logStep s t s' l = l := by unfold logStep; rw [h0]
  have hnone : ∀ u, (s.pc u).running = none := by
    intro u
    cases hr : (s.pc u).running with
    | none => rfl
    | some k =>
      have := hL.holder_eq hX (Pc.running_holdsX hr); subst this; rw [h0] at hr; cases hr
  rw [hl]
  refine ⟨?_, ?_⟩
  · intro u k hk
    rw [hpc] at hk
    by_cases hu : u = t
    · subst hu; simp only [upd_same] at hk; rw [hj] at hk; injection hk with hk; subst hk
      rw [ha, (h.a2 hnone).1]
    · simp only [upd_other _ _ _ _ hu] at hk; rw [hnone u] at hk; cases hk
  · intro hn; have := hn t; rw [hpc] at this; simp [hj] at this

theorem invR_end {j : TaskId} (hL : InvL s) (h : InvR s l)
    (hp : s.pc t = p) (hpc : s'.pc = upd s.pc t p') (hj : p.running = some j) (h0 : p'.running = none)
    (ha : s'.applied = s.applied) (hv : s'.val = s.val) : InvR s' (logStep s t s' l) := by
  subst hp
  have hl : logStep s t s' l = l ++ [(j, s.val)] := by
    unfold logStep; rw [hj, hpc]; simp [h0]
  have hothers : ∀ u k, u ≠ t → (s.pc u).running = some k → False := fun u k hu hk =>
    hu (hL.holder_eq (Pc.running_holdsX hj) (Pc.running_holdsX hk))
  rw [hl]
  refine ⟨?_, ?_⟩
  · intro u k hk
    rw [hpc] at hk
    by_cases hu : u = t
    · subst hu; simp [h0] at hk
    · simp only [upd_other _ _ _ _ hu] at hk; exact (hothers u k hu hk).elim
  · intro _; rw [ha, hv, h.a1 t j hj]; simp

theorem invR_step (hL : InvL s) (h : InvR s l) (hs : Kind s t s') :
    InvR s' (logStep s t s' l) := by
  cases hs with
  | stutter => rw [logStep_same rfl]; exact h
  | wr v hrun =>
    obtain ⟨k, hk⟩ := hrun
    rw [logStep_same (s := s) (s' := { s with val := v }) (t := t) (l := l) rfl]
    exact ⟨h.a1, fun hn => by have := hn t; rw [hk] at this; cases this⟩
  | move p p' hp hc => exact invR_keep h hp rfl hc.running rfl rfl
  | applyHead c j rest hp | applyOwn j a hp => exact invR_begin (j := j) hL h hp rfl rfl rfl rfl rfl
  | endHead c j o hp | endOwn j a thr o hp => exact invR_end (j := j) hL h hp rfl rfl rfl rfl rfl
  | _ =>
    have hp := ‹s.pc t = _›
    exact invR_keep h hp rfl rfl rfl rfl

theorem invR_runL (h : runL spur es = some (s, l)) :
    InvR s l ∧ Reachable spur s := by
  refine runFrom_inv (step := stepL) (Inv := fun sl => InvR sl.1 sl.2 ∧ Reachable spur sl.1) ?_
    ⟨invR_init spur, [], rfl⟩ h
  intro sl t e sl' hi h
  cases hs : step sl.1 t e with
  | none => simp [stepL, hs] at h
  | some s1 =>
    simp only [stepL, hs, Option.map_some, Option.some.injEq] at h
    subst h
    exact ⟨invR_step (inv_reachable hi.2).L hi.1 (Kind.of_step hs), hi.2.step hs⟩

theorem runFromL_mono {sl sl' : St × VLog} (h : runFrom stepL sl es = some sl') :
    sl.2 <+: sl'.2 ∧ sl.1.applied <+: sl'.1.applied := by
  refine runFrom_rel (step := stepL) (R := fun (x y : St × VLog) => x.2 <+: y.2 ∧ x.1.applied <+: y.1.applied)
    (fun _ => ⟨List.prefix_refl _, List.prefix_refl _⟩)
    (fun _ _ _ h1 h2 => ⟨h1.1.trans h2.1, h1.2.trans h2.2⟩) ?_ h
  intro x t e y hxy
  cases hs : step x.1 t e with
  | none => simp [stepL, hs] at hxy
  | some s1 =>
    simp only [stepL, hs, Option.map_some, Option.some.injEq] at hxy
    subst hxy
    refine ⟨?_, ?_⟩
    · show x.2 <+: logStep x.1 t s1 x.2
      unfold logStep; split
      · exact List.prefix_append _ _
      · exact List.prefix_refl _
    · obtain ⟨l, hl⟩ := (Kind.of_step hs).applied_mono
      show x.1.applied <+: s1.applied
      rw [hl]; exact List.prefix_append _ _

end ConcVerif.Deferred
