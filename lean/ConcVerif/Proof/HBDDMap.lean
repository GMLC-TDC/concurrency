import ConcVerif.Proof.DDInv
import ConcVerif.Proof.HBLock
import ConcVerif.Proof.HBUtil
/-! Happens-before content of the events of the DelayedDestructor model (and, in the second half, the trace-level lemmas for
appending the events of one thread).

The model has no events of its own for the plain accesses to the vector `ElementsToBeDestroyed`: the code that runs
between two events of a thread without a scheduling point (`push_back`, the scan / `remove_if` / `erase`, `size()`,
the `empty()` tests of `~DelayedDestructor`, the destruction of the vector member) is executed by the model together
with the preceding event of that thread.  So ONE model event maps to a short LIST of happens-before events, determined
by the thread's top frame (which code runs) and, for the destructor, by the frames below and the vector:

* mutex `destructionLock` = mutex 0 (always exclusive): `lock_guard` (`mlk`), a SUCCESSFUL `try_lock_for`
  (`mtf true _`) ↦ `acq 0 X`; `mul` ↦ `rel 0 X`; a failed `try_lock_for` ↦ `nop`;
* the vector = plain location 0:
  - `addObjectsToBeDestroyed`: `[acq, wr]` (push_back), then `[rel]`;
  - `size()`: `[acq]`, then `[rd, rel]`;
  - `destroyObjects()`: first acquisition `[acq, wr]` (size, scan, `remove_if`, `erase`, size — counted as one write,
    the strongest reading, also when nothing is selected); `[rd, rel]` where the call returns `size()` under the lock;
  - `destroyObjects(delay)`: `[acq, rd]` where `elementSize = size()` follows the acquisition, `[rd, rel]` at the final
    `return size()`;
  - `~DelayedDestructor` (NO lock): every `empty()` test is a `rd`; when the vector is found empty the body is left and
    the vector member is destroyed (`wr`); after the `break` the vector member's destructor releases what is left (`wr`,
    again after each payload destructor it had to run);
* callbacks, payload destructors, markers, sleeps: `nop` (user code; `shared_ptr` reference counts are atomics of the
  trusted library).

`js` is the list of threads the client joins (or otherwise synchronises with) before it destroys the container: the
event `callDtor` maps to `nop, join u (u ∈ js), rd 0 …`.  `js = []` is the bare model (no edge into the destructor). -/
namespace ConcVerif.DD

/-- critical-section content of event `e` for a thread whose top frame is `f` -/
def csHB (f : Frame) (e : Ev) : List HB.Ev :=
  match f with
  | .addCalled _ _ => (match e with | .mlk => [.acq 0 .X, .wr 0] | _ => [.nop])
  | .addLocked _ => (match e with | .mul => [.rel 0 .X] | _ => [.nop])
  | .sizeCalled => (match e with | .mlk => [.acq 0 .X] | _ => [.nop])
  | .sizeLocked => (match e with | .mul => [.rd 0, .rel 0 .X] | _ => [.nop])
  | .dCalled => (match e with | .mtf ok _ => if ok then [.acq 0 .X, .wr 0] else [.nop] | _ => [.nop])
  | .dUnlock0 => (match e with | .mul => [.rd 0, .rel 0 .X] | _ => [.nop])
  | .dUnlock1 _ _ => (match e with | .mul => [.rel 0 .X] | _ => [.nop])
  | .dRelock _ => (match e with | .mtf ok _ => if ok then [.acq 0 .X] else [.nop] | _ => [.nop])
  | .dUnlock2 => (match e with | .mul => [.rd 0, .rel 0 .X] | _ => [.nop])
  | .gCalled _ => (match e with | .mtf ok _ => if ok then [.acq 0 .X, .rd 0] else [.nop] | _ => [.nop])
  | .gUnlockS _ _ _ => (match e with | .mul => [.rel 0 .X] | _ => [.nop])
  | .gRelockS _ _ _ => (match e with | .mtf ok _ => if ok then [.acq 0 .X, .rd 0] else [.nop] | _ => [.nop])
  | .gUnlockD _ _ _ => (match e with | .mul => [.rel 0 .X] | _ => [.nop])
  | .gRelockD _ _ _ => (match e with | .mtf ok _ => if ok then [.acq 0 .X] else [.nop] | _ => [.nop])
  | .gUnlockE => (match e with | .mul => [.rd 0, .rel 0 .X] | _ => [.nop])
  | _ => [.nop]

/-- the critical-section part of the event, from the thread's stack -/
def csOf (fs : List Frame) (e : Ev) : List HB.Ev :=
  match fs with
  | f :: _ => csHB f e
  | [] => [.nop]

/-- an `empty()` test of `~DelayedDestructor`; if the vector is empty the body is left and the vector member destroyed -/
def topAcc (s : St) : List HB.Ev := if s.vec = [] then [.rd 0, .wr 0] else [.rd 0]

/-- what the destructor frame below a finished `destroyObjects()` does next, without the lock -/
def doneAcc (s : St) : List Frame → List HB.Ev
  | .xInner _ :: _ => topAcc s
  | .xInnerLast :: _ => [.wr 0]
  | _ => []

/-- the release loop `drain` runs to its end (no payload destructor has to run first) -/
def drainEnds (s : St) (t : Tid) : List ObjId → Bool
  | [] => true
  | k :: ec =>
      let s1 := { s with ecs := s.ecs.erase (t, k) }
      if refs s1 k = 0 then false else drainEnds s1 t ec

/-- a payload destructor has returned: what the frames below go on to do with the vector -/
def resumeAcc (s : St) (t : Tid) : List Frame → List HB.Ev
  | .dClear _ ec _ thrown :: rest => if thrown && drainEnds s t ec then doneAcc s rest else []
  | .xVec :: _ => [.wr 0]
  | _ => []

/-- the part of the event that belongs to `~DelayedDestructor` (accesses WITHOUT the lock) -/
def xHB (js : List Tid) (s : St) (t : Tid) (fs : List Frame) (e : Ev) : List HB.Ev :=
  match fs with
  | [] => (match e with | .callDtor => js.map HB.Ev.join ++ topAcc s | _ => [])
  | .xYield _ :: _ => (match e with | .yld => topAcc s | _ => [])
  | .xSleep _ :: _ => (match e with | .slp => topAcc s | _ => [])
  | .dCalled :: rest => (match e with | .mtf ok _ => if ok then [] else doneAcc s rest | _ => [])
  | .dRelock _ :: rest => (match e with | .mtf ok _ => if ok then [] else doneAcc s rest | _ => [])
  | .dUnlock0 :: rest => (match e with | .mul => doneAcc s rest | _ => [])
  | .dUnlock2 :: rest => (match e with | .mul => doneAcc s rest | _ => [])
  | .dInCb _ ec _ _ _ :: rest => (match e with | .uth _ => if drainEnds s t ec then doneAcc s rest else [] | _ => [])
  | .inDt _ :: below => (match e with | .pde _ => resumeAcc s t below | _ => [])
  | _ => []

/-- happens-before content of event `e` of thread `t` in state `s` -/
def toHB (js : List Tid) (s : St) (t : Tid) (e : Ev) : List HB.Ev := csOf (s.stk t) e ++ xHB js s t (s.stk t) e

/-- the events of one thread -/
def evs (t : Tid) (l : List HB.Ev) : HB.Trace := l.map (fun x => (t, x))

@[simp] theorem evs_nil (t : Tid) : evs t [] = [] := rfl
theorem evs_cons (t : Tid) (x : HB.Ev) (l : List HB.Ev) : evs t (x :: l) = (t, x) :: evs t l := rfl
theorem evs_append (t : Tid) (l l' : List HB.Ev) : evs t (l ++ l') = evs t l ++ evs t l' := by simp [evs]
@[simp] theorem evs_length (t : Tid) (l : List HB.Ev) : (evs t l).length = l.length := by simp [evs]

theorem mem_evs {t u : Tid} {x : HB.Ev} {l : List HB.Ev} (h : (u, x) ∈ evs t l) : u = t ∧ x ∈ l := by
  simp only [evs, List.mem_map] at h
  obtain ⟨y, hy, heq⟩ := h
  injection heq with h1 h2
  subst h1; subst h2; exact ⟨rfl, hy⟩

/-- the mapped trace, following the run of the model (it ends where the model rejects) -/
def hbFrom (js : List Tid) : St → List (Tid × Ev) → HB.Trace
  | _, [] => []
  | s, (t, e) :: es =>
      match step s t e with
      | some s' => evs t (toHB js s t e) ++ hbFrom js s' es
      | none => []

def hbTrace (js : List Tid) (cb : Bool) (ns nt : Nat) (es : List (Tid × Ev)) : HB.Trace :=
  hbFrom js (init cb ns nt) es

theorem hbFrom_append (js : List Tid) {s s1 : St} {es : List (Tid × Ev)} (h : runFrom step s es = some s1)
    (ext : List (Tid × Ev)) : hbFrom js s (es ++ ext) = hbFrom js s es ++ hbFrom js s1 ext := by
  induction es generalizing s with
  | nil => simp at h; subst h; simp [hbFrom]
  | cons x es ih =>
    obtain ⟨t, e⟩ := x
    rw [runFrom_cons] at h
    cases h2 : step s t e with
    | none => simp [h2] at h
    | some s2 =>
      simp only [h2, Option.bind_some] at h
      simp only [List.cons_append, hbFrom, h2, ih h, List.append_assoc]

theorem hbTrace_snoc (js : List Tid) {cb : Bool} {ns nt : Nat} {es : List (Tid × Ev)} {s s' : St} {t : Tid} {e : Ev}
    (h : run cb ns nt es = some s) (hs : step s t e = some s') :
    hbTrace js cb ns nt (es ++ [(t, e)]) = hbTrace js cb ns nt es ++ evs t (toHB js s t e) := by
  unfold hbTrace
  rw [hbFrom_append js h]
  simp [hbFrom, hs]

/-- the mapped trace of a prefix is a prefix of the mapped trace -/
theorem hbTrace_take (js : List Tid) {cb : Bool} {ns nt : Nat} {es : List (Tid × Ev)} {s : St}
    (h : run cb ns nt es = some s) (p : Nat) :
    ∃ rest, hbTrace js cb ns nt es = hbTrace js cb ns nt (es.take p) ++ rest := by
  have hsplit : es = es.take p ++ es.drop p := (List.take_append_drop p es).symm
  unfold run at h
  rw [hsplit, runFrom_append] at h
  cases h1 : runFrom step (init cb ns nt) (es.take p) with
  | none => simp [h1] at h
  | some s1 =>
    refine ⟨hbFrom js s1 (es.drop p), ?_⟩
    unfold hbTrace
    conv => lhs; rw [hsplit]
    exact hbFrom_append js h1 _

/-! ## Trace-level lemmas for appending the events of ONE thread to a happens-before trace: what the mutex bookkeeping,
`MutexOK` and `LockSet` need from each appended block.  Nothing here depends on the DelayedDestructor model. -/

/-- not a mutex operation -/
def Inert (x : HB.Ev) : Prop := (∀ m md, x ≠ .acq m md) ∧ (∀ m md, x ≠ .rel m md)

/-- an access to the vector -/
def IsAcc (x : HB.Ev) : Prop := x = .rd 0 ∨ x = .wr 0

/-- an event the destructor part may produce: an access to the vector or a join -/
def IsFree (x : HB.Ev) : Prop := x = .rd 0 ∨ x = .wr 0 ∨ ∃ u, x = .join u

theorem IsAcc.inert {x : HB.Ev} (h : IsAcc x) : Inert x := by
  rcases h with h | h <;> subst h <;> exact ⟨fun _ _ h => (nomatch h), fun _ _ h => (nomatch h)⟩

theorem IsFree.inert {x : HB.Ev} (h : IsFree x) : Inert x := by
  rcases h with h | h | ⟨u, h⟩ <;> subst h <;> exact ⟨fun _ _ h => (nomatch h), fun _ _ h => (nomatch h)⟩

theorem inert_nop : Inert .nop := ⟨fun _ _ h => (nomatch h), fun _ _ h => (nomatch h)⟩

theorem append_evs_cons (tr : HB.Trace) (t : Tid) (x : HB.Ev) (l : List HB.Ev) :
    tr ++ evs t (x :: l) = (tr ++ [(t, x)]) ++ evs t l := by
  simp [evs]

/-- accesses (and anything else that is not a mutex operation) made while the thread holds the mutex exclusively -/
theorem lockSet_locked {tr : HB.Trace} {t : Tid} {l : List HB.Ev} (h : HB.LockSet tr 0 0)
    (hh : HB.held tr t 0 = some .X) (hl : ∀ x ∈ l, Inert x) : HB.LockSet (tr ++ evs t l) 0 0 := by
  induction l generalizing tr with
  | nil => simpa using h
  | cons x l ih =>
    rw [append_evs_cons]
    have hx := hl x List.mem_cons_self
    apply ih _ _ (fun y hy => hl y (List.mem_cons_of_mem _ hy))
    · exact HB.lockSet_snoc h (fun _ => by rw [hh]; simp) (fun _ => hh)
    · rw [HB.held_snoc, HB.hstep_inert _ _ hx.1 hx.2]; exact hh

/-- events that are not accesses to the vector -/
theorem lockSet_noacc {tr : HB.Trace} {t : Tid} {l : List HB.Ev} (h : HB.LockSet tr 0 0) (hl : ∀ x ∈ l, ¬ IsAcc x) :
    HB.LockSet (tr ++ evs t l) 0 0 := by
  induction l generalizing tr with
  | nil => simpa using h
  | cons x l ih =>
    rw [append_evs_cons]
    have hx := hl x List.mem_cons_self
    apply ih _ (fun y hy => hl y (List.mem_cons_of_mem _ hy))
    exact HB.lockSet_snoc h (fun he => absurd (.inl he) hx) (fun he => absurd (.inr he) hx)

theorem get_evs_right {tr : HB.Trace} {t u : Tid} {l : List HB.Ev} {n : Nat} {x : HB.Ev}
    (hn : tr.length ≤ n) (h : (tr ++ evs t l)[n]? = some (u, x)) : u = t ∧ x ∈ l := by
  rw [List.getElem?_append_right hn] at h
  exact mem_evs (List.mem_of_getElem? h)

/-- from position `c` on, everything that is not a `nop` is done by thread `d` -/
def OwnedFrom (tr : HB.Trace) (c : Nat) (d : Tid) : Prop :=
  ∀ n u x, c ≤ n → tr[n]? = some (u, x) → x ≠ .nop → u = d

theorem ownedFrom_append {tr : HB.Trace} {c : Nat} {d t : Tid} {l : List HB.Ev} (h : OwnedFrom tr c d)
    (hl : t = d ∨ ∀ x ∈ l, x = .nop) : OwnedFrom (tr ++ evs t l) c d := by
  intro n u x hc hn hx
  by_cases hlt : n < tr.length
  · rw [List.getElem?_append_left hlt] at hn; exact h n u x hc hn hx
  · obtain ⟨h1, h2⟩ := get_evs_right (by omega) hn
    rcases hl with hl | hl
    · rw [h1, hl]
    · exact absurd (hl x h2) hx

theorem ownedFrom_start (tr : HB.Trace) (t : Tid) (l : List HB.Ev) : OwnedFrom (tr ++ evs t l) tr.length t := by
  intro n u x hc hn _
  exact (get_evs_right hc hn).1

theorem agrees_evs {tr : HB.Trace} {hold : Tid → Option HB.Mode} (t : Tid) {evl : List HB.Ev} (h : HB.Agrees tr 0 hold)
    (hl : ∀ x ∈ evl, Inert x) : HB.Agrees (tr ++ evs t evl) 0 hold := by
  induction evl generalizing tr with
  | nil => simpa using h
  | cons x l ih =>
    rw [append_evs_cons]
    exact ih (h.inert (hl x List.mem_cons_self).1 (hl x List.mem_cons_self).2) fun y hy => hl y (List.mem_cons_of_mem _ hy)

end ConcVerif.DD
