import ConcVerif.Proof.CowFrame
/-! The three invariant layers of the cow model (`Model/Cow.lean`), each with its frame lemmas.
`LInv`, the control skeleton: the embedded left-right state is a reachable state of the LR model (every cow step is a
sequence of `LR.step`s), so every LR theorem applies to it; each cow pc is linked to a coarse position of the same thread
inside `m_data` (`Pc.cls`; the pcs that hold `wm` without being inside an operation of `m_data` — `lkD`, `wHold`,
`relU`, `cn`, … — are linked to `.idle`, which is what makes `quiet_of_holder` work); the writer mutex `wm` is owned
exactly by the threads whose pc says so; an open assignment window (`det`) belongs to a thread inside a write window of
the LR model.
`HInv`, the version heap: what is published, referenced or privately owned is allocated and alive.
`ChInv`, the chain: `committed` is a chain of copies, the holder's copy was made from its last element, and `released`
lags behind `committed` by at most the pending publication. -/
namespace ConcVerif.Cow
open ConcVerif.LR (lk LK Side)

variable {s s' : St} {t : Tid} {p' : Pc}

@[simp] theorem cur_nil : cur [] = 0 := rfl
@[simp] theorem cur_single (v : Ver) : cur [v] = v := rfl
@[simp] theorem cur_cons_cons (a b : Ver) (l : List Ver) : cur (a :: b :: l) = cur (b :: l) := rfl

@[simp] theorem cur_append_single (l : List Ver) (v : Ver) : cur (l ++ [v]) = v := by
  induction l with
  | nil => rfl
  | cons a l ih =>
    cases l with
    | nil => rfl
    | cons b l => simpa using ih

theorem cur_mem (l : List Ver) : cur l = 0 ∨ cur l ∈ l := by
  induction l with
  | nil => left; rfl
  | cons a l ih =>
    cases l with
    | nil => right; simp
    | cons b l =>
      rcases ih with h | h
      · left; simpa using h
      · right; simp only [cur_cons_cons]; exact List.mem_cons_of_mem _ h

/-- position inside `m_data`'s operations a cow pc corresponds to -/
def Pc.cls : Pc → LK
  | .rdA _ | .lkA => .pre
  | .rdH _ _ | .rdP _ _ | .lkH _ | .lkC _ | .lkT => .hold
  | .relA v => .wA v
  | .relB v _ => .wB v
  | .relC v => .wR v
  | _ => .idle

/-- the thread owns the writer mutex `wm` -/
def Pc.holds : Pc → Bool
  | .lkA | .lkH _ | .lkC _ | .lkD _ | .lkT | .lkTD | .wHold _ | .relA _ | .relB _ _ | .relC _ | .cn _ false _ => true
  | _ => false

structure LInv (s : St) : Prop where
  reach : LR.Reachable s.lr
  link : ∀ t, lk (s.lr.pc t) = (s.pc t).cls
  wmh : ∀ t, (s.pc t).holds = true ↔ s.wm = some t
  win : ∀ x, s.det = some x → ∃ w, (s.lr.pc w).writing = some x

theorem linv_init (b : Bool) : LInv (init b) := by
  refine ⟨⟨b, [], rfl⟩, ?_, ?_, ?_⟩ <;> simp [init, LR.init, lk, Pc.cls, Pc.holds]

theorem LInv.full (h : LInv s) : LR.Full s.lr := LR.full_reachable h.reach

@[simp] theorem setPc_pc (s : St) (t u : Tid) (p : Pc) : (s.setPc t p).pc u = if u = t then p else s.pc u := rfl
@[simp] theorem setPc_lr (s : St) (t : Tid) (p : Pc) : (s.setPc t p).lr = s.lr := rfl
@[simp] theorem setPc_wm (s : St) (t : Tid) (p : Pc) : (s.setPc t p).wm = s.wm := rfl
@[simp] theorem setPc_det (s : St) (t : Tid) (p : Pc) : (s.setPc t p).det = s.det := rfl
@[simp] theorem setPc_alloc (s : St) (t : Tid) (p : Pc) : (s.setPc t p).alloc = s.alloc := rfl
@[simp] theorem setPc_dead (s : St) (t : Tid) (p : Pc) : (s.setPc t p).dead = s.dead := rfl
@[simp] theorem setPc_parent (s : St) (t : Tid) (p : Pc) : (s.setPc t p).parent = s.parent := rfl
@[simp] theorem setPc_cont (s : St) (t : Tid) (p : Pc) : (s.setPc t p).cont = s.cont := rfl
@[simp] theorem setPc_snaps (s : St) (t : Tid) (p : Pc) : (s.setPc t p).snaps = s.snaps := rfl
@[simp] theorem setPc_released (s : St) (t : Tid) (p : Pc) : (s.setPc t p).released = s.released := rfl
@[simp] theorem withLr_lr (s : St) (l : LR.St) : (withLr s l).lr = l := rfl
@[simp] theorem withLr_pc (s : St) (l : LR.St) : (withLr s l).pc = s.pc := rfl
@[simp] theorem withLr_wm (s : St) (l : LR.St) : (withLr s l).wm = s.wm := rfl
@[simp] theorem withLr_det (s : St) (l : LR.St) : (withLr s l).det = s.det := rfl
@[simp] theorem withLr_alloc (s : St) (l : LR.St) : (withLr s l).alloc = s.alloc := rfl
@[simp] theorem withLr_dead (s : St) (l : LR.St) : (withLr s l).dead = s.dead := rfl
@[simp] theorem withLr_parent (s : St) (l : LR.St) : (withLr s l).parent = s.parent := rfl
@[simp] theorem withLr_cont (s : St) (l : LR.St) : (withLr s l).cont = s.cont := rfl
@[simp] theorem withLr_snaps (s : St) (l : LR.St) : (withLr s l).snaps = s.snaps := rfl
@[simp] theorem withLr_released (s : St) (l : LR.St) : (withLr s l).released = s.released := rfl

theorem writing_none {p : LR.Pc} (hA : ∀ op, lk p ≠ .wA op) (hB : ∀ op, lk p ≠ .wB op) (hO : lk p ≠ .other) :
    p.writing = none := by
  cases p with
  | wF1 => exact absurd rfl (hA _)
  | wF2 => exact absurd rfl (hB _)
  | wRb | wRbC | wRf | wRfC => exact absurd rfl hO
  | _ => rfl

theorem writing_post {p : LR.Pc} {x : Side} (h : p.writing = some x) : p.post = true := by
  cases p with
  | wF1 | wRb | wRbC | wF2 | wRf | wRfC => rfl
  | _ => cases h

theorem pc_upd (hpc : s'.pc = upd s.pc t p') (u : Tid) :
    (u = t ∧ s'.pc u = p') ∨ (u ≠ t ∧ s'.pc u = s.pc u) := by
  rw [hpc]
  by_cases hu : u = t
  · exact .inl ⟨hu, hu ▸ upd_same ..⟩
  · exact .inr ⟨hu, upd_other _ _ _ _ hu⟩

/-- generic frame lemma: thread `t` makes delegated LR steps (`LR.Deleg s.lr s'.lr t`) and moves to cow pc `p'` -/
theorem linv_frame (h : LInv s)
    (hd : LR.Deleg s.lr s'.lr t) (hpc : s'.pc = upd s.pc t p')
    (hl : lk (s'.lr.pc t) = p'.cls)
    (hw : ∀ u, (if u = t then p'.holds else (s.pc u).holds) = true ↔ s'.wm = some u)
    (hdet : ∀ x, s'.det = some x → ∃ w, (s'.lr.pc w).writing = some x) : LInv s' := by
  refine ⟨hd.reach h.reach, ?_, ?_, hdet⟩
  · intro u
    rw [hpc, upd_apply]
    by_cases hu : u = t
    · subst hu; simpa using hl
    · simp only [hu, if_false]; rw [hd.other u hu]; exact h.link u
  · intro u
    rw [hpc, upd_apply, ← hw u]
    by_cases hu : u = t <;> simp [hu]

theorem wm_same {wm' : Option Tid} (h : LInv s) (hp : p'.holds = (s.pc t).holds)
    (hw : wm' = s.wm) : ∀ u, (if u = t then p'.holds else (s.pc u).holds) = true ↔ wm' = some u := by
  intro u
  by_cases hu : u = t
  · subst hu; simp only [if_true, hp, hw]; exact h.wmh u
  · simp only [hu, if_false, hw]; exact h.wmh u

theorem wm_lock (h : LInv s) (hp : p'.holds = true) (hw : s.wm = none) :
    ∀ u, (if u = t then p'.holds else (s.pc u).holds) = true ↔ some t = some u := by
  intro u
  by_cases hu : u = t
  · subst hu; simp [hp]
  · have := h.wmh u
    rw [hw] at this
    simp only [hu, if_false]
    constructor
    · intro h1; exact absurd (this.mp h1) (by simp)
    · intro h1; injection h1 with h1; exact absurd h1.symm hu

theorem wm_unlock (h : LInv s) (hp : p'.holds = false) (hw : s.wm = some t) :
    ∀ u, (if u = t then p'.holds else (s.pc u).holds) = true ↔ (none : Option Tid) = some u := by
  intro u
  by_cases hu : u = t
  · subst hu; simp [hp]
  · have := h.wmh u
    rw [hw] at this
    simp only [hu, if_false]
    constructor
    · intro h1; have := this.mp h1; injection this with h2; exact absurd h2.symm hu
    · intro h1; simp at h1

/-- the window flag is not touched and the stepping thread is (and stays) outside every write window or keeps its window -/
theorem det_same (h : LInv s) (hd : LR.Deleg s.lr s'.lr t) (he : s'.det = s.det)
    (hwr : ∀ x, (s.lr.pc t).writing = some x → (s'.lr.pc t).writing = some x) :
    ∀ x, s'.det = some x → ∃ w, (s'.lr.pc w).writing = some x := by
  intro x hx
  rw [he] at hx
  obtain ⟨w, hw⟩ := h.win x hx
  by_cases hwt : w = t
  · subst hwt; exact ⟨w, hwr x hw⟩
  · exact ⟨w, by rw [hd.other w hwt]; exact hw⟩

/-- `v` is (or has been) installed on a side of `m_data`: readers may hold snapshots of it -/
def St.pub (s : St) (v : Ver) : Prop := v = 0 ∨ v ∈ s.lr.valL ∨ v ∈ s.lr.valR

/-- the private, unpublished copy a thread owns -/
def Pc.own : Pc → Option Ver
  | .lkC v | .lkD v | .wHold v | .relA v | .cn v _ false => some v
  | _ => none

structure HInv (s : St) : Prop where
  pubAlloc : ∀ v, s.pub v → v ∈ s.alloc
  deadAlloc : ∀ v, v ∈ s.dead → v ∈ s.alloc
  snapsOk : ∀ t v, (t, v) ∈ s.snaps → s.pub v ∧ v ∉ s.dead
  sidesOk : ∀ x, s.det ≠ some x → s.sv x ∉ s.dead
  ownOk : ∀ t v, (s.pc t).own = some v → v ∈ s.alloc ∧ v ∉ s.dead ∧ ¬ s.pub v
  ownUniq : ∀ t u v, t ≠ u → (s.pc t).own = some v → (s.pc u).own ≠ some v
  drPub : ∀ t v n, s.pc t = .dr v n → s.pub v

theorem hinv_init (b : Bool) : HInv (init b) := by
  refine ⟨?_, ?_, ?_, ?_, ?_, ?_, ?_⟩ <;> simp [init, LR.init, St.pub, St.sv, LR.St.val, Pc.own]

theorem sv_pub (s : St) (x : Side) : s.pub (s.sv x) := by
  rcases cur_mem (s.lr.val x) with h | h
  · left; exact h
  · right; cases x
    · left; exact h
    · right; exact h

theorem winRef_pub {o : Ver} (h : s.winRef o = true) : s.pub o := by
  unfold St.winRef at h
  split at h
  · exact beq_iff_eq.mp h ▸ sv_pub s _
  · cases h

theorem pub_congr (hL : s'.lr.valL = s.lr.valL) (hR : s'.lr.valR = s.lr.valR) (v : Ver) : s'.pub v ↔ s.pub v := by
  simp [St.pub, hL, hR]

theorem sv_congr (hL : s'.lr.valL = s.lr.valL) (hR : s'.lr.valR = s.lr.valR) (x : Side) : s'.sv x = s.sv x := by
  cases x <;> simp [St.sv, LR.St.val, hL, hR]

/-- no certain reference: no attached side points to it, no snapshot handle names it -/
theorem refd_false {v : Ver} (h : s.refd v = false) :
    (∀ x, s.det ≠ some x → s.sv x ≠ v) ∧ ∀ u, (u, v) ∉ s.snaps := by
  simp only [St.refd, St.sideRef, Bool.or_eq_false_iff, Bool.and_eq_false_iff, List.any_eq_false] at h
  obtain ⟨⟨hl, hr⟩, hsn⟩ := h
  constructor
  · intro x hx
    cases x
    · rcases hl with h1 | h1
      · simpa using h1
      · exact absurd (by simpa using h1) hx
    · rcases hr with h1 | h1
      · simpa using h1
      · exact absurd (by simpa using h1) hx
  · intro u hu
    have := hsn (u, v) hu
    simp at this

/-- frame lemma: a step that leaves the values of the sides and the ledgers `alloc` / `dead` alone, may close no window
(sides attached afterwards were attached before), may only add snapshots of published, live versions, and moves `t` to a
pc that owns what the old one owned, or nothing -/
theorem hinv_frame (h : HInv s) (hpc : s'.pc = upd s.pc t p')
    (hL : s'.lr.valL = s.lr.valL) (hR : s'.lr.valR = s.lr.valR) (hdet : ∀ x, s'.det ≠ some x → s.det ≠ some x)
    (ha : s'.alloc = s.alloc) (hdd : s'.dead = s.dead)
    (hsn : ∀ u w, (u, w) ∈ s'.snaps → (u, w) ∈ s.snaps ∨ (s.pub w ∧ w ∉ s.dead))
    (hown : p'.own = (s.pc t).own ∨ p'.own = none) (hdr : ∀ v n, p' = .dr v n → s.pub v) : HInv s' := by
  have hpub := pub_congr hL hR
  have hsv := sv_congr hL hR
  have ownle : ∀ u v, (s'.pc u).own = some v → (s.pc u).own = some v := by
    intro u v hu
    rcases pc_upd hpc u with ⟨rfl, hq⟩ | ⟨hut, hq⟩ <;> rw [hq] at hu
    · rcases hown with h1 | h1
      · rw [← h1]; exact hu
      · rw [h1] at hu; simp at hu
    · exact hu
  refine ⟨?_, ?_, ?_, ?_, ?_, ?_, ?_⟩
  · intro v hv; rw [ha]; exact h.pubAlloc v ((hpub v).mp hv)
  · intro v hv; rw [ha]; rw [hdd] at hv; exact h.deadAlloc v hv
  · intro u v hv
    rw [hpub, hdd]
    rcases hsn u v hv with h1 | h1
    · exact h.snapsOk u v h1
    · exact h1
  · intro x hx
    rw [hsv, hdd]; exact h.sidesOk x (hdet x hx)
  · intro u v hv
    rw [ha, hdd, hpub]; exact h.ownOk u v (ownle u v hv)
  · intro a b v hab ha' hb'
    exact h.ownUniq a b v hab (ownle a v ha') (ownle b v hb')
  · intro u v n hu
    rw [hpub]
    rcases pc_upd hpc u with ⟨rfl, hq⟩ | ⟨hut, hq⟩ <;> rw [hq] at hu
    · exact hdr v n hu
    · exact h.drPub u v n hu

/-- every version of the list was copied from its predecessor (the first one from `p`) -/
def Chain (par : Ver → Ver) : Ver → List Ver → Prop
  | _, [] => True
  | p, v :: l => par v = p ∧ Chain par v l

def lastFrom : Ver → List Ver → Ver
  | p, [] => p
  | _, v :: l => lastFrom v l

theorem lastFrom_cons_ne (p a : Ver) (l : List Ver) : lastFrom p (a :: l) = lastFrom a l := rfl

theorem cur_eq_lastFrom (l : List Ver) : cur l = lastFrom 0 l := by
  have : ∀ (l : List Ver) (a p : Ver), cur (a :: l) = lastFrom p (a :: l) := by
    intro l
    induction l with
    | nil => intro a p; rfl
    | cons b l ih => intro a p; simp only [cur_cons_cons, lastFrom_cons_ne]; exact ih b a
  cases l with
  | nil => rfl
  | cons a l => exact this l a 0

theorem chain_append (par : Ver → Ver) (p : Ver) (l : List Ver) (v : Ver) :
    Chain par p (l ++ [v]) ↔ Chain par p l ∧ par v = lastFrom p l := by
  induction l generalizing p with
  | nil => simp [Chain, lastFrom]
  | cons a l ih => simp only [List.cons_append, Chain, lastFrom, ih a, and_assoc]

theorem Chain.congr {par par' : Ver → Ver} {p : Ver} {l : List Ver} (h : Chain par p l) (he : ∀ v, v ∈ l → par' v = par v) :
    Chain par' p l := by
  induction l generalizing p with
  | nil => trivial
  | cons a l ih =>
    obtain ⟨h1, h2⟩ := h
    exact ⟨by rw [he a (by simp)]; exact h1, ih h2 (fun v hv => he v (List.mem_cons_of_mem _ hv))⟩

/-- the private copy the writer-mutex holder is going to commit on top of `committed` -/
def Pc.carry : Pc → Option Ver
  | .lkC v | .lkD v | .wHold v | .relA v | .relB v false => some v
  | _ => none

/-- committed by the writer-mutex holder, writer mutex not yet released -/
def Pc.pend : Pc → Option Ver
  | .relB v true | .relC v => some v
  | _ => none

structure ChInv (s : St) : Prop where
  chain : Chain s.parent 0 s.lr.committed
  comPub : ∀ v, v ∈ s.lr.committed → s.pub v
  top : ∀ t v, (s.pc t).carry = some v → s.parent v = cur s.lr.committed
  src : ∀ t v, s.pc t = .lkH (some v) → v = cur s.lr.committed
  rel : ∀ t, s.wm = some t → s.lr.committed = s.released ++ ((s.pc t).pend).toList
  rel0 : s.wm = none → s.lr.committed = s.released
  relU : ∀ t v, s.pc t = .relU v → v ∈ s.released

theorem chinv_init (b : Bool) : ChInv (init b) := by
  refine ⟨?_, ?_, ?_, ?_, ?_, ?_, ?_⟩ <;> simp [init, LR.init, Chain, Pc.carry]

/-- `committed` and `parent` untouched; the published set may grow; what `t` carries it carried before; the obligations
about `released` are left to the caller -/
theorem chinv_gen (h : ChInv s) (hpc : s'.pc = upd s.pc t p')
    (hpub : ∀ v, s.pub v → s'.pub v) (hc : s'.lr.committed = s.lr.committed) (hpar : s'.parent = s.parent)
    (hcarry : p'.carry = (s.pc t).carry ∨ p'.carry = none)
    (hsrc : ∀ v, p' = .lkH (some v) → v = cur s.lr.committed)
    (hU : ∀ u v, s'.pc u = .relU v → v ∈ s'.released)
    (hrel : ∀ u, s'.wm = some u → s'.lr.committed = s'.released ++ ((s'.pc u).pend).toList)
    (hrel0 : s'.wm = none → s'.lr.committed = s'.released) : ChInv s' := by
  refine ⟨?_, ?_, ?_, ?_, hrel, hrel0, hU⟩
  · rw [hpar, hc]; exact h.chain
  · intro v hv; rw [hc] at hv; exact hpub v (h.comPub v hv)
  · intro u v hu
    rw [hpar, hc]
    rcases pc_upd hpc u with ⟨rfl, hq⟩ | ⟨hut, hq⟩ <;> rw [hq] at hu
    · rcases hcarry with h1 | h1
      · exact h.top u v (by rw [← h1]; exact hu)
      · rw [h1] at hu; simp at hu
    · exact h.top u v hu
  · intro u v hu
    rw [hc]
    rcases pc_upd hpc u with ⟨rfl, hq⟩ | ⟨hut, hq⟩ <;> rw [hq] at hu
    · exact hsrc v hu
    · exact h.src u v hu

theorem relU_keep (h : ChInv s) (hpc : s'.pc = upd s.pc t p')
    (hsub : ∀ v, v ∈ s.released → v ∈ s'.released) (hp : ∀ v, p' = .relU v → v ∈ s'.released) :
    ∀ u v, s'.pc u = .relU v → v ∈ s'.released := by
  intro u v hu
  rcases pc_upd hpc u with ⟨rfl, hq⟩ | ⟨hut, hq⟩ <;> rw [hq] at hu
  · exact hp v hu
  · exact hsub v (h.relU u v hu)

/-- frame lemma: `committed`, `parent`, `released`, `wm` untouched, nothing unpublished; `t` moves to a pc that carries what
the old one carried (or nothing), with the same pending publication -/
theorem chinv_frame (h : ChInv s) (hpc : s'.pc = upd s.pc t p')
    (hpub : ∀ v, s.pub v → s'.pub v) (hc : s'.lr.committed = s.lr.committed)
    (hpar : s'.parent = s.parent) (hrel : s'.released = s.released) (hwm : s'.wm = s.wm)
    (hcarry : p'.carry = (s.pc t).carry ∨ p'.carry = none) (hpend : p'.pend = (s.pc t).pend)
    (hsrc : ∀ v, p' = .lkH (some v) → v = cur s.lr.committed) (hU : ∀ v, p' = .relU v → s.pc t = .relU v) : ChInv s' := by
  refine chinv_gen h hpc hpub hc hpar hcarry hsrc
    (relU_keep h hpc (fun v hv => by rw [hrel]; exact hv) fun v hv => by rw [hrel]; exact h.relU t v (hU v hv)) ?_ ?_
  · intro u hu
    rw [hwm] at hu
    rw [hc, hrel, hpc, upd_apply]
    by_cases hut : u = t
    · subst hut; simp only [if_true, hpend]; exact h.rel u hu
    · simp only [hut, if_false]; exact h.rel u hu
  · intro h0
    rw [hwm] at h0
    rw [hc, hrel]; exact h.rel0 h0

theorem cls_wA {p : Pc} {v : Ver} (h : p.cls = .wA v) : p = .relA v := by
  cases p with
  | relA => cases h; rfl
  | _ => cases h

theorem cls_wB {p : Pc} {v : Ver} (h : p.cls = .wB v) : ∃ f, p = .relB v f := by
  cases p with
  | relB _ f => cases h; exact ⟨f, rfl⟩
  | _ => cases h

theorem cls_ne_other (p : Pc) : p.cls ≠ .other := by cases p <;> nofun

/-- a thread at a `post` position of the LR model (holding `m_data`'s write mutex) is publishing: cow pc `relA` / `relB` -/
theorem post_rel (h : LInv s) {w : Tid} (hp : (s.lr.pc w).post = true) :
    (∃ v, s.pc w = .relA v) ∨ ∃ v f, s.pc w = .relB v f := by
  rcases LR.lk_post hp with ⟨op, h1⟩ | ⟨op, h1⟩ | h1
  · left; exact ⟨op, cls_wA (by rw [← h.link w]; exact h1)⟩
  · right
    obtain ⟨f, hf⟩ := cls_wB (by rw [← h.link w]; exact h1)
    exact ⟨op, f, hf⟩
  · exact absurd (by rw [← h.link w]; exact h1) (cls_ne_other _)

theorem post_holds (h : LInv s) {w : Tid} (hp : (s.lr.pc w).post = true) : s.wm = some w := by
  apply (h.wmh w).mp
  rcases post_rel h hp with ⟨v, h1⟩ | ⟨v, f, h1⟩ <;> rw [h1] <;> rfl

/-- while the writer-mutex holder is not publishing, nobody holds `m_data`'s write mutex -/
theorem quiet_of_holder (h : LInv s) (hw : s.wm = some t) (hp : (s.lr.pc t).post = false) :
    s.lr.mtx = none := by
  cases hm : s.lr.mtx with
  | none => rfl
  | some w =>
    have hpw : (s.lr.pc w).post = true := (h.full.inv.holder w).mpr hm
    have := post_holds h hpw
    rw [hw] at this
    injection this with this
    subst this
    rw [hp] at hpw; cases hpw

theorem val_committed (h : LInv s) (hm : s.lr.mtx = none) (x : Side) : s.lr.val x = s.lr.committed :=
  h.full.vinv.vquiet hm x

/-- the side a read handle points to is not inside an assignment window -/
theorem held_not_det (h : LInv s) {c x : Side} (hp : s.lr.pc t = .rdHold c x) : s.det ≠ some x := by
  intro hd
  obtain ⟨w, hw⟩ := h.win x hd
  exact h.full.inv.no_touch hw (r := t) (by rw [hp]; rfl)

/-- the window belongs to the thread that is inside a write window -/
theorem det_of_writing {s : St} (h : LInv s) {t : Tid} {x y : Side} (hd : s.det = some x)
    (ht : (s.lr.pc t).post = true) (hy : (s.lr.pc t).writing = some y ∨ (s.lr.pc t).writing = none) :
    (s.lr.pc t).writing = some x := by
  obtain ⟨w, hw⟩ := h.win x hd
  have h1 := (h.full.inv.holder w).mp (writing_post hw)
  have h2 := (h.full.inv.holder t).mp ht
  rw [h1] at h2
  injection h2 with h2
  subst h2; exact hw

theorem det_none (h : LInv s) (ht : (s.lr.pc t).post = true) (hw : (s.lr.pc t).writing = none) :
    s.det = none := by
  cases hd : s.det with
  | none => rfl
  | some y =>
    obtain ⟨w, hwy⟩ := h.win y hd
    have h1 := (h.full.inv.holder w).mp (writing_post hwy)
    have h2 := (h.full.inv.holder t).mp ht
    rw [h1] at h2
    injection h2 with h2
    subst h2
    rw [hw] at hwy; cases hwy

theorem carry_holds {p : Pc} {v : Ver} (h : p.carry = some v) : p.holds = true := by
  cases p with
  | lkC | lkD | wHold | relA | relB => rfl
  | _ => cases h

theorem only_holder (h : LInv s) {t u : Tid} (hw : s.wm = some t) (hu : u ≠ t) : (s.pc u).holds = false := by
  cases hh : (s.pc u).holds with
  | false => rfl
  | true =>
    have := (h.wmh u).mp hh
    rw [hw] at this
    injection this with this
    exact absurd this.symm hu

/-- while thread `t` is past the first application of its release of `v`: some attached side points to `v` -/
theorem relB_side (h : LInv s) {v : Ver} {f : Bool} (hp : s.pc t = .relB v f) :
    ∃ y, s.sv y = v ∧ s.det ≠ some y := by
  have hk : lk (s.lr.pc t) = .wB v := by rw [h.link t, hp]; rfl
  obtain ⟨y, hy, hny⟩ := LR.wB_val h.full hk
  refine ⟨y, by simp [St.sv, hy], ?_⟩
  intro hd
  obtain ⟨w, hw⟩ := h.win y hd
  have h1 := (h.full.inv.holder w).mp (writing_post hw)
  have h2 := (h.full.inv.holder t).mp (LR.lk_wB_post hk)
  rw [h1] at h2
  injection h2 with h2
  subst h2
  exact hny hw

end ConcVerif.Cow
