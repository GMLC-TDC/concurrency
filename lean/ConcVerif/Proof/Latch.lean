import ConcVerif.Model.Latch

/-! The steps of the Latch model as a relation, and its inductive invariant.

Every later file reasons about one step by `cases` on `Step`.  The invariant is proved in the form
"shared facts + what holds of thread `u` at its pc" (`At`): a step of `t` then needs the facts at `t`'s
new pc and, for every other thread, only that the change of the shared fields does not disturb it. -/
namespace ConcVerif.Latch

variable {s s' : St} {t u : Tid} {e : Ev}

/-- the accepted steps: one constructor per edge of `step`, the branch of every `if` resolved.  In an arm of `cases` the
hypotheses come in the order of the arrows: the pc of the stepping thread first, then the guards. -/
inductive Step (s : St) (t : Tid) : Ev → St → Prop
  | callA {k : Kind} : s.pc t = .idle → k ≠ .wait → Step s t (.call k) (s.setPc t (.aCalled k))
  | callW : s.pc t = .idle → Step s t (.call .wait) (s.setPc t (.wCalled .wait))
  | aLock {k : Kind} : s.pc t = .aCalled k → s.mtx = none →
      Step s t .mlk ({ s with mtx := some t }.setPc t (.aLocked k))
  | dec {k : Kind} : s.pc t = .aLocked k →
      Step s t (.dec s.counter) ({ s with counter := s.counter - 1, arrived := s.arrived + 1 }.setPc t (.aDec k))
  | aZero {k : Kind} : s.pc t = .aDec k → s.counter = 0 → Step s t (.ld s.counter) (s.setPc t (.aNotify k))
  | aMore {k : Kind} : s.pc t = .aDec k → s.counter ≠ 0 → Step s t (.ld s.counter) (s.setPc t (.aUnlock k))
  | cna {k : Kind} : s.pc t = .aNotify k → Step s t .cna ({ s with waiters := [] }.setPc t (.aUnlock k))
  | aUnlock {k : Kind} : s.pc t = .aUnlock k → s.mtx = some t → k ≠ .aaw →
      Step s t .mul ({ s with mtx := none }.setPc t .aRet)
  | aawUnlock : s.pc t = .aUnlock .aaw → s.mtx = some t → Step s t .mul ({ s with mtx := none }.setPc t (.wCalled .aaw))
  | aRet : s.pc t = .aRet → Step s t (.ret .arrive) (s.setPc t .idle)
  | fastOpen {k : WKind} : s.pc t = .wCalled k → s.counter ≤ 0 → Step s t (.ld s.counter) (s.setPc t (.wRet k))
  | fastShut {k : WKind} : s.pc t = .wCalled k → 0 < s.counter → Step s t (.ld s.counter) (s.setPc t (.wLock k))
  | wLock {k : WKind} : s.pc t = .wLock k → s.mtx = none → Step s t .mlk ({ s with mtx := some t }.setPc t (.wLocked k))
  | loopOpen {k : WKind} : s.pc t = .wLocked k → s.counter ≤ 0 → Step s t (.ld s.counter) (s.setPc t (.wUnlock k))
  | loopShut {k : WKind} : s.pc t = .wLocked k → 0 < s.counter → Step s t (.ld s.counter) (s.setPc t (.wWait k))
  | cwt {k : WKind} : s.pc t = .wWait k → s.mtx = some t →
      Step s t .cwt ({ s with mtx := none, waiters := t :: s.waiters }.setPc t (.wSleep k))
  | notified {k : WKind} : s.pc t = .wSleep k → s.mtx = none → t ∉ s.waiters →
      Step s t (.cwk .notified) ({ s with mtx := some t }.setPc t (.wLocked k))
  | spurious {k : WKind} : s.pc t = .wSleep k → s.mtx = none → t ∈ s.waiters →
      Step s t (.cwk .spurious) ({ s with mtx := some t, waiters := s.waiters.erase t }.setPc t (.wLocked k))
  | wUnlock {k : WKind} : s.pc t = .wUnlock k → s.mtx = some t →
      Step s t .mul ({ s with mtx := none }.setPc t (.wRet k))
  | wRet {k : WKind} : s.pc t = .wRet k → Step s t (.ret k.toKind) (s.setPc t .idle)

theorem Step.of_step (h : step s t e = some s') : Step s t e s' := by
  unfold step at h
  -- one bullet per arm of the `match` in `step`, in its order
  split at h
  · rename_i hp; cases h; exact .callA hp nofun
  · rename_i hp; cases h; exact .callA hp nofun
  · rename_i hp; cases h; exact .callW hp
  · rename_i k hp; obtain ⟨hm, ⟨⟩⟩ := Option.ite_none_right_eq_some.1 h; exact .aLock hp hm
  · rename_i k old hp; obtain ⟨rfl, ⟨⟩⟩ := Option.ite_none_right_eq_some.1 h; exact .dec hp
  · rename_i k v hp; obtain ⟨rfl, ⟨⟩⟩ := Option.ite_none_right_eq_some.1 h; split
    · rename_i h0; exact .aZero hp h0
    · rename_i h0; exact .aMore hp h0
  · rename_i k hp; cases h; exact .cna hp
  · rename_i k hp; obtain ⟨hm, ⟨⟩⟩ := Option.ite_none_right_eq_some.1 h; split
    · rename_i hk; subst hk; exact .aawUnlock hp hm
    · rename_i hk; exact .aUnlock hp hm hk
  · rename_i hp; cases h; exact .aRet hp
  · rename_i k v hp; obtain ⟨rfl, ⟨⟩⟩ := Option.ite_none_right_eq_some.1 h; split
    · rename_i h0; exact .fastShut hp h0
    · rename_i h0; exact .fastOpen hp (Int.not_lt.1 h0)
  · rename_i k hp; obtain ⟨hm, ⟨⟩⟩ := Option.ite_none_right_eq_some.1 h; exact .wLock hp hm
  · rename_i k v hp; obtain ⟨rfl, ⟨⟩⟩ := Option.ite_none_right_eq_some.1 h; split
    · rename_i h0; exact .loopShut hp h0
    · rename_i h0; exact .loopOpen hp (Int.not_lt.1 h0)
  · rename_i k hp; obtain ⟨hm, ⟨⟩⟩ := Option.ite_none_right_eq_some.1 h; exact .cwt hp hm
  · rename_i k r hp; obtain ⟨hm, h⟩ := Option.ite_none_right_eq_some.1 h; cases r
    · obtain ⟨hw, ⟨⟩⟩ := Option.ite_none_left_eq_some.1 h; exact .notified hp hm hw
    · obtain ⟨hw, ⟨⟩⟩ := Option.ite_none_right_eq_some.1 h; exact .spurious hp hm hw
  · rename_i k hp; obtain ⟨hm, ⟨⟩⟩ := Option.ite_none_right_eq_some.1 h; exact .wUnlock hp hm
  · rename_i k k' hp; obtain ⟨rfl, ⟨⟩⟩ := Option.ite_none_right_eq_some.1 h; exact .wRet hp
  · cases h

theorem Step.frame (h : Step s t e s') :
    (∃ p, s'.pc = upd s.pc t p) ∧ s'.start = s.start ∧ s'.counter ≤ s.counter := by
  cases h
  case dec => exact ⟨⟨_, rfl⟩, rfl, Int.sub_le_self _ (by decide)⟩
  all_goals exact ⟨⟨_, rfl⟩, rfl, Int.le_refl _⟩

theorem Step.start_eq (h : Step s t e s') : s'.start = s.start := h.frame.2.1

theorem Step.counter_le (h : Step s t e s') : s'.counter ≤ s.counter := h.frame.2.2

theorem Step.pc_other (h : Step s t e s') (hu : u ≠ t) : s'.pc u = s.pc u := by
  obtain ⟨⟨p, hp⟩, _⟩ := h.frame
  rw [hp, upd_other _ _ _ _ hu]

def Pc.holds : Pc → Bool
  | .aLocked _ | .aDec _ | .aNotify _ | .aUnlock _ | .wLocked _ | .wWait _ | .wUnlock _ => true
  | _ => false

def Pc.notifying : Pc → Bool
  | .aDec _ | .aNotify _ => true
  | _ => false

theorem Pc.holds_of_notifying {p : Pc} (h : p.notifying = true) : p.holds = true := by
  cases p
  case aDec => rfl
  case aNotify => rfl
  all_goals cases h

structure Inv (s : St) : Prop where
  cnt : s.counter = s.start - s.arrived
  holder : ∀ t, (s.pc t).holds = true ↔ s.mtx = some t
  waitPos : ∀ t (k : WKind), s.pc t = .wWait k → 0 < s.counter
  opened : ∀ t (k : WKind), (s.pc t = .wUnlock k ∨ s.pc t = .wRet k) → s.counter ≤ 0
  sleepers : ∀ t, t ∈ s.waiters → ∃ k, s.pc t = .wSleep k
  lost : s.waiters ≠ [] → 0 < s.counter ∨ (s.counter = 0 ∧ ∃ t, (s.pc t).notifying = true)
  notif : ∀ t k, s.pc t = .aNotify k → s.counter = 0
  nodup : s.waiters.Nodup

theorem inv_init (start : Int) : Inv (init start) :=
  ⟨(Int.sub_zero _).symm, fun _ => ⟨nofun, nofun⟩, nofun, fun _ _ h => h.elim nofun nofun, nofun, fun h => absurd rfl h,
    nofun, .nil⟩

@[simp] theorem setPc_pc (s : St) (t : Tid) (p : Pc) : (s.setPc t p).pc = upd s.pc t p := rfl
@[simp] theorem setPc_counter (s : St) (t : Tid) (p : Pc) : (s.setPc t p).counter = s.counter := rfl
@[simp] theorem setPc_start (s : St) (t : Tid) (p : Pc) : (s.setPc t p).start = s.start := rfl
@[simp] theorem setPc_mtx (s : St) (t : Tid) (p : Pc) : (s.setPc t p).mtx = s.mtx := rfl
@[simp] theorem setPc_waiters (s : St) (t : Tid) (p : Pc) : (s.setPc t p).waiters = s.waiters := rfl
@[simp] theorem setPc_arrived (s : St) (t : Tid) (p : Pc) : (s.setPc t p).arrived = s.arrived := rfl

/-- what a thread at pc `p` knows about the counter (the three fields `waitPos`, `opened`, `notif`) -/
def Pc.Knows (c : Int) : Pc → Prop
  | .wWait _ => 0 < c
  | .wUnlock _ | .wRet _ => c ≤ 0
  | .aNotify _ => c = 0
  | _ => True

theorem Pc.Knows.of {c : Int} {p : Pc} (hw : ∀ k, p = .wWait k → 0 < c)
    (ho : ∀ k, p = .wUnlock k ∨ p = .wRet k → c ≤ 0) (hn : ∀ k, p = .aNotify k → c = 0) : p.Knows c := by
  cases p
  case wWait k => exact hw k rfl
  case wUnlock k => exact ho k (.inl rfl)
  case wRet k => exact ho k (.inr rfl)
  case aNotify k => exact hn k rfl
  all_goals trivial

/-- a thread that does not hold the mutex can only know `counter ≤ 0`, which a decrement keeps true -/
theorem Pc.Knows.dec {c : Int} {p : Pc} (hh : p.holds = false) (h : p.Knows c) : p.Knows (c - 1) := by
  cases p
  case wRet k => exact Int.le_trans (Int.sub_le_self _ (by decide)) h
  case wWait k => cases hh
  case wUnlock k => cases hh
  case aNotify k => cases hh
  all_goals trivial

/-- the invariant as seen from thread `u` at pc `p`, as a function of the shared fields: who owns the
mutex, who may be in the wait set, what `u` knows about the counter -/
structure At (m : Option Tid) (c : Int) (w : List Tid) (u : Tid) (p : Pc) : Prop where
  holder : p.holds = true ↔ m = some u
  sleeps : u ∈ w → ∃ k, p = .wSleep k
  knows : p.Knows c

section
variable {m : Option Tid} {c : Int} {w : List Tid} {p : Pc}

theorem At.owner (hh : p.holds = true) (hm : m = some u) (hw : u ∉ w) (hk : p.Knows c) : At m c w u p :=
  ⟨⟨fun _ => hm, fun _ => hh⟩, fun h => absurd h hw, hk⟩

theorem At.other (hh : p.holds = false) (hm : m ≠ some u) (hw : u ∉ w) (hk : p.Knows c) : At m c w u p :=
  ⟨⟨fun h => (nomatch hh.symm.trans h), fun h => absurd h hm⟩, fun h => absurd h hw, hk⟩

theorem At.asleep {k : WKind} (hm : m ≠ some u) : At m c w u (.wSleep k) :=
  ⟨⟨nofun, fun h => absurd h hm⟩, fun _ => ⟨k, rfl⟩, trivial⟩

variable (h : At m c w u p)
include h

theorem At.free (hh : p.holds = false) : m ≠ some u :=
  fun e => nomatch hh.symm.trans (h.holder.2 e)

theorem At.awake (hp : ∀ k, p ≠ .wSleep k) : u ∉ w :=
  fun hin => (h.sleeps hin).elim hp

theorem At.owner_awake (hm : m = some u) : u ∉ w := by
  intro hin
  obtain ⟨k, rfl⟩ := h.sleeps hin
  exact nomatch h.holder.2 hm

/-- the other threads are not disturbed when `t` takes or releases the mutex, when the wait set changes without
their joining it, or when the owner decrements the counter -/
theorem At.lock (hm : m = none) (hu : u ≠ t) : At (some t) c w u p :=
  ⟨⟨fun hh => (nomatch hm.symm.trans (h.holder.1 hh)), fun e => absurd (Option.some.inj e).symm hu⟩, h.sleeps, h.knows⟩

theorem At.unlock (hm : m = some t) (hu : u ≠ t) : At none c w u p :=
  ⟨⟨fun hh => absurd (Option.some.inj (hm.symm.trans (h.holder.1 hh))).symm hu, nofun⟩, h.sleeps, h.knows⟩

theorem At.waiters {w' : List Tid} (hw : u ∈ w' → u ∈ w) : At m c w' u p :=
  ⟨h.holder, fun hin => h.sleeps (hw hin), h.knows⟩

theorem At.dec (hm : m = some t) (hu : u ≠ t) : At m (c - 1) w u p :=
  ⟨h.holder, h.sleeps, h.knows.dec (Bool.eq_false_iff.2 fun hh => hu (Option.some.inj (hm.symm.trans (h.holder.1 hh))).symm)⟩

end

theorem Inv.at (h : Inv s) {p : Pc} (hp : s.pc u = p) : At s.mtx s.counter s.waiters u p :=
  hp ▸ ⟨h.holder u, h.sleepers u, .of (h.waitPos u) (h.opened u) (h.notif u)⟩

/-- **The frame theorem.**  Thread `t` moves to `p'` and changes the shared fields: the invariant holds
again if it holds of `t` at `p'`, the other threads are not disturbed, and `lost` and `nodup` are kept. -/
theorem inv_move {p' : Pc} {c' : Int} {a' : Nat} {m' : Option Tid} {w' : List Tid}
    (hc : c' = s.start - a') (ht : At m' c' w' t p') (ho : ∀ u, u ≠ t → At m' c' w' u (s.pc u))
    (hl : w' ≠ [] → 0 < c' ∨ (c' = 0 ∧ ∃ u, (upd s.pc t p' u).notifying = true)) (hn : w'.Nodup) :
    Inv ({ s with counter := c', arrived := a', mtx := m', waiters := w' }.setPc t p') := by
  have ha : ∀ u p, upd s.pc t p' u = p → At m' c' w' u p := fun u p hp => hp ▸ upd_forall ht ho u
  exact ⟨hc, fun u => (ha u _ rfl).holder, fun u k hk => (ha u _ hk).knows,
    fun u k hk => hk.elim (fun hk => (ha u _ hk).knows) (fun hk => (ha u _ hk).knows),
    fun u => (ha u _ rfl).sleeps, hl, fun u k hk => (ha u _ hk).knows, hn⟩

theorem lost_keep (h : Inv s) {p p' : Pc} {w' : List Tid} (hp : s.pc t = p)
    (hn : p.notifying = false) (hw : w' ≠ [] → s.waiters ≠ []) :
    w' ≠ [] → 0 < s.counter ∨ (s.counter = 0 ∧ ∃ u, (upd s.pc t p' u).notifying = true) := by
  intro hne
  rcases h.lost (hw hne) with hpos | ⟨h0, u, hu⟩
  · exact .inl hpos
  · have hut : u ≠ t := fun e => by subst e; rw [hp, hn] at hu; cases hu
    exact .inr ⟨h0, u, by rw [upd_other _ _ _ _ hut]; exact hu⟩

/-- calls, returns, loads: only `t`'s pc changes, between two pcs of the same ownership outside `cv.wait` -/
theorem inv_setPc (h : Inv s) {p p' : Pc} (hp : s.pc t = p) (hh : p'.holds = p.holds)
    (hs : ∀ k, p ≠ .wSleep k) (hk : p'.Knows s.counter) (hn : p.notifying = false) : Inv (s.setPc t p') :=
  have ht := h.at hp
  inv_move h.cnt ⟨hh ▸ ht.holder, fun hin => absurd hin (ht.awake hs), hk⟩ (fun _ _ => h.at rfl) (lost_keep h hp hn id)
    h.nodup

/-- `mlk`, and `cwk` of a notified thread: a thread at a non-holding pc takes the free mutex -/
theorem inv_lock {s : St} {t : Tid} {p' : Pc} (h : Inv s) (hm : s.mtx = none)
    (hold : (s.pc t).holds = false) (hh : p'.holds = true)
    (hw : ∀ k, p' ≠ .wWait k) (ho : ∀ k, p' ≠ .wUnlock k ∧ p' ≠ .wRet k)
    (hsl : t ∉ s.waiters) (hn : (s.pc t).notifying = false) (hno : ∀ k, p' ≠ .aNotify k) :
    Inv ({ s with mtx := some t }.setPc t p') :=
  inv_move h.cnt
    (.owner hh rfl hsl (.of (fun k e => absurd e (hw k)) (fun k e => e.elim (absurd · (ho k).1) (absurd · (ho k).2))
      (fun k e => absurd e (hno k))))
    (fun _ hu => (h.at rfl).lock hm hu) (lost_keep h rfl hn id) h.nodup

/-- `mul`: the holder releases the mutex and moves to a non-holding pc -/
theorem inv_unlock {s : St} {t : Tid} {p' : Pc} (h : Inv s) (hm : s.mtx = some t)
    (hh : p'.holds = false)
    (ho : ∀ k, (p' = .wUnlock k ∨ p' = .wRet k) → s.counter ≤ 0)
    (hn : (s.pc t).notifying = false) (hsl : ∀ k, p' ≠ .wSleep k) :
    Inv ({ s with mtx := none }.setPc t p') :=
  inv_move h.cnt
    (.other hh nofun ((h.at rfl).owner_awake hm) (.of (fun k e => by subst e; cases hh) ho (fun k e => by subst e; cases hh)))
    (fun _ hu => (h.at rfl).unlock hm hu) (lost_keep h rfl hn id) h.nodup

theorem cnt_dec {c st : Int} {a : Nat} (h : c = st - a) : c - 1 = st - (a + 1 : Nat) := by
  rw [h, Int.sub_sub]; rfl

theorem pos_dec {c : Int} (h : 0 < c) : 0 < c - 1 ∨ c - 1 = 0 :=
  (Int.lt_or_eq_of_le (Int.add_one_le_of_lt h)).imp Int.sub_pos.2 fun (e : 0 + 1 = c) => e ▸ rfl

theorem inv_step (s : St) (t : Tid) (e : Ev) (s' : St) (h : Inv s) (hs : step s t e = some s') : Inv s' := by
  cases Step.of_step hs with
  -- the side conditions of the frame lemmas speak about concrete pcs and are decided by their constructors
  | callA hp _ | callW hp | aRet hp | wRet hp | fastShut hp _ => exact inv_setPc h hp rfl nofun trivial rfl
  | fastOpen hp hc | loopOpen hp hc | loopShut hp hc => exact inv_setPc h hp rfl nofun hc rfl
  | aLock hp hm | wLock hp hm =>
    exact inv_lock h hm (hp ▸ rfl) rfl nofun (fun _ => ⟨nofun, nofun⟩) ((h.at hp).awake nofun) (hp ▸ rfl) nofun
  | notified hp hm hw => exact inv_lock h hm (hp ▸ rfl) rfl nofun (fun _ => ⟨nofun, nofun⟩) hw (hp ▸ rfl) nofun
  | aUnlock hp hm _ | aawUnlock hp hm => exact inv_unlock h hm rfl (fun _ e => e.elim nofun nofun) (hp ▸ rfl) nofun
  | wUnlock hp hm => exact inv_unlock h hm rfl (fun _ _ => (h.at hp).knows) (hp ▸ rfl) nofun
  | dec hp =>
    -- the decrement that reaches 0 makes `t` the pending notifier; nobody else can be one, since `t` holds the mutex
    have ht := h.at hp
    have hm := ht.holder.1 rfl
    refine inv_move (cnt_dec h.cnt) (.owner rfl hm (ht.awake nofun) trivial) (fun _ hu => (h.at rfl).dec hm hu)
      (fun hne => ?_) h.nodup
    rcases h.lost hne with hpos | ⟨_, u, hu⟩
    · exact (pos_dec hpos).imp_right fun h0 => ⟨h0, t, by rw [upd_same]; rfl⟩
    · have hut : u = t := Option.some.inj (((h.at rfl).holder.1 (Pc.holds_of_notifying hu)).symm.trans hm)
      rw [hut, hp] at hu; cases hu
  | aZero hp hc =>
    have ht := h.at hp
    exact inv_move h.cnt (.owner rfl (ht.holder.1 rfl) (ht.awake nofun) hc) (fun _ _ => h.at rfl)
      (fun _ => .inr ⟨hc, t, by rw [upd_same]; rfl⟩) h.nodup
  | aMore hp hc =>
    -- the counter is not 0, so if somebody still waits it is positive
    have ht := h.at hp
    exact inv_move h.cnt (.owner rfl (ht.holder.1 rfl) (ht.awake nofun) trivial) (fun _ _ => h.at rfl)
      (fun hne => (h.lost hne).elim .inl (fun h0 => absurd h0.1 hc)) h.nodup
  | cna hp =>
    have ht := h.at hp
    exact inv_move h.cnt (.owner rfl (ht.holder.1 rfl) nofun trivial) (fun _ _ => (h.at rfl).waiters nofun)
      (fun hne => absurd rfl hne) .nil
  | cwt hp hm =>
    have ht := h.at hp
    exact inv_move h.cnt (.asleep nofun)
      (fun _ hu => ((h.at rfl).unlock hm hu).waiters fun hin => (List.mem_cons.1 hin).resolve_left hu)
      (fun _ => .inl ht.knows) (List.nodup_cons.2 ⟨ht.awake nofun, h.nodup⟩)
  | spurious hp hm _ =>
    exact inv_move h.cnt (.owner rfl rfl h.nodup.not_mem_erase trivial)
      (fun _ hu => ((h.at rfl).lock hm hu).waiters List.mem_of_mem_erase)
      (lost_keep h hp rfl fun hne e => hne (by rw [e]; rfl)) (h.nodup.erase t)

theorem inv_reachable {start : Int} (h : Reachable start s) : Inv s := by
  obtain ⟨es, hes⟩ := h
  exact runFrom_inv inv_step (inv_init start) hes

theorem run_start {start : Int} {es : List (Tid × Ev)} (h : run start es = some s) : s.start = start :=
  runFrom_inv (Inv := fun s => s.start = start) (fun _ _ _ _ hi hs => (Step.of_step hs).start_eq.trans hi) rfl h

end ConcVerif.Latch
