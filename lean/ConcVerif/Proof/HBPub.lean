import ConcVerif.Proof.HB
/-! Publication through an atomic (release store / RMW chain → acquire load), and the converse: weak
orders give no edge. -/
namespace ConcVerif.HB

def IsWrite (e : Ev) (a : Loc) : Prop := ∃ o, e = .st a o ∨ e = .rmw a o

/-- the load / RMW at `l` reads from the write at `w`: the latest write of `a` before `l`
(the harness is sequentially consistent: every read returns the latest write in trace order) -/
def ReadsFrom (tr : Trace) (a : Loc) (w l : Nat) : Prop :=
  w < l ∧ (∃ v e, tr[w]? = some (v, e) ∧ IsWrite e a) ∧
  ∀ k v e, w < k → k < l → tr[k]? = some (v, e) → ¬ IsWrite e a

/-- the write at `w` belongs to the release sequence headed by the write at `k` (C++20): every write
of `a` after `k` up to and including `w` is a read-modify-write -/
def InRelSeq (tr : Trace) (a : Loc) (k w : Nat) : Prop :=
  k ≤ w ∧ ∀ k' v o, k < k' → k' ≤ w → tr[k']? ≠ some (v, .st a o)

/-- **Publication.**  Whatever thread `t` did (at `i`) before a releasing write (at `k`) of atomic `a`
happens before whatever thread `u` does (at `j`) after an acquiring read (at `l`) of `a` that reads
from that write or from a write of its release sequence. -/
theorem publication {tr : Trace} {a : Loc} {i k w l j : Nat} {t u : Tid} {ei ew er ej : Ev}
    (hik : i < k) (hlj : l < j) (hi : tr[i]? = some (t, ei)) (hk : tr[k]? = some (t, ew)) (hrel : RelWrite ew a)
    (hseq : InRelSeq tr a k w) (hrf : ReadsFrom tr a w l) (hl : tr[l]? = some (u, er)) (hacq : AcqRead er a)
    (hj : tr[j]? = some (u, ej)) : HB tr i j := by
  have hkl : k < l := by have := hseq.1; have := hrf.1; omega
  have hsw : Sw tr k l := by
    refine .atomic hkl hk hl hrel hacq ?_
    intro k' v o h1 h2
    by_cases hw : k' ≤ w
    · exact hseq.2 k' v o h1 hw
    · intro hc
      exact hrf.2.2 k' v _ (by omega) h2 hc ⟨o, .inl rfl⟩
  exact .trans (.po hik hi hk) (.trans (.sw hsw) (.po hlj hl hj))

/-- a non-releasing store gives no synchronises-with edge (other than its thread being joined) -/
theorem sw_weak_store {tr : Trace} {i j : Nat} {t : Tid} {a : Loc} {o : Ord} (hi : tr[i]? = some (t, .st a o))
    (ho : o.isRel = false) (h : Sw tr i j) : ∃ v, tr[j]? = some (v, .join t) := by
  cases h with
  | mutex _ h1 _ _ => cases hi.symm.trans h1
  | atomic _ h1 _ hr _ _ =>
    cases hi.symm.trans h1
    obtain ⟨o', ho', h2 | h2⟩ := hr <;> cases h2
    exact absurd (ho.symm.trans ho') nofun
  | fork _ h1 _ => cases hi.symm.trans h1
  | join _ h1 h2 => cases hi.symm.trans h1; exact ⟨_, h2⟩
  | forkJoin _ h1 _ => cases hi.symm.trans h1

/-- a non-acquiring load gives no synchronises-with edge (other than the creation of its thread) -/
theorem sw_weak_load {tr : Trace} {i j : Nat} {u : Tid} {a : Loc} {o : Ord} (hj : tr[j]? = some (u, .ld a o))
    (ho : o.isAcq = false) (h : Sw tr i j) : ∃ v, tr[i]? = some (v, .fork u) := by
  cases h with
  | mutex _ _ h2 _ => cases hj.symm.trans h2
  | atomic _ _ h2 _ hr _ =>
    cases hj.symm.trans h2
    obtain ⟨o', ho', h3 | h3⟩ := hr <;> cases h3
    exact absurd (ho.symm.trans ho') nofun
  | fork _ h1 h2 => cases hj.symm.trans h2; exact ⟨_, h1⟩
  | join _ _ h2 => cases hj.symm.trans h2
  | forkJoin _ _ h2 => cases hj.symm.trans h2

/-- In a trace without mutex acquisitions, thread creation / join and releasing writes, happens-before
is just program order: weak atomics order nothing. -/
theorem hb_po_of_no_release {tr : Trace}
    (hno : ∀ (i : Nat) (t : Tid) (e : Ev), tr[i]? = some (t, e) →
      (∀ m md, e ≠ .acq m md) ∧ (∀ u, e ≠ .fork u) ∧ (∀ u, e ≠ .join u) ∧ (∀ a, ¬ RelWrite e a))
    {i j : Nat} (h : HB tr i j) : ∃ t ei ej, tr[i]? = some (t, ei) ∧ tr[j]? = some (t, ej) := by
  induction h with
  | po _ h1 h2 => exact ⟨_, _, _, h1, h2⟩
  | sw h =>
    cases h with
    | mutex _ _ h2 _ => exact absurd rfl ((hno _ _ _ h2).1 _ _)
    | atomic _ h1 _ hr _ _ => exact absurd hr ((hno _ _ _ h1).2.2.2 _)
    | fork _ h1 _ => exact absurd rfl ((hno _ _ _ h1).2.1 _)
    | join _ _ h2 => exact absurd rfl ((hno _ _ _ h2).2.2.1 _)
    | forkJoin _ h1 _ => exact absurd rfl ((hno _ _ _ h1).2.1 _)
  | trans _ _ ih1 ih2 =>
    obtain ⟨t, ei, ej, h1, h2⟩ := ih1
    obtain ⟨t', ej', ek, h3, h4⟩ := ih2
    cases h2.symm.trans h3
    exact ⟨t, ei, ek, h1, h4⟩

end ConcVerif.HB
