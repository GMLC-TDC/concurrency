import ConcVerif.Proof.HBLRCls
/-! Left-right and happens-before, part 4: classification of the model edges (`step_cls`). -/
namespace ConcVerif.LR

macro "pcrfl" h:ident : tactic => `(tactic| (rw [$h:ident] <;> try rfl))

variable {s s' : St} {t : Tid} {e : Ev}

theorem step_cls (h : Inv s) (hs : step s t e = some s') : Cls s t e s'.mtx s'.rl s'.pc := by
  induction Step.of_step hs with
  -- no handle afterwards; same phase, or (`uthWait`) out of a wait with no counter pending
  | inc hpc =>
    rw [setPc_mtx, setReg_mtx, setPc_rl, setReg_rl, setReg_setPc_pc]
    exact .simple _ hpc rfl (.inr rfl) (.inl rfl) rfl
  | uthWait hpc => exact .simple _ hpc rfl (.inr rfl) (.inr fun _ => not_zPend_tt) rfl
  -- handle and registration kept
  | retLs hpc | callRel hpc => exact .simple _ hpc rfl (.inl rfl) (.inl rfl) rfl
  | @rd c x hpc =>
    refine .frame (.rdHold c x) (hpc ▸ rfl) (fun _ _ => hpc ▸ rfl) (fun _ hc => hpc ▸ hc) nofun ?_ nofun
    intro y v hy; cases hy
    exact ⟨hpc ▸ rfl, fun hx => h.read_off_rl hpc hx⟩
  -- the six kinds with an invariant step of their own
  | ldRL hpc => exact .load _ hpc
  | dec hpc => rw [setPc_mtx, setReg_mtx, setPc_rl, setReg_rl, setReg_setPc_pc]; exact .dec _ _ _ hpc
  | lock hpc hm => exact .lock _ hm (hpc ▸ rfl)
  | unlockRb hpc hm => exact .unlock _ hm rfl (hpc ▸ rfl) fun _ => hpc ▸ not_zPend_pre
  | unlockF2 hpc hm | unlockRf hpc hm => exact .unlock _ hm rfl (hpc ▸ rfl) fun _ => hpc ▸ not_zPend_post2
  | stRL hpc => exact .flip _ _ hpc ((h.holder t).1 (hpc ▸ rfl))
  | cntZero hpc hz => exact .zero _ _ _ _ _ hpc ((h.holder t).1 (hpc ▸ rfl)) (List.length_eq_zero_iff.1 hz)
  -- writes and copies by the holder
  | fBegin1 hpc | cpBeginRb hpc =>
    exact .write _ _ hpc rfl rfl (fun _ => not_zPend_pre) (fun _ => not_zPend_pre) rfl (h.pre_facts hpc rfl rfl)
  | fEnd1 hpc | cpEndRb hpc =>
    rw [setPc_mtx, setVal_mtx, setPc_rl, setVal_rl, setVal_setPc_pc]
    exact .write _ _ hpc rfl rfl (fun _ => not_zPend_pre) (fun _ => not_zPend_pre) rfl (h.pre_facts hpc rfl rfl)
  | fBegin2 hpc =>
    exact .write _ _ hpc rfl rfl (fun _ => not_zPend_tt) (fun _ => not_zPend_post2) rfl
      (h.post2_facts hpc rfl (.inr rfl))
  | cpBeginRf hpc =>
    exact .write _ _ hpc rfl rfl (fun _ => not_zPend_post2) (fun _ => not_zPend_post2) rfl
      (h.post2_facts hpc rfl (.inl rfl))
  | fEnd2 hpc | cpEndRf hpc =>
    rw [setPc_mtx, setVal_mtx, setPc_rl, setVal_rl, setVal_setPc_pc]
    exact .write _ _ hpc rfl rfl (fun _ => not_zPend_post2) (fun _ => not_zPend_post2) rfl
      (h.post2_facts hpc rfl (.inl rfl))
  | cntWait | yld | stCL | fin | reRL | reCL | reCnt => exact .same rfl
  | _ => rename_i hpc; exact .simple _ hpc rfl (.inr rfl) (.inl rfl) rfl

end ConcVerif.LR
