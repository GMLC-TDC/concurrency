import ConcVerif.Proof.RcuF
/-! Invariant G: a traversal visits nodes in list order and skips no element which stays linked.

As long as the iterator is valid, every node that was linked at `begin` and is still linked has either been seen or
lies on the `next`-chain that starts at the iterator's current node; the nodes seen (newest first) are strictly
increasing in `order`. -/
namespace ConcVerif.Rcu

/-- `y` is on the `next`-chain starting at `c` -/
inductive Reach (nx : Nat → Option Nat) : Nat → Nat → Prop
  | refl (c : Nat) : Reach nx c c
  | step {c x y : Nat} (h : nx c = some x) (r : Reach nx x y) : Reach nx c y

theorem reach_mono {nx nx' : Nat → Option Nat} {c y : Nat} (h : Reach nx c y)
    (hm : ∀ a x, nx a = some x → nx' a = some x) : Reach nx' c y := by
  induction h with
  | refl c => exact .refl c
  | step h _ ih => exact .step (hm _ _ h) ih

/-- the chain only runs through nodes of a `next`-closed set -/
theorem reach_congr {nx nx' : Nat → Option Nat} {S : Nat → Prop} {c y : Nat} (h : Reach nx c y) (hc : S c)
    (hcl : ∀ a x, S a → nx a = some x → S x) (he : ∀ a, S a → nx' a = nx a) : Reach nx' c y := by
  induction h with
  | refl c => exact .refl c
  | step h _ ih => exact .step (by rw [he _ hc]; exact h) (ih (hcl _ _ hc h))

/-- unlinking `d` (`pp.next := d.next`) keeps every other node on the chain -/
theorem reach_skip {nx : Nat → Option Nat} {pp d c y : Nat} (h : Reach nx c y) (hpd : nx pp = some d) (hne : pp ≠ d)
    (hy : y ≠ d) : Reach (fun a => if a = pp then nx d else nx a) c y := by
  induction h with
  | refl c => exact .refl c
  | step h r ih =>
    rename_i a b y'
    by_cases ha : a = pp
    · subst ha
      rw [hpd] at h; injection h with h; subst h
      -- chain: a -> d -> ..., y ≠ d
      have := ih hy
      cases this with
      | refl => exact absurd rfl hy
      | step h2 r2 =>
        refine .step ?_ r2
        simp only [if_true]
        simp only [if_neg (Ne.symm hne)] at h2
        exact h2
    · exact .step (by simp only [if_neg ha]; exact h) (ih hy)

/-- every linked node behind `c` is on the chain from `c` -/
theorem reach_of_below {nx : Nat → Option Nat} {l : List Nat} (hn : l.Nodup)
    (hnx : ∀ a ∈ l, nx a = (Below l a).head?) :
    ∀ (k : Nat) (c y : Nat), (Below l c).length = k → c ∈ l → y ∈ Below l c → Reach nx c y := by
  intro k
  induction k with
  | zero =>
    intro c y hk _ hy
    have : Below l c = [] := List.length_eq_zero_iff.1 hk
    rw [this] at hy; simp at hy
  | succ k ih =>
    intro c y hk hc hy
    cases hb : Below l c with
    | nil => rw [hb] at hk; simp at hk
    | cons x xs =>
      have hhead : (Below l c).head? = some x := by rw [hb]; rfl
      have hxl : x ∈ l := mem_of_mem_below (head_mem_below hhead)
      have hbx : Below l x = xs := by rw [below_of_head hn hhead, hb]; rfl
      refine .step (by rw [hnx c hc, hhead]) ?_
      rw [hb] at hy
      rcases List.mem_cons.1 hy with e | e
      · subst e; exact .refl _
      · exact ih x y (by rw [hbx]; rw [hb] at hk; simpa using hk) hxl (by rw [hbx]; exact e)

section
variable {s s' : St} {g g' : Gh} {t u : Tid} {e : Ev}

/-- pcs that carry the value `erase` will return -/
def retOf : Pc → Option (Option Nat)
  | .eDel _ o | .eMark _ o _ | .eBack _ o _ | .eNext _ o _ _ | .eUnl _ o _ _ _ | .eFix _ o _ _ _ | .eAlloc _ o | .eCons _ o _
  | .eZh o _ | .pushStore (.erase o) _ _ | .pushCas (.erase o) _ _ | .eUnlock o => some o
  | _ => none

/-- the node an `erase` in its first phase works on: still the iterator's node -/
def curNode : Pc → Option Nat
  | .eOrig c _ | .eDel c _ | .eAlloc c _ | .eCons c _ _ | .eMark c _ _ | .eBack c _ _ | .eNext c _ _ _ | .eUnl c _ _ _ _ => some c
  | _ => none

structure GOk (s : St) (g : Gh) (u : Tid) : Prop where
  /-- no stably linked node is skipped -/
  noskip : s.it u ≠ none → ∀ y ∈ g.base u, y ∈ s.lst →
    y ∈ g.seen u ∨ ∃ c, s.it u = some (some c) ∧ Reach (fun n => (s.nodes n).next) c y
  baseOrd : s.it u ≠ none → ∀ y ∈ g.base u, y ∈ s.order
  eorig : ∀ c, curNode (s.pc u) = some c → s.it u = some (some c)
  eret : ∀ o, retOf (s.pc u) = some o → ∃ c, s.it u = some (some c) ∧ (o = some c ∨ o = (s.nodes c).next)
  /-- every newer entry of `seen` lies strictly behind every older one in `order` -/
  sorted : (g.seen u).Pairwise (fun a b => a ∈ Below s.order b)
  newest : ∀ c, s.it u = some (some c) → (g.seen u).head? = some c
  seenOrd : ∀ c ∈ g.seen u, c ∈ s.order

def InvG (s : St) (g : Gh) : Prop := ∀ u, GOk s g u

theorem invG_init : InvG init gh0 := by
  intro u; constructor <;> simp [init, gh0, retOf, curNode]

theorem retOf_holds {p : Pc} (h : retOf p ≠ none) : holdsW p = true := by
  cases hp : retOf p with
  | none => exact absurd hp h
  | some o => unfold retOf at hp; split at hp <;> first | rfl | cases hp

/-- the node an `erase` works on is handed from pc to pc; it enters with the iterator's node -/
theorem curNode_step (hs : Step s t e s') {c : Nat} (h : curNode (s'.pc t) = some c) :
    curNode (s.pc t) = some c ∨ s.it t = some (some c) := by
  cases hs
  case regPst | pPstDel | pPstData | ePst | dDesZNpld | dFreZNpld => exact .inl h
  case uNextNone | rFreZ | dFreZ | dFreN | dtorHead | dZhead =>
    simp only [St.reapAt, St.dNodeAt, St.dRecAt] at h; split at h <;> (rw [setPc_pc_self] at h; cases h)
  case eraseLock adv r c' hpc hh hi hm => rw [setPc_pc_self] at h; cases h; exact .inr hi
  case eOrig | eDelFresh | eAlo | eCon | eMark | eBack | eNext => rw [setPc_pc_self] at h; rw [‹s.pc t = _›]; exact .inl h
  -- every other arm names the new pc, and `curNode` of it is `none`
  all_goals (rw [setPc_pc_self] at h; cases h)

/-- the value `erase` will return is computed once, from the node it works on, and handed from pc to pc -/
theorem retOf_step (hs : Step s t e s') {o : Option Nat} (h : retOf (s'.pc t) = some o) :
    retOf (s.pc t) = some o ∨ ∃ c, curNode (s.pc t) = some c ∧ (o = some c ∨ o = (s.nodes c).next) := by
  cases hs
  case regPst | pPstDel | pPstData | ePst | dDesZNpld | dFreZNpld => exact .inl h
  case uNextNone | rFreZ | dFreZ | dFreN | dtorHead | dZhead =>
    simp only [St.reapAt, St.dNodeAt, St.dRecAt] at h; split at h <;> (rw [setPc_pc_self] at h; cases h)
  case eOrig c adv o' hpc ho =>
    rw [setPc_pc_self] at h; cases h
    refine .inr ⟨c, by rw [hpc]; rfl, ?_⟩
    cases adv
    · exact .inl rfl
    · exact .inr rfl
  case pushStore k r exp o' hpc | casFail k r exp o' hpc ho =>
    rw [setPc_pc_self] at h; rw [hpc]; cases k
    · cases h
    · exact .inl h
  case eDelDeleted | eDelFresh | eAlo | eCon | eMark | eBack | eNext | eUnlPrev | eUnlHead | eFixNext | eFixTail | eZh |
      casEraseOk =>
    rw [setPc_pc_self] at h; rw [‹s.pc t = _›]; exact .inl h
  all_goals (rw [setPc_pc_self] at h; cases h)

theorem below_mono_cons (n : Nat) (o : List Nat) (a b : Nat) (h : a ∈ Below o b) : a ∈ Below (n :: o) b := by
  by_cases e : n = b
  · subst e; rw [below_cons_self]; exact mem_of_mem_below h
  · rw [below_cons_ne _ e]; exact h

theorem below_mono_append (n : Nat) (o : List Nat) (a b : Nat) (h : a ∈ Below o b) : a ∈ Below (o ++ [n]) b := by
  rw [below_append_singleton (mem_of_mem_below' h)]; exact List.mem_append_left _ h

/-- a thread whose iterator and history are untouched; newly linked nodes are brand new; the chains towards nodes that
are still linked survive -/
theorem GOk.frame (h : GOk s g u) (hitv : ∀ c, s.it u = some (some c) → c ∈ s.order)
    (hl : ∀ y, y ∈ s'.lst → y ∈ s.lst ∨ y ∉ s.order) (ho : ∀ y ∈ s.order, y ∈ s'.order)
    (hbel : ∀ a b, a ∈ Below s.order b → a ∈ Below s'.order b)
    (hr : ∀ c y, c ∈ s.order → y ∈ s'.lst → y ∈ s.lst → Reach (fun n => (s.nodes n).next) c y →
      Reach (fun n => (s'.nodes n).next) c y)
    (hit : s'.it u = s.it u) (hb : g'.base u = g.base u) (hsn : g'.seen u = g.seen u)
    (hE : ∀ c, curNode (s'.pc u) = some c → s.it u = some (some c))
    (hR : ∀ o, retOf (s'.pc u) = some o → ∃ c, s.it u = some (some c) ∧ (o = some c ∨ o = (s'.nodes c).next)) :
    GOk s' g' u := by
  refine ⟨?_, ?_, ?_, ?_, ?_, ?_, ?_⟩
  · intro hu y hy hyl
    rw [hit] at hu ⊢; rw [hb] at hy; rw [hsn]
    have hyl0 : y ∈ s.lst := (hl y hyl).resolve_right fun e => e (h.baseOrd hu y hy)
    rcases h.noskip hu y hy hyl0 with f | ⟨c, f1, f2⟩
    · exact .inl f
    · exact .inr ⟨c, f1, hr c y (hitv c f1) hyl hyl0 f2⟩
  · intro hu y hy; rw [hit] at hu; rw [hb] at hy; exact ho y (h.baseOrd hu y hy)
  · intro c hp; rw [hit]; exact hE c hp
  · intro o hp; rw [hit]; exact hR o hp
  · rw [hsn]; exact h.sorted.imp (fun {a b} hab => hbel a b hab)
  · intro c hc; rw [hit] at hc; rw [hsn]; exact h.newest c hc
  · intro c hc; rw [hsn] at hc; exact ho c (h.seenOrd c hc)

/-- a step of `t`: the other threads keep their iterators and their history and only have to be told what happened to
the list -/
theorem invG_of_other (h : InvG s g) (hitv : ∀ u c, s.it u = some (some c) → c ∈ s.order)
    (hl : ∀ y, y ∈ s'.lst → y ∈ s.lst ∨ y ∉ s.order) (ho : ∀ y ∈ s.order, y ∈ s'.order)
    (hbel : ∀ a b, a ∈ Below s.order b → a ∈ Below s'.order b)
    (hr : ∀ c y, c ∈ s.order → y ∈ s'.lst → y ∈ s.lst → Reach (fun n => (s.nodes n).next) c y →
      Reach (fun n => (s'.nodes n).next) c y)
    (hnx : ∀ u, u ≠ t → retOf (s.pc u) ≠ none → ∀ c ∈ s.order, (s'.nodes c).next = (s.nodes c).next)
    (hit : ∀ u, u ≠ t → s'.it u = s.it u) (hb : ∀ u, u ≠ t → g'.base u = g.base u)
    (hsn : ∀ u, u ≠ t → g'.seen u = g.seen u) (hvpc : ∀ u, u ≠ t → s'.pc u = s.pc u) (ht : GOk s' g' t) : InvG s' g' := by
  intro u
  by_cases hut : u = t
  · exact hut ▸ ht
  · refine (h u).frame (hitv u) hl ho hbel hr (hit u hut) (hb u hut) (hsn u hut) ?_ ?_
    · intro c hp; rw [hvpc u hut] at hp; exact (h u).eorig c hp
    · intro o hp; rw [hvpc u hut] at hp
      obtain ⟨c, c1, c2⟩ := (h u).eret o hp
      exact ⟨c, c1, by rw [hnx u hut (by rw [hp]; nofun) c (hitv u c c1)]; exact c2⟩

theorem invG_frame (h : InvG s g) (hitv : ∀ u c, s.it u = some (some c) → c ∈ s.order)
    (hl : ∀ y, y ∈ s'.lst → y ∈ s.lst ∨ y ∉ s.order) (ho : ∀ y ∈ s.order, y ∈ s'.order)
    (hbel : ∀ a b, a ∈ Below s.order b → a ∈ Below s'.order b)
    (hr : ∀ c y, c ∈ s.order → y ∈ s'.lst → y ∈ s.lst → Reach (fun n => (s.nodes n).next) c y →
      Reach (fun n => (s'.nodes n).next) c y)
    (hit : s'.it = s.it) (hvpc : ∀ u, u ≠ t → s'.pc u = s.pc u)
    (hE : ∀ c, curNode (s'.pc t) = some c → s.it t = some (some c))
    (hR : ∀ o, retOf (s'.pc t) = some o → ∃ c, s.it t = some (some c) ∧ (o = some c ∨ o = (s'.nodes c).next))
    (hnx : ∀ u, u ≠ t → retOf (s.pc u) ≠ none → ∀ c ∈ s.order, (s'.nodes c).next = (s.nodes c).next) : InvG s' g :=
  invG_of_other h hitv hl ho hbel hr hnx (fun u _ => congrFun hit u) (fun _ _ => rfl) (fun _ _ => rfl) hvpc
    ((h t).frame (hitv t) hl ho hbel hr (congrFun hit t) rfl rfl hE hR)

theorem invG_frame_nx (h : InvG s g) (hitv : ∀ u c, s.it u = some (some c) → c ∈ s.order)
    (hval : ∀ n ∈ s.order, ∀ x, (s.nodes n).next = some x → x ∈ s.order)
    (hl : ∀ y, y ∈ s'.lst → y ∈ s.lst ∨ y ∉ s.order) (ho : ∀ y ∈ s.order, y ∈ s'.order)
    (hbel : ∀ a b, a ∈ Below s.order b → a ∈ Below s'.order b)
    (hnx : ∀ a ∈ s.order, (s'.nodes a).next = (s.nodes a).next) (hit : s'.it = s.it)
    (hvpc : ∀ u, u ≠ t → s'.pc u = s.pc u) (hE : ∀ c, curNode (s'.pc t) = some c → s.it t = some (some c))
    (hR : ∀ o, retOf (s'.pc t) = some o → ∃ c, s.it t = some (some c) ∧ (o = some c ∨ o = (s.nodes c).next)) :
    InvG s' g := by
  refine invG_frame h hitv hl ho hbel
    (fun c y hc _ _ r => reach_congr (S := (· ∈ s.order)) r hc (fun a x ha hx => hval a ha x hx) hnx) hit hvpc hE ?_
    (fun _ _ _ => hnx)
  intro o hp
  obtain ⟨c, c1, c2⟩ := hR o hp
  exact ⟨c, c1, by rw [hnx c (hitv t c c1)]; exact c2⟩

theorem invG_iter (h : InvG s g) (hitv : ∀ u c, s.it u = some (some c) → c ∈ s.order)
    (hl : s'.lst = s.lst) (ho : s'.order = s.order) (hn : s'.nodes = s.nodes)
    (hit : ∀ u, u ≠ t → s'.it u = s.it u) (hb : ∀ u, u ≠ t → g'.base u = g.base u)
    (hsn : ∀ u, u ≠ t → g'.seen u = g.seen u) (hvpc : ∀ u, u ≠ t → s'.pc u = s.pc u) (ht : GOk s' g' t) : InvG s' g' :=
  invG_of_other h hitv (fun y hy => .inl (hl ▸ hy)) (fun y hy => ho.symm ▸ hy) (fun _ _ hab => ho.symm ▸ hab)
    (fun _ _ _ _ _ r => hn.symm ▸ r)
    (fun _ _ _ _ _ => by rw [hn]) hit hb hsn hvpc ht

theorem GOk.dead (h : GOk s g t) (ho : s'.order = s.order) (hit : s'.it t = none) (hE : curNode (s'.pc t) = none)
    (hR : retOf (s'.pc t) = none) : GOk s' g t :=
  ⟨fun hu => absurd hit hu, fun hu => absurd hit hu, fun _ hp => (nomatch hE.symm.trans hp),
    fun _ hp => (nomatch hR.symm.trans hp), ho ▸ h.sorted, fun _ hc => (nomatch hit.symm.trans hc), ho ▸ h.seenOrd⟩

/-- the iterator of `t` moves one node along the chain (`++`, or the result of `erase`) -/
theorem GOk.advance (h : GOk s g t) (hond : s.order.Nodup) (c : Nat) (v : Option Nat)
    (hc : s.it t = some (some c)) (hv : v = (s.nodes c).next) (hfwd : ∀ x, v = some x → x ∈ Below s.order c)
    (hl : s'.lst = s.lst) (ho : s'.order = s.order) (hn : s'.nodes = s.nodes) (hit : s'.it t = some v)
    (hE : curNode (s'.pc t) = none) (hR : retOf (s'.pc t) = none) :
    GOk s' { g with seen := upd g.seen t (v.toList ++ g.seen t) } t := by
  have hhd := h.newest c hc
  refine ⟨?_, ?_, ?_, ?_, ?_, ?_, ?_⟩
  · intro _ y hy hyl
    simp only at hy ⊢
    rw [hl] at hyl; rw [hn, upd_same]
    rcases h.noskip (by rw [hc]; nofun) y hy hyl with f | ⟨c', f1, f2⟩
    · exact Or.inl (List.mem_append_right _ f)
    · have hcc : c' = c := by rw [hc] at f1; injection f1 with f1; injection f1 with f1; exact f1.symm
      subst hcc
      cases f2 with
      | refl => exact Or.inl (List.mem_append_right _ (mem_of_head? hhd))
      | step hx r =>
        rename_i x
        have : v = some x := by rw [hv]; exact hx
        subst this
        exact Or.inr ⟨x, hit, r⟩
  · intro _ y hy
    rw [ho]
    exact h.baseOrd (by rw [hc]; nofun) y hy
  · intro c' hp; rw [hE] at hp; cases hp
  · intro o hp; rw [hR] at hp; cases hp
  · simp only
    rw [ho, upd_same]
    cases v with
    | none => simpa using h.sorted
    | some x =>
      have hx := hfwd x rfl
      simp only [Option.toList, List.cons_append, List.nil_append]
      refine List.Pairwise.cons ?_ h.sorted
      intro b hb
      cases hs : g.seen t with
      | nil => rw [hs] at hb; cases hb
      | cons z zs =>
        rw [hs] at hhd hb
        simp at hhd; subst hhd
        rcases List.mem_cons.1 hb with e | e
        · subst e; exact hx
        · have hp := h.sorted
          rw [hs] at hp
          exact below_trans hond ((List.pairwise_cons.1 hp).1 b e) hx
  · intro c' hc'
    simp only
    rw [upd_same]
    rw [hit] at hc'; injection hc' with hc'; subst hc'
    simp
  · intro c' hc'
    simp only [upd_same] at hc'
    rw [ho]
    rcases List.mem_append.1 hc' with e | e
    · cases v with
      | none => simp at e
      | some x => simp at e; subst e; exact mem_of_mem_below (hfwd _ rfl)
    · exact h.seenOrd c' e

theorem mem_head_or_below {l : List Nat} {h y : Nat} (hh : l.head? = some h) (hy : y ∈ l) : y = h ∨ y ∈ Below l h := by
  cases l with
  | nil => cases hh
  | cons z zs =>
    simp at hh; subst hh
    rcases List.mem_cons.1 hy with e | e
    · exact Or.inl e
    · right; rw [below_cons_self]; exact e

theorem invG_step (hx : InvX s) (hf : InvF s) (h : InvG s g) (hs' : step s t e = some s') :
    InvG s' (ghUpd s g t e) := by
  have hs := step_sound hs'
  -- a node that is being linked is new: `order` stays free of duplicates
  have hod : s'.order.Nodup := (inv_step hx.i hs').c.ordNd
  have hitv : ∀ u c, s.it u = some (some c) → c ∈ s.order := hx.i.c.itv
  have hval : ∀ n ∈ s.order, ∀ x, (s.nodes n).next = some x → x ∈ s.order := hx.i.c.val
  have hnd : s.lst.Nodup := hx.i.c.lstNd
  have hond : s.order.Nodup := hx.i.c.ordNd
  have hnx0 : ∀ a ∈ s.lst, (s.nodes a).next = (Below s.lst a).head? := hx.i.c.nx
  have wr := hx.i.c.wr t
  simp only [cview_vpc] at wr
  have hvpc : ∀ u, u ≠ t → s'.pc u = s.pc u := fun u hut => hs.pc_other hut
  have hE : ∀ c, curNode (s'.pc t) = some c → s.it t = some (some c) :=
    fun c hp => (curNode_step hs hp).elim ((h t).eorig c) id
  have hR : ∀ o, retOf (s'.pc t) = some o → ∃ c, s.it t = some (some c) ∧ (o = some c ∨ o = (s.nodes c).next) := by
    intro o hp
    rcases retOf_step hs hp with r | ⟨c, r1, r2⟩
    · exact (h t).eret o r
    · exact ⟨c, (h t).eorig c r1, r2⟩
  -- only the mutex holder can be between computing `erase`'s result and returning it
  have hex : ∀ u, u ≠ t → retOf (s.pc u) ≠ none → holdsW (s.pc t) = true → False := by
    intro u hut hr ht
    have a := (hx.i.a.wm u).1 (retOf_holds hr)
    rw [(hx.i.a.wm t).1 ht] at a; injection a with a; exact hut a.symm
  have frame := fun hl ho hbel hnx hit => invG_frame_nx (s' := s') h hitv hval hl ho hbel hnx hit hvpc hE hR
  by_cases he : Edge s t e s'
  case neg =>
    have q := hs.quiet he
    rw [ghUpd_quiet hs he]
    exact frame (fun y hy => .inl (q.lst ▸ hy)) (fun y hy => q.order.symm ▸ hy) (fun _ _ hab => q.order.symm ▸ hab)
      (fun a _ => q.next a) q.it
  cases he
  case retLock w hpc | casRegOk k r o hpc ho | pushLock f em v hpc hm | eraseLock adv c hpc hm | pThrownMul k hpc hm |
      pUnlock k hpc hm =>
    unfold ghUpd; rw [hpc]
    exact frame (fun y hy => .inl hy) (fun y hy => hy) (fun _ _ hab => hab) (fun _ _ => rfl) rfl
  case relFresh hpc | uClear r o hpc =>
    unfold ghUpd; rw [hpc]
    exact invG_iter h hitv rfl rfl rfl (fun u hut => upd_other _ _ _ _ hut) (fun _ _ => rfl) (fun _ _ => rfl) hvpc
      ((h t).dead rfl (upd_same _ _ _) (by rw [setPc_pc_self]; rfl) (by rw [setPc_pc_self]; rfl))
  case pCon f em x n hpc =>
    unfold ghUpd; rw [hpc]
    rw [hpc] at wr; simp only [CView, WriterP, cview_order] at wr
    refine frame (fun y hy => .inl hy) (fun y hy => hy) (fun _ _ hab => hab) (fun a ha => ?_) rfl
    simp only [setPc_nodes, setNled_nodes]; rw [upd_other _ _ _ _ (fun (e : a = n) => wr.1 (e ▸ ha))]
  case pF1 k n h0 o hpc =>
    unfold ghUpd; rw [hpc]
    rw [hpc] at wr; simp only [CView, WriterP, FreshN, cview_order] at wr
    refine frame (fun y hy => .inl hy) (fun y hy => hy) (fun _ _ hab => hab) (fun a ha => ?_) rfl
    simp only [setPc_nodes, setNext_nodes]; rw [upd_other _ _ _ _ (fun (e : a = n) => wr.1.1 (e ▸ ha))]
  case pE1 k n o hpc | pF3 k n o hpc =>
    unfold ghUpd; rw [hpc]
    refine frame ?_ (fun y hy => List.mem_cons_of_mem _ hy) (below_mono_cons n s.order) (fun _ _ => rfl) rfl
    intro y hy
    rcases List.mem_cons.1 hy with e | e
    · exact .inr (e ▸ (List.nodup_cons.1 hod).1)
    · exact .inl e
  case pB2 k n h0 o hpc =>
    unfold ghUpd; rw [hpc]
    rw [hpc] at wr; simp only [CView, WriterP, FreshN, NextIs, cview_order, cview_lst, cview_nodes] at wr
    obtain ⟨_, ⟨g6, g7⟩, _⟩ := wr
    have hh0n : (s.nodes h0).next = none := by rw [hnx0 h0 g6]; exact g7
    refine invG_frame (t := t) h hitv ?_ (fun y hy => List.mem_append_left _ hy) (below_mono_append n s.order) ?_ rfl hvpc hE
      (by intro o hp; rw [setPc_pc_self] at hp; cases hp) (fun u hut hr => (hex u hut hr (by rw [hpc]; rfl)).elim)
    · intro y hy
      rcases List.mem_append.1 hy with e | e
      · exact Or.inl e
      · exact .inr fun hn => (List.nodup_append.1 hod).2.2 y hn y e rfl
    · intro c y _ _ _ r
      refine reach_mono r ?_
      intro a x hx
      simp only [setPc_nodes, setNext_nodes]
      by_cases e : a = h0
      · subst e; rw [hh0n] at hx; cases hx
      · rw [upd_other _ _ _ _ e]; exact hx
  case eUnlHead c orig x z o hpc =>
    unfold ghUpd; rw [hpc]
    exact frame (fun y hy => .inl (List.mem_of_mem_erase hy)) (fun y hy => hy) (fun _ _ hab => hab) (fun _ _ => rfl) rfl
  case eUnlPrev c orig pp x z o hpc =>
    unfold ghUpd; rw [hpc]
    rw [hpc] at wr; simp only [CView, WriterP, NextIs, cview_lst, cview_nodes] at wr
    obtain ⟨g1, _, _, ⟨g4, g4'⟩, g5⟩ := wr
    have hppc : pp ≠ c := fun e => not_mem_below_self hnd (e ▸ head_mem_below g4')
    have hpn : (s.nodes pp).next = some c := by rw [hnx0 pp g4]; exact g4'
    have hcx : (s.nodes c).next = x := by rw [hnx0 c g1, g5]
    have hnxf : (fun n => ((({ (s.setNext pp x) with lst := s.lst.erase c } : St).setPc t (.eFix c orig (some pp) x z)).nodes n).next) =
        fun a => if a = pp then (s.nodes c).next else (s.nodes a).next := by
      funext a
      simp only [setPc_nodes, setNext_nodes]
      by_cases e : a = pp
      · subst e; rw [upd_same]; simp [hcx]
      · rw [upd_other _ _ _ _ e]; simp [e]
    have hitc := (h t).eorig c (by rw [hpc]; rfl)
    refine invG_frame (t := t) h hitv (fun y hy => Or.inl (List.mem_of_mem_erase hy)) (fun y hy => hy) (fun _ _ hab => hab) ?_ rfl
      hvpc hE ?_
      (fun u hut hr => (hex u hut hr (by rw [hpc]; rfl)).elim)
    · intro c' y _ hyl _ r
      have hyc : y ≠ c := fun e => by subst e; exact (List.Nodup.mem_erase_iff hnd).1 hyl |>.1 rfl
      rw [hnxf]
      exact reach_skip r hpn hppc hyc
    · intro o' hp
      obtain ⟨c0, c01, c02⟩ := hR o' hp
      rw [hitc] at c01; injection c01 with c01; injection c01 with c01; subst c01
      refine ⟨c, hitc, ?_⟩
      simp only [setPc_nodes, setNext_nodes, upd_other _ _ _ _ (Ne.symm hppc)]
      exact c02
  case dFreN m nx hpc =>
    unfold ghUpd; rw [hpc]
    cases nx <;> exact frame (fun y hy => .inl (List.mem_of_mem_erase hy)) (fun y hy => hy) (fun _ _ hab => hab) (fun _ _ => rfl) rfl
  case nxt n o hpc hi' =>
    unfold ghUpd; rw [hpc]
    exact invG_iter h hitv rfl rfl rfl (fun u hut => upd_other _ _ _ _ hut) (fun _ _ => rfl)
      (fun u hut => upd_other _ _ _ _ hut) hvpc
      ((h t).advance hond n _ hi' rfl (hf.fwd n (hitv t n hi')) rfl rfl rfl (upd_same _ _ _) (by rw [setPc_pc_self]; rfl)
        (by rw [setPc_pc_self]; rfl))
  case eUnlock orig hpc hm =>
    unfold ghUpd; rw [hpc]
    change InvG _ (if s.it t = some orig then g else _)
    obtain ⟨c, c1, c2⟩ := (h t).eret orig (by rw [hpc]; rfl)
    by_cases hsame : s.it t = some orig
    · rw [if_pos hsame]
      exact frame (fun y hy => .inl hy) (fun y hy => hy) (fun _ _ hab => hab) (fun _ _ => rfl) (upd_it_self hsame)
    · rw [if_neg hsame]
      have c2 : orig = (s.nodes c).next := c2.resolve_left fun e => hsame (by rw [c1, e])
      exact invG_iter h hitv rfl rfl rfl (fun u hut => upd_other _ _ _ _ hut) (fun _ _ => rfl)
        (fun u hut => upd_other _ _ _ _ hut) hvpc
        ((h t).advance hond c _ c1 c2 (fun x hx' => hf.fwd c (hitv t c c1) x (c2 ▸ hx')) rfl rfl rfl (upd_same _ _ _)
          (by rw [setPc_pc_self]; rfl) (by rw [setPc_pc_self]; rfl))
  case beg w r o hpc hh =>
    unfold ghUpd; rw [hpc]
    have hdt := hx.i.a.dt_false (t := t) (by rw [hh]; nofun)
    have hhd : s.head = s.lst.head? := hx.i.c.hd hdt
    refine invG_iter h hitv rfl rfl rfl (fun u hut => upd_other _ _ _ _ hut) (fun u hut => upd_other _ _ _ _ hut)
      (fun u hut => upd_other _ _ _ _ hut) hvpc ⟨?_, ?_, ?_, ?_, ?_, ?_, ?_⟩
    · intro _ y hy hyl
      simp only [setPc_it, setPc_lst, setPc_nodes, upd_same] at hy hyl ⊢
      cases hh0 : s.head with
      | none => rw [hh0] at hhd; rw [head?_eq_none hhd.symm] at hyl; cases hyl
      | some h0 =>
        rw [hh0] at hhd
        rcases mem_head_or_below hhd.symm hyl with e | e
        · left; subst e; simp
        · exact .inr ⟨h0, rfl, reach_of_below hnd hnx0 _ h0 y rfl (mem_of_head? hhd.symm) e⟩
    · intro _ y hy
      simp only [upd_same] at hy
      exact hx.i.c.sub y hy
    · intro c hp; rw [setPc_pc_self] at hp; cases hp
    · intro o' hp; rw [setPc_pc_self] at hp; cases hp
    · simp only [upd_same]; cases s.head <;> simp
    · intro c hc
      simp only [setPc_it, upd_same] at hc ⊢
      injection hc with hc; rw [hc]; simp
    · intro c hc
      simp only [upd_same] at hc
      cases hh0 : s.head with
      | none => rw [hh0] at hc; simp at hc
      | some h0 =>
        rw [hh0] at hc hhd; simp at hc; subst hc
        exact hx.i.c.sub c (mem_of_head? hhd.symm)

end

structure InvT (sg : St × Gh) : Prop where
  x : InvX sg.1
  f : InvF sg.1
  g : InvG sg.1 sg.2

theorem invT_reachable {sg : St × Gh} (h : ReachableH sg) : InvT sg := by
  obtain ⟨es, hes⟩ := h
  exact ghost_inv (Inv := InvT)
    (fun s g t e s' hi h1 => ⟨invX_step hi.x h1, invF_step hi.x.i hi.f (step_sound h1), invG_step hi.x hi.f hi.g h1⟩)
    ⟨invX_init, invF_init, invG_init⟩ hes

theorem invF_reachable {s : St} (h : Reachable s) : InvF s := by
  obtain ⟨g, hg⟩ := reachableH_of h
  exact (invT_reachable hg).f

/-- the chain of `next` pointers only leads forward in `order` -/
theorem reach_below {s : St} (hf : InvF s) (hond : s.order.Nodup) {c y : Nat} (hc : c ∈ s.order)
    (h : Reach (fun n => (s.nodes n).next) c y) : y = c ∨ y ∈ Below s.order c := by
  revert hc
  induction h with
  | refl c => intro _; exact Or.inl rfl
  | @step a b y' hn _ ih =>
    intro hc
    have hb : b ∈ Below s.order a := hf.fwd a hc b hn
    rcases ih (mem_of_mem_below hb) with e | e
    · right; rw [e]; exact hb
    · right; exact below_trans hond hb e

end ConcVerif.Rcu
