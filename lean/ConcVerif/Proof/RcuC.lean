import ConcVerif.Proof.RcuB
/-! Layer C of the rcu_list invariant: the doubly linked list (DESIGN §7.4 N1).

`lst` = the linked nodes in list order, `order` = every node ever linked, in list order.  The `next` links
are exact at all times; `head`, `back`, `tail` and the `deleted` flags are exact until the destructor starts
(`dt = false`), the last three except inside the critical section of the writer that is just changing them (the
exceptions name the writer's pc). -/
namespace ConcVerif.Rcu

/-- pcs relevant to the list structure (the record name `z`, which the list does not see, is set to `0`) -/
def CView : Pc → Pc
  | .pCons k n => .pCons k n
  | .pLoad k n => .pLoad k n
  | .pE1 k n => .pE1 k n
  | .pE2 k n => .pE2 k n
  | .pF1 k n h => .pF1 k n h
  | .pF2 k n h => .pF2 k n h
  | .pF3 k n => .pF3 k n
  | .pB1 k n h => .pB1 k n h
  | .pB2 k n h => .pB2 k n h
  | .pB3 k n => .pB3 k n
  | .eOrig c a => .eOrig c a
  | .eDel c o => .eDel c o
  | .eMark c o _ => .eMark c o 0
  | .eBack c o _ => .eBack c o 0
  | .eNext c o p _ => .eNext c o p 0
  | .eUnl c o p x _ => .eUnl c o p x 0
  | .eFix c o p x _ => .eFix c o p x 0
  | .eAlloc c o => .eAlloc c o
  | .eCons c o _ => .eAlloc c o
  | .eZh o _ => .eUnlock o
  | .pushStore (.erase o) _ _ => .eUnlock o
  | .pushCas (.erase o) _ _ => .eUnlock o
  | .eUnlock o => .eUnlock o
  | .called .dtor => .called .dtor
  | .dNext m => .dNext m
  | .dDesN m nx => .dDesN m nx
  | .dFreN m nx => .dDesN m nx
  | .dZhead => .dZhead
  | .dOwner _ => .dZhead
  | .dRNext _ => .dZhead
  | .dZn .. => .dZhead
  | .dDesZN .. => .dZhead
  | .dFreZN .. => .dZhead
  | .dDesZ .. => .dZhead
  | .dFreZ .. => .dZhead
  | .retp .dtor => .dZhead
  | _ => .idle

structure CSt where
  nodes : Nat → Node
  nN : Nat
  head : Option Nat
  tail : Option Nat
  lst : List Nat
  order : List Nat
  dt : Bool
  it : Tid → Option (Option Nat)
  vpc : Tid → Pc

def St.cview (s : St) : CSt :=
  { nodes := s.nodes, nN := s.nN, head := s.head, tail := s.tail, lst := s.lst, order := s.order, dt := s.dt, it := s.it,
    vpc := fun u => CView (s.pc u) }

/-- `p` is the element directly in front of `x` (`none` = `x` is the first / `p` is the last) -/
def NextIs (l : List Nat) (p x : Option Nat) : Prop :=
  match p with
  | some a => a ∈ l ∧ (Below l a).head? = x
  | none => l.head? = x

/-- the node whose `deleted` flag is set while it is still linked -/
def marking : Pc → Option Nat
  | .eBack c _ _ | .eNext c _ _ _ | .eUnl c _ _ _ _ => some c
  | _ => none

def OrigOk (c : CSt) (o : Option Nat) : Prop := ∀ x, o = some x → x ∈ c.order

def FreshN (c : CSt) (n : Nat) (nx bk : Option Nat) : Prop :=
  n ∉ c.order ∧ n < c.nN ∧ (c.nodes n).next = nx ∧ (c.nodes n).back = bk ∧ (c.nodes n).deleted = false

/-- what the writer (and the destructor) knows at each pc -/
def WriterP (c : CSt) : Pc → Prop
  | .pCons _ n => n ∉ c.order ∧ n < c.nN
  | .pLoad _ n => FreshN c n none none
  | .pE1 _ n => FreshN c n none none ∧ c.lst = [] ∧ c.tail = none
  | .pE2 _ n => c.lst = [n] ∧ c.tail = none
  | .pF1 _ n h => FreshN c n none none ∧ c.lst.head? = some h
  | .pF2 _ n h => FreshN c n (some h) none ∧ c.lst.head? = some h
  | .pF3 _ n => ∃ h, FreshN c n (some h) none ∧ c.lst.head? = some h ∧ (c.nodes h).back = some n
  | .pB1 _ n h => FreshN c n none none ∧ NextIs c.lst (some h) none ∧ c.tail = some h
  | .pB2 _ n h => FreshN c n none (some h) ∧ NextIs c.lst (some h) none ∧ c.tail = some h
  | .pB3 _ n => ∃ h, c.tail = some h ∧ h ∈ c.lst ∧ Below c.lst h = [n]
  | .eOrig x _ => x ∈ c.order
  | .eDel x o => x ∈ c.order ∧ OrigOk c o
  | .eAlloc x o => x ∈ c.lst ∧ (c.nodes x).deleted = false ∧ OrigOk c o
  | .eMark x o _ => x ∈ c.lst ∧ (c.nodes x).deleted = false ∧ OrigOk c o
  | .eBack x o _ => x ∈ c.lst ∧ (c.nodes x).deleted = true ∧ OrigOk c o
  | .eNext x o p _ => x ∈ c.lst ∧ (c.nodes x).deleted = true ∧ OrigOk c o ∧ NextIs c.lst p (some x)
  | .eUnl x o p q _ =>
      x ∈ c.lst ∧ (c.nodes x).deleted = true ∧ OrigOk c o ∧ NextIs c.lst p (some x) ∧ q = (Below c.lst x).head?
  | .eFix x o p q _ =>
      x ∉ c.lst ∧ x ∈ c.order ∧ (c.nodes x).deleted = true ∧ OrigOk c o ∧ NextIs c.lst p q ∧
        (∀ b, q = some b → (c.nodes b).back = some x) ∧ (q = none → c.tail = some x)
  | .eUnlock o => OrigOk c o
  | .called .dtor => c.head = c.lst.head?
  | .dNext m => c.lst.head? = some m
  | .dDesN m nx => c.lst.head? = some m ∧ nx = (Below c.lst m).head?
  | .dZhead => c.lst = []
  | _ => True

/-- `back` of a linked node is its predecessor, except for the two windows inside push_front / erase -/
def BackOk (c : CSt) (b : Nat) : Prop :=
  NextIs c.lst (c.nodes b).back (some b) ∨
    (∃ t k n, c.vpc t = .pF3 k n ∧ c.lst.head? = some b) ∨
    (∃ t x o p, c.vpc t = .eFix x o p (some b) 0)

def TailOk (c : CSt) : Prop :=
  NextIs c.lst c.tail none ∨ (∃ t k n, c.vpc t = .pE2 k n) ∨ (∃ t k n, c.vpc t = .pB3 k n) ∨
    (∃ t x o p, c.vpc t = .eFix x o p none 0)

structure InvCv (c : CSt) : Prop where
  lstNd : c.lst.Nodup
  ordNd : c.order.Nodup
  sub : ∀ n ∈ c.lst, n ∈ c.order
  ordLt : ∀ n ∈ c.order, n < c.nN
  hd : c.dt = false → c.head = c.lst.head?
  nx : ∀ a ∈ c.lst, (c.nodes a).next = (Below c.lst a).head?
  bk : c.dt = false → ∀ b ∈ c.lst, BackOk c b
  tl : c.dt = false → TailOk c
  del : c.dt = false → ∀ x ∈ c.order, (x ∈ c.lst ↔ (c.nodes x).deleted = false) ∨ ∃ t, marking (c.vpc t) = some x
  val : ∀ n ∈ c.order, ∀ x, (c.nodes n).next = some x → x ∈ c.order
  itv : ∀ t x, c.it t = some (some x) → x ∈ c.order
  wr : ∀ t, WriterP c (c.vpc t)

def InvC (s : St) : Prop := InvCv s.cview

theorem invC_init : InvC init :=
  ⟨List.nodup_nil, List.nodup_nil, nofun, nofun, fun _ => rfl, nofun, fun _ => nofun, fun _ => Or.inl rfl, fun _ => nofun,
    nofun, nofun, fun _ => trivial⟩

theorem invC_of_view {s s' : St} (h : InvC s) (hv : s'.cview = s.cview) : InvC s' := by
  unfold InvC; rw [hv]; exact h

@[simp] theorem cview_nodes (s : St) : s.cview.nodes = s.nodes := rfl
@[simp] theorem cview_nN (s : St) : s.cview.nN = s.nN := rfl
@[simp] theorem cview_head (s : St) : s.cview.head = s.head := rfl
@[simp] theorem cview_tail (s : St) : s.cview.tail = s.tail := rfl
@[simp] theorem cview_lst (s : St) : s.cview.lst = s.lst := rfl
@[simp] theorem cview_order (s : St) : s.cview.order = s.order := rfl
@[simp] theorem cview_dt (s : St) : s.cview.dt = s.dt := rfl
@[simp] theorem cview_it (s : St) : s.cview.it = s.it := rfl
@[simp] theorem cview_vpc (s : St) (u : Tid) : s.cview.vpc u = CView (s.pc u) := rfl

theorem upd_proj_fun {α β : Type} (f : Tid → α) (g : α → β) (t : Tid) (a : α) (h : g a = g (f t)) :
    (fun x => g (upd f t a x)) = fun x => g (f x) :=
  funext (upd_proj g f t a h)

/-- the exceptions of `BackOk` / `TailOk` that a given view is responsible for -/
def BackExcV (c : CSt) (v : Pc) (b : Nat) : Prop :=
  (∃ k n, v = .pF3 k n ∧ c.lst.head? = some b) ∨ (∃ x o p, v = .eFix x o p (some b) 0)

def TailExcV (v : Pc) : Prop :=
  (∃ k n, v = .pE2 k n) ∨ (∃ k n, v = .pB3 k n) ∨ (∃ x o p, v = .eFix x o p none 0)

theorem backOk_iff (c : CSt) (b : Nat) :
    BackOk c b ↔ NextIs c.lst (c.nodes b).back (some b) ∨ ∃ t, BackExcV c (c.vpc t) b := by
  unfold BackOk BackExcV
  constructor
  · rintro (h | ⟨t, k, n, h1, h2⟩ | ⟨t, x, o, p, h1⟩)
    · exact Or.inl h
    · exact Or.inr ⟨t, Or.inl ⟨k, n, h1, h2⟩⟩
    · exact Or.inr ⟨t, Or.inr ⟨x, o, p, h1⟩⟩
  · rintro (h | ⟨t, ⟨k, n, h1, h2⟩ | ⟨x, o, p, h1⟩⟩)
    · exact Or.inl h
    · exact Or.inr (Or.inl ⟨t, k, n, h1, h2⟩)
    · exact Or.inr (Or.inr ⟨t, x, o, p, h1⟩)

theorem tailOk_iff (c : CSt) : TailOk c ↔ NextIs c.lst c.tail none ∨ ∃ t, TailExcV (c.vpc t) := by
  unfold TailOk TailExcV
  constructor
  · rintro (h | ⟨t, k, n, h1⟩ | ⟨t, k, n, h1⟩ | ⟨t, x, o, p, h1⟩)
    · exact Or.inl h
    · exact Or.inr ⟨t, Or.inl ⟨k, n, h1⟩⟩
    · exact Or.inr ⟨t, Or.inr (Or.inl ⟨k, n, h1⟩)⟩
    · exact Or.inr ⟨t, Or.inr (Or.inr ⟨x, o, p, h1⟩)⟩
  · rintro (h | ⟨t, ⟨k, n, h1⟩ | ⟨k, n, h1⟩ | ⟨x, o, p, h1⟩⟩)
    · exact Or.inl h
    · exact Or.inr (Or.inl ⟨t, k, n, h1⟩)
    · exact Or.inr (Or.inr (Or.inl ⟨t, k, n, h1⟩))
    · exact Or.inr (Or.inr (Or.inr ⟨t, x, o, p, h1⟩))

/-- master lemma for steps that only move the pc of `t` (the C-state is unchanged) -/
theorem invC_pc {s : St} {t : Tid} (h : InvC s) (p' : Pc)
    (hbk : s.dt = false → ∀ b ∈ s.lst, BackExcV s.cview (CView (s.pc t)) b →
      BackExcV s.cview (CView p') b ∨ NextIs s.lst (s.nodes b).back (some b))
    (htl : s.dt = false → TailExcV (CView (s.pc t)) → TailExcV (CView p') ∨ NextIs s.lst s.tail none)
    (hdel : s.dt = false → ∀ x, marking (CView (s.pc t)) = some x →
      marking (CView p') = some x ∨ (x ∈ s.lst ↔ (s.nodes x).deleted = false))
    (hwr : WriterP s.cview (CView p')) : InvC (s.setPc t p') := by
  have vpc : ∀ u, (s.setPc t p').cview.vpc u = CView (upd s.pc t p' u) := fun _ => rfl
  refine ⟨h.lstNd, h.ordNd, h.sub, h.ordLt, h.hd, h.nx, ?_, ?_, ?_, h.val, h.itv, ?_⟩
  · intro hd b hb
    rw [backOk_iff]
    rcases (backOk_iff _ _).1 (h.bk hd b hb) with h1 | ⟨u, hu⟩
    · exact Or.inl h1
    · by_cases hut : u = t
      · subst hut
        rcases hbk hd b hb hu with h2 | h2
        · exact Or.inr ⟨u, by rw [vpc, upd_same]; exact h2⟩
        · exact Or.inl h2
      · exact Or.inr ⟨u, by rw [vpc, upd_other _ _ _ _ hut]; exact hu⟩
  · intro hd
    rw [tailOk_iff]
    rcases (tailOk_iff _).1 (h.tl hd) with h1 | ⟨u, hu⟩
    · exact Or.inl h1
    · by_cases hut : u = t
      · subst hut
        rcases htl hd hu with h2 | h2
        · exact Or.inr ⟨u, by rw [vpc, upd_same]; exact h2⟩
        · exact Or.inl h2
      · exact Or.inr ⟨u, by rw [vpc, upd_other _ _ _ _ hut]; exact hu⟩
  · intro hd x hx
    rcases h.del hd x hx with h1 | ⟨u, hu⟩
    · exact Or.inl h1
    · by_cases hut : u = t
      · subst hut
        rcases hdel hd x hu with h2 | h2
        · exact Or.inr ⟨u, by rw [vpc, upd_same]; exact h2⟩
        · exact Or.inl h2
      · exact Or.inr ⟨u, by rw [vpc, upd_other _ _ _ _ hut]; exact hu⟩
  · intro u
    rw [vpc]
    by_cases hut : u = t
    · rw [hut, upd_same]; exact hwr
    · rw [upd_other _ _ _ _ hut]; exact h.wr u

/-- views at which no exception of `BackOk` or `TailOk` is pending -/
def quietC : Pc → Prop
  | .pF3 .. | .eFix .. | .pE2 .. | .pB3 .. => False
  | _ => True

theorem quietC_back {c : CSt} {v : Pc} {b : Nat} (hb : BackExcV c v b) (hq : quietC v) : False := by
  rcases hb with ⟨_, _, rfl, _⟩ | ⟨_, _, _, rfl⟩ <;> exact hq

theorem quietC_tail {v : Pc} (hb : TailExcV v) (hq : quietC v) : False := by
  rcases hb with ⟨_, _, rfl⟩ | ⟨_, _, rfl⟩ | ⟨_, _, _, rfl⟩ <;> exact hq

theorem invC_wr {s : St} {t : Tid} {p : Pc} (h : InvC s) (hpc : s.pc t = p) : WriterP s.cview (CView p) := by
  subst hpc; exact h.wr t

theorem cview_setPc_congr {s d : St} (hd : d.cview = s.cview) (t : Tid) (p' : Pc) :
    (d.setPc t p').cview = (s.setPc t p').cview := by
  have hv : (fun u => CView (upd d.pc t p' u)) = fun u => CView (upd s.pc t p' u) := by
    funext u
    by_cases hu : u = t
    · rw [hu, upd_same, upd_same]
    · rw [upd_other _ _ _ _ hu, upd_other _ _ _ _ hu]; exact congrFun (congrArg CSt.vpc hd) u
  unfold St.cview at hd ⊢
  injection hd with h1 h2 h3 h4 h5 h6 h7 h8
  simp only [setPc_nodes, setPc_nN, setPc_head, setPc_tail, setPc_lst, setPc_order, setPc_dt, setPc_it, setPc_pc,
    h1, h2, h3, h4, h5, h6, h7, h8, hv]

theorem invC_move {s d : St} {t : Tid} {p p' : Pc} (h : InvC s) (hd : d.cview = s.cview) (hpc : s.pc t = p)
    (hp : CView p' = CView p) : InvC (d.setPc t p') := by
  subst hpc
  exact invC_of_view (invC_pc h p' (fun _ _ _ hb => Or.inl (hp ▸ hb)) (fun _ hb => Or.inl (hp ▸ hb))
    (fun _ _ hx => Or.inl (hp ▸ hx)) (hp ▸ invC_wr h rfl)) (cview_setPc_congr hd t p')

theorem invC_quiet {s d : St} {t : Tid} {p p' : Pc} (h : InvC s) (hd : d.cview = s.cview) (hpc : s.pc t = p)
    (hq : quietC (CView p)) (hm : ∀ x, marking (CView p) = some x → marking (CView p') = some x)
    (hwr : WriterP s.cview (CView p')) : InvC (d.setPc t p') := by
  subst hpc
  exact invC_of_view (invC_pc h p' (fun _ _ _ hb => (quietC_back hb hq).elim) (fun _ hb => (quietC_tail hb hq).elim)
    (fun _ x hx => Or.inl (hm x hx)) hwr) (cview_setPc_congr hd t p')

def isIdleV : Pc → Bool
  | .idle => true
  | _ => false

theorem isIdleV_iff {p : Pc} : isIdleV p = true ↔ p = .idle := by
  refine ⟨fun h => ?_, fun e => e ▸ rfl⟩
  cases p with
  | idle => rfl
  | _ => cases h

theorem isIdleV_false {p : Pc} (h : p ≠ .idle) : isIdleV p = false :=
  Bool.eq_false_iff.2 fun e => h (isIdleV_iff.1 e)

/-- a pc with a view belongs to the mutex holder or to the destructor (the two classifications and the view, compared
constructor by constructor) -/
theorem cview_cls (p : Pc) : (isIdleV (CView p) || holdsW p || inDtor p) = true := by
  cases p with
  | called k => cases k <;> rfl
  | retp k => cases k <;> rfl
  | pushStore c r e => cases c <;> rfl
  | pushCas c r e => cases c <;> rfl
  | _ => rfl

theorem cview_nonidle {p : Pc} (h : CView p ≠ .idle) : holdsW p = true ∨ inDtor p = true := by
  have k := cview_cls p
  rw [isIdleV_false h] at k
  cases hw : holdsW p with
  | true => exact Or.inl rfl
  | false => rw [hw] at k; exact Or.inr k

theorem dt_false_of_hnd {s : St} (ha : InvA s) {t : Tid} (hne : s.hnd t ≠ .none) : s.dt = false :=
  ha.dt_false hne

/-- while a writer holds the mutex every other thread is outside the list structure -/
theorem others_cidle {s : St} {t : Tid} {p : Pc} (ha : InvA s) (hpc : s.pc t = p) (hw : holdsW p = true) :
    s.dt = false ∧ ∀ u, u ≠ t → CView (s.pc u) = .idle := by
  subst hpc
  obtain ⟨r, hr⟩ := ha.wrW t hw
  have hdt := dt_false_of_hnd ha (t := t) (by rw [hr]; simp)
  refine ⟨hdt, ?_⟩
  intro u hut
  apply Classical.byContradiction
  intro hc
  rcases cview_nonidle hc with h1 | h1
  · have a := (ha.wm u).1 h1
    have b := (ha.wm t).1 hw
    rw [a] at b; injection b with b; exact hut b
  · have := ha.dtd u h1; rw [hdt] at this; cases this

/-- building layer C for the state after a writer step to `p'`: every other thread has an idle view -/
theorem invC_writer_mk {s' : St} {t : Tid} {p' : Pc} (hoth : ∀ u, u ≠ t → CView (s'.pc u) = .idle) (hp' : s'.pc t = p')
    (lstNd : s'.lst.Nodup) (ordNd : s'.order.Nodup) (sub : ∀ n ∈ s'.lst, n ∈ s'.order) (ordLt : ∀ n ∈ s'.order, n < s'.nN)
    (hd : s'.head = s'.lst.head?) (nx : ∀ a ∈ s'.lst, (s'.nodes a).next = (Below s'.lst a).head?)
    (bk : ∀ b ∈ s'.lst, NextIs s'.lst (s'.nodes b).back (some b) ∨ BackExcV s'.cview (CView p') b)
    (tl : NextIs s'.lst s'.tail none ∨ TailExcV (CView p'))
    (del : ∀ x ∈ s'.order, (x ∈ s'.lst ↔ (s'.nodes x).deleted = false) ∨ marking (CView p') = some x)
    (val : ∀ n ∈ s'.order, ∀ x, (s'.nodes n).next = some x → x ∈ s'.order)
    (itv : ∀ u x, s'.it u = some (some x) → x ∈ s'.order)
    (wr : WriterP s'.cview (CView p')) : InvC s' := by
  subst hp'
  refine ⟨lstNd, ordNd, sub, ordLt, fun _ => hd, nx, ?_, ?_, ?_, val, itv, ?_⟩
  · intro _ b hb
    rw [backOk_iff]
    exact (bk b hb).imp_right fun h => ⟨t, h⟩
  · intro _
    rw [tailOk_iff]
    exact tl.imp_right fun h => ⟨t, h⟩
  · intro _ x hx
    exact (del x hx).imp_right fun h => ⟨t, h⟩
  · intro u
    by_cases hut : u = t
    · subst hut; exact wr
    · simp only [cview_vpc]; rw [hoth u hut]; trivial

/-- the facts of layer C as seen by the writer `t`: no exception is pending except its own -/
theorem invC_writer_facts {s : St} {t : Tid} {p : Pc} (ha : InvA s) (h : InvC s) (hpc : s.pc t = p)
    (hw : holdsW p = true) :
    (∀ u, u ≠ t → CView (s.pc u) = .idle) ∧ s.head = s.lst.head? ∧
    (∀ b ∈ s.lst, NextIs s.lst (s.nodes b).back (some b) ∨ BackExcV s.cview (CView p) b) ∧
    (NextIs s.lst s.tail none ∨ TailExcV (CView p)) ∧
    (∀ x ∈ s.order, (x ∈ s.lst ↔ (s.nodes x).deleted = false) ∨ marking (CView p) = some x) := by
  subst hpc
  obtain ⟨hdt, hoth⟩ := others_cidle ha rfl hw
  refine ⟨hoth, h.hd hdt, ?_, ?_, ?_⟩
  · intro b hb
    rcases (backOk_iff _ _).1 (h.bk hdt b hb) with h1 | ⟨u, hu⟩
    · exact Or.inl h1
    · by_cases hut : u = t
      · subst hut; exact Or.inr hu
      · simp only [cview_vpc] at hu; rw [hoth u hut] at hu
        rcases hu with ⟨_, _, hc, _⟩ | ⟨_, _, _, hc⟩ <;> cases hc
  · rcases (tailOk_iff _).1 (h.tl hdt) with h1 | ⟨u, hu⟩
    · exact Or.inl h1
    · by_cases hut : u = t
      · subst hut; exact Or.inr hu
      · simp only [cview_vpc] at hu; rw [hoth u hut] at hu
        rcases hu with ⟨_, _, hc⟩ | ⟨_, _, hc⟩ | ⟨_, _, _, hc⟩ <;> cases hc
  · intro x hx
    rcases h.del hdt x hx with h1 | ⟨u, hu⟩
    · exact Or.inl h1
    · by_cases hut : u = t
      · subst hut; exact Or.inr hu
      · simp only [cview_vpc] at hu; rw [hoth u hut] at hu; simp [marking] at hu

/-- in the destructor phase every other thread is outside the list structure -/
theorem others_cidle_dt {s : St} {t : Tid} (ha : InvA s) (hdt : s.dt = true) (hd : inDtor (s.pc t) = true) :
    ∀ u, u ≠ t → CView (s.pc u) = .idle := by
  intro u hut
  apply Classical.byContradiction
  intro hc
  rcases cview_nonidle hc with h1 | h1
  · obtain ⟨r, hr⟩ := ha.wrW u h1
    have := no_hnd_in_dt ha hdt u
    rw [hr] at this; cases this
  · exact hut (ha.dtu u t h1 hd)

theorem head?_append_singleton {l : List Nat} {n : Nat} (h : l ≠ []) : (l ++ [n]).head? = l.head? := by
  cases l with
  | nil => exact absurd rfl h
  | cons z zs => rfl

theorem mem_of_head? {l : List Nat} {h : Nat} (e : l.head? = some h) : h ∈ l := by
  cases l with
  | nil => cases e
  | cons z zs => simp at e; subst e; simp

theorem nextIs_none_iff {l : List Nat} {a : Nat} : (Below l a).head? = none ↔ Below l a = [] := by
  constructor
  · exact head?_eq_none
  · intro h; rw [h]; rfl

theorem last_unique {l : List Nat} {a b : Nat} (ha : a ∈ l) (hb : b ∈ l) (ha' : Below l a = [])
    (hb' : Below l b = []) : a = b := by
  apply Classical.byContradiction
  intro hne
  rcases below_total ha hb hne with h | h
  · rw [hb'] at h; simp at h
  · rw [ha'] at h; simp at h

/-- the last element lies behind every other one -/
theorem below_ne_nil_of_ne_last {l : List Nat} {a h : Nat} (ha : a ∈ l) (hh : h ∈ l) (hl : Below l h = []) (hne : a ≠ h) :
    h ∈ Below l a := by
  rcases below_total ha hh hne with e | e
  · rw [hl] at e; simp at e
  · exact e

theorem hoth_setPc {s : St} {t : Tid} {p' : Pc} (hoth : ∀ u, u ≠ t → CView (s.pc u) = .idle) :
    ∀ u, u ≠ t → CView ((s.setPc t p').pc u) = .idle := by
  intro u hut; simp only [setPc_pc, upd_other _ _ _ _ hut]; exact hoth u hut

/-- `pE2` / `pB3`: the new node becomes the tail -/
theorem invC_setTail {s : St} {t : Tid} {p : Pc} (ha : InvA s) (h : InvC s) {k : Op} {n : Nat} (hpc : s.pc t = p)
    (hp : p = .pE2 k n ∨ p = .pB3 k n) :
    InvC ({ s with tail := some n }.setPc t (.pUnlock k)) := by
  have hw : holdsW p = true := by rcases hp with rfl | rfl <;> rfl
  obtain ⟨hoth, fhd, fbk, ftl, fdel⟩ := invC_writer_facts ha h hpc hw
  have hwr := invC_wr h hpc
  have hlast : n ∈ s.lst ∧ Below s.lst n = [] := by
    rcases hp with rfl | rfl
    · simp only [CView, WriterP, cview_lst] at hwr
      rw [hwr.1]; simp
    · simp only [CView, WriterP, cview_lst, cview_tail] at hwr
      obtain ⟨h0, _, g2, g3⟩ := hwr
      have hh : (Below s.lst h0).head? = some n := by rw [g3]; rfl
      refine ⟨mem_of_mem_below (head_mem_below hh), ?_⟩
      have hnd : s.lst.Nodup := h.lstNd
      rw [below_of_head hnd hh, g3]; rfl
  refine invC_writer_mk (t := t) (p' := .pUnlock k) (hoth_setPc hoth) (upd_same ..) h.lstNd h.ordNd h.sub h.ordLt fhd h.nx
    (fun b hb => (fbk b hb).imp_right fun f => ?_) (Or.inl ⟨hlast.1, congrArg List.head? hlast.2⟩)
    (fun x hx => (fdel x hx).imp_right fun f => ?_) h.val h.itv trivial
  · rcases hp with rfl | rfl <;> rcases f with ⟨_, _, hc, _⟩ | ⟨_, _, _, hc⟩ <;> cases hc
  · rcases hp with rfl | rfl <;> cases f

/-- `pCon` / `pF1` / `pB1`: the writer changes its private, not yet linked node -/
theorem invC_privNode {s d : St} {t : Tid} {p p' : Pc} {nodes' : Nat → Node} (ha : InvA s) (h : InvC s)
    (hd : d.cview = { s with nodes := nodes' }.cview) (hpc : s.pc t = p) (hw : holdsW p = true) (hq : quietC (CView p))
    (hm : marking (CView p) = none) (n : Nat) (hn : n ∉ s.order) (hnodes : ∀ x, x ≠ n → nodes' x = s.nodes x)
    (hwr : ∀ c' : CSt, c'.nodes = nodes' → c'.lst = s.lst → c'.order = s.order → c'.tail = s.tail → c'.nN = s.nN →
      WriterP c' (CView p')) :
    InvC (d.setPc t p') := by
  subst hpc
  refine invC_of_view ?_ (cview_setPc_congr hd t p')
  obtain ⟨hoth, fhd, fbk, ftl, fdel⟩ := invC_writer_facts ha h rfl hw
  have hl : ∀ x ∈ s.lst, nodes' x = s.nodes x := fun x hx => hnodes x (fun e => hn (e ▸ h.sub x hx))
  have ho : ∀ x ∈ s.order, nodes' x = s.nodes x := fun x hx => hnodes x (fun e => hn (e ▸ hx))
  refine invC_writer_mk (t := t) (hoth_setPc hoth) (upd_same ..) h.lstNd h.ordNd h.sub h.ordLt fhd ?_ ?_ ?_ ?_ ?_ h.itv
    (hwr _ rfl rfl rfl rfl rfl)
  all_goals simp only [setPc_nodes, setPc_tail, setPc_lst, setPc_order]
  · intro a ha'; rw [hl a ha']; exact h.nx a ha'
  · intro b hb
    rw [hl b hb]
    exact (fbk b hb).imp_right fun f => (quietC_back f hq).elim
  · exact ftl.imp_right fun f => (quietC_tail f hq).elim
  · intro x hx
    rw [ho x hx, hm] at *
    exact (fdel x hx).imp_right nofun
  · intro a ha' x hx; rw [ho a ha'] at hx; exact h.val a ha' x hx

/-- `pF2`: `oldHead->back.store(n)` -/
theorem invC_pF2 {s : St} {t : Tid} (ha : InvA s) (h : InvC s) {k : Op} {n h0 : Nat} (hpc : s.pc t = .pF2 k n h0) :
    InvC ((s.setBack h0 (some n)).setPc t (.pF3 k n)) := by
  obtain ⟨hoth, fhd, fbk, ftl, fdel⟩ := invC_writer_facts ha h hpc rfl
  obtain ⟨⟨g1, g2, g3, g4, g5⟩, g6⟩ : FreshN s.cview n (some h0) none ∧ s.lst.head? = some h0 := invC_wr h hpc
  have hne : n ≠ h0 := fun e => g1 (e ▸ h.sub h0 (mem_of_head? g6))
  let N : Node := { s.nodes h0 with back := some n }
  have hnx := congrFun (upd_proj_fun s.nodes Node.next h0 N rfl)
  have hdl := congrFun (upd_proj_fun s.nodes Node.deleted h0 N rfl)
  have hn : upd s.nodes h0 N n = s.nodes n := upd_other _ _ _ _ hne
  refine invC_writer_mk (t := t) (p' := .pF3 k n) (hoth_setPc hoth) (upd_same ..) h.lstNd h.ordNd h.sub h.ordLt fhd
    (fun a ha' => (hnx a).trans (h.nx a ha')) ?_ (ftl.imp_right fun f => (quietC_tail f (by trivial)).elim)
    (fun x hx => (fdel x hx).elim (fun f => Or.inl (by rw [← hdl x] at f; exact f)) nofun)
    (fun a ha' x hx => h.val a ha' x ((hnx a).symm.trans hx)) h.itv
    ⟨h0, ⟨g1, g2, (congrArg Node.next hn).trans g3, (congrArg Node.back hn).trans g4, (congrArg Node.deleted hn).trans g5⟩,
      g6, congrArg Node.back (upd_same ..)⟩
  intro b hb
  by_cases e : b = h0
  · exact Or.inr (Or.inl ⟨k, n, rfl, e ▸ g6⟩)
  · refine (fbk b hb).elim (fun f => Or.inl ?_) fun f => (quietC_back f (by trivial)).elim
    rw [← congrArg Node.back (upd_other s.nodes h0 b N e)] at f; exact f

/-- `pE1` / `pF3`: `m_head.store(n)` links the new node in front of the list (into the empty list: `pE1`, and the tail
is still to be set) -/
theorem invC_pushFront {s : St} {t : Tid} {p p' : Pc} (ha : InvA s) (h : InvC s) {n : Nat} (hpc : s.pc t = p)
    (hw : holdsW p = true) (hf : FreshN s.cview n s.lst.head? none)
    (hb : ∀ h0, s.lst.head? = some h0 → (s.nodes h0).back = some n)
    (hbe : ∀ b, BackExcV s.cview (CView p) b → s.lst.head? = some b) (hte : ¬ TailExcV (CView p))
    (hm : marking (CView p) = none) (htl : s.lst = [] → TailExcV (CView p'))
    (hwr : WriterP ({ s with head := some n, lst := n :: s.lst, order := n :: s.order }.setPc t p').cview (CView p')) :
    InvC ({ s with head := some n, lst := n :: s.lst, order := n :: s.order }.setPc t p') := by
  obtain ⟨hoth, fhd, fbk, ftl, fdel⟩ := invC_writer_facts ha h hpc hw
  obtain ⟨g1, g2, g3, g4, g5⟩ := hf
  have hnx0 : ∀ a ∈ s.lst, (s.nodes a).next = (Below s.lst a).head? := h.nx
  have hnl : n ∉ s.lst := fun e => g1 (h.sub n e)
  have hbl : ∀ a ∈ s.lst, Below (n :: s.lst) a = Below s.lst a := fun a ha' => below_cons_ne _ (fun e => hnl (e ▸ ha'))
  have hcons : ∀ {a : Nat} {x : Option Nat}, NextIs s.lst (some a) x → NextIs (n :: s.lst) (some a) x :=
    fun f => ⟨List.mem_cons_of_mem _ f.1, by rw [hbl _ f.1]; exact f.2⟩
  refine invC_writer_mk (t := t) (p' := p') (hoth_setPc hoth) (upd_same ..) (List.nodup_cons.2 ⟨hnl, h.lstNd⟩)
    (List.nodup_cons.2 ⟨g1, h.ordNd⟩)
    (fun x hx => (List.mem_cons.1 hx).elim (fun e => e ▸ List.mem_cons_self) fun e => List.mem_cons_of_mem _ (h.sub x e))
    (fun x hx => (List.mem_cons.1 hx).elim (fun e => e ▸ g2) (h.ordLt x)) rfl ?_ (fun b hb' => Or.inl ?_) ?_
    (fun x hx => Or.inl ?_) ?_ (fun u x hx => List.mem_cons_of_mem _ (h.itv u x hx)) hwr
  · intro a ha'
    show (s.nodes a).next = (Below (n :: s.lst) a).head?
    rcases List.mem_cons.1 ha' with e | e
    · rw [e, below_cons_self]; exact g3
    · rw [hbl a e]; exact hnx0 a e
  · show NextIs (n :: s.lst) (s.nodes b).back (some b)
    rcases List.mem_cons.1 hb' with e | e
    · rw [e, show (s.nodes n).back = none from g4]; rfl
    · by_cases hb0 : s.lst.head? = some b
      · rw [hb b hb0]; exact ⟨List.mem_cons_self, by rw [below_cons_self]; exact hb0⟩
      · rcases fbk b e with f | f
        · cases hbk : (s.nodes b).back with
          | none => rw [hbk] at f; exact absurd f hb0
          | some a => rw [hbk] at f; exact hcons f
        · exact absurd (hbe b f) hb0
  · show NextIs (n :: s.lst) s.tail none ∨ _
    rcases ftl with f | f
    · cases htl' : s.tail with
      | none => rw [htl'] at f; exact Or.inr (htl (head?_eq_none f))
      | some a => rw [htl'] at f; exact Or.inl (hcons f)
    · exact absurd f hte
  · show x ∈ n :: s.lst ↔ (s.nodes x).deleted = false
    rcases List.mem_cons.1 hx with e | e
    · exact ⟨fun _ => e ▸ g5, fun _ => e ▸ List.mem_cons_self⟩
    · have f : x ∈ s.lst ↔ (s.nodes x).deleted = false := (fdel x e).elim id fun f => by rw [hm] at f; cases f
      exact ⟨fun hm => f.1 ((List.mem_cons.1 hm).resolve_left fun e' => g1 (e' ▸ e)), fun hd => List.mem_cons_of_mem _ (f.2 hd)⟩
  · intro a ha' x hx
    rcases List.mem_cons.1 ha' with e | e
    · exact List.mem_cons_of_mem _ (h.sub _ (mem_of_head? ((e ▸ g3 : (s.nodes a).next = _).symm.trans hx)))
    · exact List.mem_cons_of_mem _ (h.val a e x hx)

/-- `pB2`: push_back publishes the node, `oldTail->next.store(n)` -/
theorem invC_pB2 {s : St} {t : Tid} (ha : InvA s) (h : InvC s) {k : Op} {n h0 : Nat} (hpc : s.pc t = .pB2 k n h0) :
    InvC ({ (s.setNext h0 (some n)) with lst := s.lst ++ [n], order := s.order ++ [n] }.setPc t (.pB3 k n)) := by
  obtain ⟨hoth, fhd, fbk, ftl, fdel⟩ := invC_writer_facts ha h hpc rfl
  have hwr := h.wr t
  simp only [cview_vpc, hpc, CView, WriterP, FreshN, NextIs, cview_order, cview_nodes, cview_lst, cview_tail, cview_nN] at hwr fbk ftl fdel
  obtain ⟨⟨g1, g2, g3, g4, g5⟩, ⟨g6, g7⟩, g8⟩ := hwr
  have hnd : s.lst.Nodup := h.lstNd
  have hnx0 : ∀ a ∈ s.lst, (s.nodes a).next = (Below s.lst a).head? := h.nx
  have hnl : n ∉ s.lst := fun e => g1 (h.sub n e)
  have hne : n ≠ h0 := fun e => hnl (e ▸ g6)
  have hbel0 : Below s.lst h0 = [] := head?_eq_none g7
  have hlne : s.lst ≠ [] := fun e => by rw [e] at g6; simp at g6
  have hbk : ∀ x, ((upd s.nodes h0 { s.nodes h0 with next := some n }) x).back = (s.nodes x).back :=
    congrFun (upd_proj_fun s.nodes Node.back h0 _ rfl)
  have hdl : ∀ x, ((upd s.nodes h0 { s.nodes h0 with next := some n }) x).deleted = (s.nodes x).deleted :=
    congrFun (upd_proj_fun s.nodes Node.deleted h0 _ rfl)
  refine invC_writer_mk (t := t) (p' := .pB3 k n) (hoth_setPc hoth) (upd_same ..) ?_ ?_ ?_ ?_ ?_ ?_ ?_ ?_ ?_ ?_ ?_ ?_
  all_goals simp only [setPc_nodes, setPc_nN, setPc_head, setPc_tail, setPc_lst, setPc_order, setPc_it, CView,
    setNext_nodes, setNext_nN, setNext_head, setNext_tail, setNext_it, NextIs]
  · exact List.nodup_append.2 ⟨hnd, by simp, by intro a ha' b hb; simp at hb; subst hb; exact fun e => hnl (e ▸ ha')⟩
  · exact List.nodup_append.2 ⟨h.ordNd, by simp, by intro a ha' b hb; simp at hb; subst hb; exact fun e => g1 (e ▸ ha')⟩
  · intro x hx
    rcases List.mem_append.1 hx with e | e
    · exact List.mem_append_left _ (h.sub x e)
    · exact List.mem_append_right _ e
  · intro x hx
    rcases List.mem_append.1 hx with e | e
    · exact h.ordLt x e
    · simp at e; subst e; exact g2
  · rw [head?_append_singleton hlne]; exact fhd
  · intro a ha'
    rcases List.mem_append.1 ha' with e | e
    · rw [below_append_singleton e]
      by_cases ea : a = h0
      · subst ea; rw [upd_same, hbel0]; rfl
      · rw [upd_other _ _ _ _ ea, hnx0 a e]
        have : h0 ∈ Below s.lst a := below_ne_nil_of_ne_last e g6 hbel0 ea
        cases hb : Below s.lst a with
        | nil => rw [hb] at this; simp at this
        | cons z zs => rfl
    · simp at e; subst e
      rw [upd_other _ _ _ _ hne, g3, below_append_singleton_new hnl]; rfl
  · intro b hb
    left
    rw [hbk]
    rcases List.mem_append.1 hb with e | e
    · rcases fbk b e with f | f
      · cases hbb : (s.nodes b).back with
        | none => rw [hbb] at f; simp only at f ⊢; rw [head?_append_singleton hlne]; exact f
        | some a =>
          rw [hbb] at f; simp only at f ⊢
          refine ⟨List.mem_append_left _ f.1, ?_⟩
          rw [below_append_singleton f.1]
          cases hba : Below s.lst a with
          | nil => rw [hba] at f; cases f.2
          | cons z zs => rw [hba] at f; exact f.2
      · rcases f with ⟨_, _, hc, _⟩ | ⟨_, _, _, hc⟩ <;> cases hc
    · simp at e; subst e
      rw [g4]
      exact ⟨List.mem_append_left _ g6, by rw [below_append_singleton g6, hbel0]; rfl⟩
  · right; exact Or.inr (Or.inl ⟨k, n, rfl⟩)
  · intro x hx
    left
    rw [hdl]
    rcases List.mem_append.1 hx with e | e
    · have hxn : x ≠ n := fun e' => g1 (e' ▸ e)
      rcases fdel x e with f | f
      · simp [hxn]; exact f
      · simp [marking] at f
    · simp at e; subst e; simp [g5]
  · intro a ha' x hx
    rcases List.mem_append.1 ha' with e | e
    · by_cases ea : a = h0
      · subst ea; rw [upd_same] at hx; simp at hx; subst hx; simp
      · rw [upd_other _ _ _ _ ea] at hx; exact List.mem_append_left _ (h.val a e x hx)
    · simp at e; subst e
      rw [upd_other _ _ _ _ hne, g3] at hx; cases hx
  · intro u x hx; exact List.mem_append_left _ (h.itv u x hx)
  · simp only [WriterP, cview_tail, cview_lst, setPc_tail, setPc_lst]
    exact ⟨h0, g8, List.mem_append_left _ g6, by rw [below_append_singleton g6, hbel0]; rfl⟩

/-- `eMark`: `deleted = true` -/
theorem invC_eMark {s : St} {t : Tid} (ha : InvA s) (h : InvC s) {c z : Nat} {o : Option Nat} (hpc : s.pc t = .eMark c o z) :
    InvC ((s.setDel c true).setPc t (.eBack c o z)) := by
  obtain ⟨hoth, fhd, fbk, ftl, fdel⟩ := invC_writer_facts ha h hpc rfl
  obtain ⟨g1, _, g3⟩ : c ∈ s.lst ∧ _ ∧ OrigOk s.cview o := invC_wr h hpc
  have hnx := congrFun (upd_proj_fun s.nodes Node.next c { s.nodes c with deleted := true } rfl)
  have hbk := congrFun (upd_proj_fun s.nodes Node.back c { s.nodes c with deleted := true } rfl)
  refine invC_writer_mk (t := t) (p' := .eBack c o z) (hoth_setPc hoth) (upd_same ..) h.lstNd h.ordNd h.sub h.ordLt fhd
    (fun a ha' => (hnx a).trans (h.nx a ha'))
    (fun b hb => (fbk b hb).elim (fun f => Or.inl (by rw [← hbk b] at f; exact f))
      fun f => (quietC_back f (by trivial)).elim)
    (ftl.imp_right fun f => (quietC_tail f (by trivial)).elim) ?_
    (fun a ha' x hx => h.val a ha' x ((hnx a).symm.trans hx)) h.itv ⟨g1, congrArg Node.deleted (upd_same ..), g3⟩
  intro x hx
  by_cases e : x = c
  · exact Or.inr (e ▸ rfl)
  · exact (fdel x hx).elim (fun f => Or.inl (by rw [show ((s.setDel c true).setPc t (.eBack c o z)).nodes x = s.nodes x from upd_other _ _ _ _ e]; exact f)) nofun

/-- `eUnl`: the unlink store (`oldPrev->next.store(oldNext)` or `m_head.store(oldNext)`) -/
theorem invC_eUnl {s : St} {t : Tid} (ha : InvA s) (h : InvC s) {c : Nat} {o p x : Option Nat}
    {z : Nat} (hpc : s.pc t = .eUnl c o p x z) (nodes' : Nat → Node) (head' : Option Nat)
    (hup : match p with
      | some pp => nodes' = upd s.nodes pp { s.nodes pp with next := x } ∧ head' = s.head
      | none => nodes' = s.nodes ∧ head' = x) :
    InvC ({ s with nodes := nodes', head := head', lst := s.lst.erase c }.setPc t (.eFix c o p x z)) := by
  obtain ⟨hoth, fhd, fbk, ftl, fdel⟩ := invC_writer_facts ha h hpc rfl
  have hwr := h.wr t
  simp only [cview_vpc, hpc, CView, WriterP, cview_nodes, cview_lst] at hwr fbk ftl fdel
  obtain ⟨g1, g2, g3, g4, g5⟩ := hwr
  have hnd : s.lst.Nodup := h.lstNd
  have hnx0 : ∀ a ∈ s.lst, (s.nodes a).next = (Below s.lst a).head? := h.nx
  have hval0 : ∀ n ∈ s.order, ∀ y, (s.nodes n).next = some y → y ∈ s.order := h.val
  have hsub0 : ∀ n ∈ s.lst, n ∈ s.order := h.sub
  have hxc : (s.nodes c).next = x := by rw [hnx0 c g1, g5]
  have hbk : ∀ y, (nodes' y).back = (s.nodes y).back := fun y => by
    cases p with
    | none => rw [hup.1]
    | some pp => rw [hup.1]; exact upd_proj Node.back s.nodes pp _ (by rfl) y
  have hdl : ∀ y, (nodes' y).deleted = (s.nodes y).deleted := fun y => by
    cases p with
    | none => rw [hup.1]
    | some pp => rw [hup.1]; exact upd_proj Node.deleted s.nodes pp _ (by rfl) y
  have hsubE : ∀ y, y ∈ s.lst.erase c → y ∈ s.lst ∧ y ≠ c := by
    intro y hy
    exact ⟨List.mem_of_mem_erase hy, fun e => by subst e; exact (List.Nodup.mem_erase_iff hnd).1 hy |>.1 rfl⟩
  -- the predecessor facts
  have hpred : NextIs (s.lst.erase c) p x ∧ (s.lst.erase c).head? = head' ∧
      (∀ a ∈ s.lst.erase c, (nodes' a).next = (Below (s.lst.erase c) a).head?) := by
    cases p with
    | none =>
      simp only [NextIs] at g4
      have he : s.lst.erase c = s.lst.tail := erase_head g4
      have hbc : Below s.lst c = s.lst.tail := by
        cases hl : s.lst with
        | nil => rw [hl] at g4; cases g4
        | cons z zs => rw [hl] at g4; simp at g4; subst g4; simp
      refine ⟨?_, ?_, ?_⟩
      · simp only [NextIs]; rw [he, g5, hbc]
      · rw [hup.2, he, g5, hbc]
      · intro a ha'
        obtain ⟨h1, h2⟩ := hsubE a ha'
        rw [hup.1, hnx0 a h1, below_erase hnd h2]
        have : c ∉ Below s.lst a := fun hc => head_ne_of_mem_below hnd hc g4
        rw [List.erase_of_not_mem this]
    | some pp =>
      simp only [NextIs] at g4
      obtain ⟨hp1, hp2⟩ := g4
      have hppc : pp ≠ c := fun e => not_mem_below_self hnd (e ▸ head_mem_below hp2)
      have hbpp : Below (s.lst.erase c) pp = Below s.lst c := by
        rw [below_erase_head hnd hppc hp2, below_of_head hnd hp2]
      refine ⟨?_, ?_, ?_⟩
      · simp only [NextIs]
        exact ⟨(List.mem_erase_of_ne hppc).2 hp1, by rw [hbpp, g5]⟩
      · rw [hup.2, fhd]
        exact head_erase_of_ne' (head_ne_of_mem_below hnd (head_mem_below hp2))
      · intro a ha'
        obtain ⟨h1, h2⟩ := hsubE a ha'
        rw [hup.1]
        by_cases e : a = pp
        · subst e; rw [upd_same, hbpp, g5]
        · rw [upd_other _ _ _ _ e, hnx0 a h1, below_erase hnd h2, head_erase_of_ne']
          intro hc; exact e (pred_unique hnd hc hp2)
  obtain ⟨q1, q2, q3⟩ := hpred
  have hsucc : ∀ b, x = some b → (s.nodes b).back = some c := by
    intro b hb
    have hbb : (Below s.lst c).head? = some b := by rw [← g5]; exact hb
    have hbl : b ∈ s.lst := mem_of_mem_below (head_mem_below hbb)
    rcases fbk b hbl with f | f
    · cases hbk' : (s.nodes b).back with
      | none =>
        rw [hbk'] at f; simp only [NextIs] at f
        exact absurd f (head_ne_of_mem_below hnd (head_mem_below hbb))
      | some a =>
        rw [hbk'] at f; simp only [NextIs] at f
        rw [pred_unique hnd f.2 hbb]
    · rcases f with ⟨_, _, hc, _⟩ | ⟨_, _, _, hc⟩ <;> cases hc
  have hlast : x = none → s.tail = some c := by
    intro hx
    have hbc : Below s.lst c = [] := head?_eq_none (by rw [← g5]; exact hx)
    rcases ftl with f | f
    · cases htl : s.tail with
      | none => rw [htl] at f; simp only [NextIs] at f; have := head?_eq_none f; rw [this] at g1; simp at g1
      | some a =>
        rw [htl] at f; simp only [NextIs] at f
        rw [last_unique f.1 g1 (head?_eq_none f.2) hbc]
    · rcases f with ⟨_, _, hc⟩ | ⟨_, _, hc⟩ | ⟨_, _, _, hc⟩ <;> cases hc
  refine invC_writer_mk (t := t) (p' := .eFix c o p x z) (hoth_setPc hoth) (upd_same ..) ?_ h.ordNd ?_ h.ordLt ?_ ?_ ?_ ?_ ?_ ?_ h.itv ?_
  all_goals simp only [setPc_nodes, setPc_head, setPc_tail, setPc_lst, setPc_order, CView]
  · exact hnd.erase c
  · intro y hy; exact hsub0 y (hsubE y hy).1
  · exact q2.symm
  · exact q3
  · intro b hb
    obtain ⟨h1, h2⟩ := hsubE b hb
    rw [hbk]
    rcases fbk b h1 with f | f
    · cases hbb : (s.nodes b).back with
      | none =>
        rw [hbb] at f; simp only [NextIs] at f ⊢
        left; exact head_erase_of_ne f h2
      | some a =>
        rw [hbb] at f; simp only [NextIs] at f ⊢
        by_cases eac : a = c
        · subst eac
          right; right
          exact ⟨a, o, p, by rw [g5, f.2]⟩
        · left
          refine ⟨(List.mem_erase_of_ne eac).2 f.1, ?_⟩
          rw [below_erase hnd eac]
          exact head_erase_of_ne f.2 h2
    · rcases f with ⟨_, _, hc, _⟩ | ⟨_, _, _, hc⟩ <;> cases hc
  · rcases ftl with f | f
    · cases htl : s.tail with
      | none => rw [htl] at f; simp only [NextIs] at f; have := head?_eq_none f; rw [this] at g1; simp at g1
      | some a =>
        rw [htl] at f; simp only [NextIs] at f ⊢
        by_cases eac : a = c
        · subst eac
          right; right; right
          exact ⟨a, o, p, by rw [g5, f.2]⟩
        · left
          refine ⟨(List.mem_erase_of_ne eac).2 f.1, ?_⟩
          rw [below_erase hnd eac, head?_eq_none f.2]; rfl
    · rcases f with ⟨_, _, hc⟩ | ⟨_, _, hc⟩ | ⟨_, _, _, hc⟩ <;> cases hc
  · intro y hy
    left
    rw [hdl]
    by_cases eyc : y = c
    · subst eyc
      constructor
      · intro hc; exact absurd rfl (hsubE y hc).2
      · intro hc; rw [g2] at hc; cases hc
    · rcases fdel y hy with f | f
      · rw [← f]
        constructor
        · intro hc; exact (hsubE y hc).1
        · intro hc; exact (List.mem_erase_of_ne eyc).2 hc
      · simp only [marking] at f; injection f with f; exact absurd f.symm eyc
  · intro n hn y hy
    cases p with
    | none => rw [hup.1] at hy; exact hval0 n hn y hy
    | some pp =>
      rw [hup.1] at hy
      by_cases e : n = pp
      · subst e; rw [upd_same] at hy; simp only at hy
        exact hval0 c (hsub0 c g1) y (by rw [hxc]; exact hy)
      · rw [upd_other _ _ _ _ e] at hy; exact hval0 n hn y hy
  · simp only [WriterP, cview_lst, cview_nodes, cview_order, cview_tail, setPc_lst, setPc_nodes, setPc_order, setPc_tail]
    refine ⟨fun hc => absurd rfl (hsubE c hc).2, hsub0 c g1, by rw [hdl]; exact g2, g3, q1, ?_, hlast⟩
    intro b hb; rw [hbk]; exact hsucc b hb

/-- `eFix`: `oldNext->back.store(oldPrev)` or `m_tail.store(oldPrev)` -/
theorem invC_eFix {s : St} {t : Tid} (ha : InvA s) (h : InvC s) {c : Nat} {o p x : Option Nat}
    {z : Nat} (hpc : s.pc t = .eFix c o p x z) (nodes' : Nat → Node) (tail' : Option Nat)
    (hup : match x with
      | some xx => nodes' = upd s.nodes xx { s.nodes xx with back := p } ∧ tail' = s.tail
      | none => nodes' = s.nodes ∧ tail' = p) :
    InvC ({ s with nodes := nodes', tail := tail' }.setPc t (.eZh o z)) := by
  obtain ⟨hoth, fhd, fbk, ftl, fdel⟩ := invC_writer_facts ha h hpc rfl
  have hwr := h.wr t
  simp only [cview_vpc, hpc, CView, WriterP, cview_order, cview_nodes, cview_lst, cview_tail] at hwr fbk ftl fdel
  obtain ⟨g1, g2, g3, g4, g5, g6, g7⟩ := hwr
  have hnx0 : ∀ a ∈ s.lst, (s.nodes a).next = (Below s.lst a).head? := h.nx
  have hval0 : ∀ n ∈ s.order, ∀ y, (s.nodes n).next = some y → y ∈ s.order := h.val
  have hnx : ∀ y, (nodes' y).next = (s.nodes y).next := fun y => by
    cases x with
    | none => rw [hup.1]
    | some xx => rw [hup.1]; exact upd_proj Node.next s.nodes xx _ (by rfl) y
  have hdl : ∀ y, (nodes' y).deleted = (s.nodes y).deleted := fun y => by
    cases x with
    | none => rw [hup.1]
    | some xx => rw [hup.1]; exact upd_proj Node.deleted s.nodes xx _ (by rfl) y
  refine invC_writer_mk (t := t) (p' := .eZh o z) (hoth_setPc hoth) (upd_same ..) h.lstNd h.ordNd h.sub h.ordLt fhd
    (fun a ha' => (hnx a).trans (hnx0 a ha')) (fun b hb => Or.inl ?_) (Or.inl ?_)
    (fun y hy => (fdel y hy).elim (fun f => Or.inl (by rw [← hdl y] at f; exact f)) nofun)
    (fun n hn y hy => hval0 n hn y ((hnx n).symm.trans hy)) h.itv g4
  · show NextIs s.lst (nodes' b).back (some b)
    cases x with
    | none =>
      rw [hup.1]
      rcases fbk b hb with f | f
      · exact f
      · rcases f with ⟨_, _, hc, _⟩ | ⟨_, _, _, hc⟩ <;> cases hc
    | some xx =>
      rw [hup.1]
      by_cases e : b = xx
      · subst e; rw [upd_same]; exact g5
      · rw [upd_other _ _ _ _ e]
        rcases fbk b hb with f | f
        · exact f
        · rcases f with ⟨_, _, hc, _⟩ | ⟨_, _, _, hc⟩
          · cases hc
          · injection hc with _ _ _ hc; injection hc with hc; exact absurd hc.symm e
  · show NextIs s.lst tail' none
    cases x with
    | none => rw [hup.2]; exact g5
    | some xx =>
      rw [hup.2]
      rcases ftl with f | f
      · exact f
      · rcases f with ⟨_, _, hc⟩ | ⟨_, _, hc⟩ | ⟨_, _, _, hc⟩ <;> cases hc

/-- the iterator of `t` is assigned a node of `order` (or end / nothing) while `t` goes from a quiet to an idle view -/
theorem invC_setIt {s d : St} {t : Tid} {p p' : Pc} (h : InvC s) (v : Option (Option Nat))
    (hd : d.cview = { s with it := upd s.it t v }.cview) (hpc : s.pc t = p) (hq : quietC (CView p))
    (hm : marking (CView p) = none) (hp' : CView p' = .idle) (hv : ∀ x, v = some (some x) → x ∈ s.order) : InvC (d.setPc t p') := by
  refine invC_of_view ?_ (cview_setPc_congr hd t p')
  have q := invC_quiet (p' := p') h rfl hpc hq (by rw [hm]; nofun) (hp' ▸ trivial)
  refine ⟨q.lstNd, q.ordNd, q.sub, q.ordLt, q.hd, q.nx, q.bk, q.tl, q.del, q.val, ?_, q.wr⟩
  intro u x hx
  simp only [cview_it, setPc_it] at hx
  by_cases hut : u = t
  · subst hut; rw [upd_same] at hx; exact hv x hx
  · rw [upd_other _ _ _ _ hut] at hx; exact q.itv u x hx

/-- `call dtor`: with `dt = true` only the clauses about `lst`, `order` and the forward links remain -/
theorem invC_callDtor {s : St} {t : Tid} (h : InvC s) (hd : s.dt = false) :
    InvC ({ s with dt := true }.setPc t (.called .dtor)) := by
  refine ⟨h.lstNd, h.ordNd, h.sub, h.ordLt, nofun, h.nx, nofun, nofun, nofun, h.val, h.itv, fun u => ?_⟩
  show WriterP _ (CView (upd s.pc t (.called .dtor) u))
  by_cases hut : u = t
  · rw [hut, upd_same]; exact h.hd hd
  · rw [upd_other _ _ _ _ hut]; exact h.wr u

/-- destructor steps: `dt = true`, every other thread is idle -/
theorem invC_dtor_mk {s' : St} {t : Tid} (hdt : s'.dt = true) (hoth : ∀ u, u ≠ t → CView (s'.pc u) = .idle)
    (lstNd : s'.lst.Nodup) (ordNd : s'.order.Nodup) (sub : ∀ n ∈ s'.lst, n ∈ s'.order) (ordLt : ∀ n ∈ s'.order, n < s'.nN)
    (nx : ∀ a ∈ s'.lst, (s'.nodes a).next = (Below s'.lst a).head?)
    (val : ∀ n ∈ s'.order, ∀ x, (s'.nodes n).next = some x → x ∈ s'.order)
    (itv : ∀ u x, s'.it u = some (some x) → x ∈ s'.order)
    (wr : WriterP s'.cview (CView (s'.pc t))) : InvC s' := by
  refine ⟨lstNd, ordNd, sub, ordLt, ?_, nx, ?_, ?_, ?_, val, itv, ?_⟩
  · intro hc; simp only [cview_dt] at hc; rw [hdt] at hc; cases hc
  · intro hc; simp only [cview_dt] at hc; rw [hdt] at hc; cases hc
  · intro hc; simp only [cview_dt] at hc; rw [hdt] at hc; cases hc
  · intro hc; simp only [cview_dt] at hc; rw [hdt] at hc; cases hc
  · intro u
    by_cases hut : u = t
    · subst hut; exact wr
    · simp only [cview_vpc]; rw [hoth u hut]; trivial

theorem invC_pAlo {s : St} {t : Tid} (ha : InvA s) (h : InvC s) {k : Op} (hpc : s.pc t = .pAlloc k) :
    InvC (({ s with nN := s.nN + 1 }.setNled s.nN .alloc).setPc t (.pCons k s.nN)) := by
  obtain ⟨hoth, fhd, fbk, ftl, fdel⟩ := invC_writer_facts ha h hpc rfl
  refine invC_writer_mk (t := t) (p' := .pCons k s.nN) (hoth_setPc hoth) (upd_same ..) h.lstNd h.ordNd h.sub
    (fun n hn => Nat.lt_succ_of_lt (h.ordLt n hn)) fhd
    h.nx (fun b hb => (fbk b hb).imp_right fun f => (quietC_back f (by trivial)).elim)
    (ftl.imp_right fun f => (quietC_tail f (by trivial)).elim)
    (fun x hx => (fdel x hx).imp_right fun f => nomatch f) h.val h.itv ?_
  exact ⟨fun hc => Nat.lt_irrefl _ (h.ordLt _ hc), Nat.lt_succ_self _⟩

theorem invC_dFreN {s : St} {t : Tid} (ha : InvA s) (h : InvC s) {m : Nat} {nx : Option Nat} (hpc : s.pc t = .dFreN m nx) :
    InvC ({ (s.setNled m .freed) with lst := s.lst.erase m }.dNodeAt t nx) := by
  have hdt := ha.dtd t (hpc ▸ rfl)
  have hoth := others_cidle_dt (t := t) ha hdt (hpc ▸ rfl)
  obtain ⟨g1, g2⟩ : s.lst.head? = some m ∧ nx = (Below s.lst m).head? := invC_wr h hpc
  have hnd : s.lst.Nodup := h.lstNd
  have hnx0 : ∀ a ∈ s.lst, (s.nodes a).next = (Below s.lst a).head? := h.nx
  have hbm : Below s.lst m = s.lst.tail := by
    cases hl : s.lst with
    | nil => rw [hl] at g1; cases g1
    | cons z zs => rw [hl] at g1; simp at g1; subst g1; simp
  have he : s.lst.erase m = s.lst.tail := erase_head g1
  have hnx : ∀ a ∈ s.lst.erase m, (s.nodes a).next = (Below (s.lst.erase m) a).head? := by
    intro a ha'
    have h2 : a ≠ m := fun e => by subst e; exact (List.Nodup.mem_erase_iff hnd).1 ha' |>.1 rfl
    rw [hnx0 a (List.mem_of_mem_erase ha'), below_erase hnd h2]
    have : m ∉ Below s.lst a := fun hc => head_ne_of_mem_below hnd hc g1
    rw [List.erase_of_not_mem this]
  have hsub : ∀ y ∈ s.lst.erase m, y ∈ s.order := fun y hy => h.sub y (List.mem_of_mem_erase hy)
  cases nx with
  | none =>
    refine invC_dtor_mk (t := t) hdt (hoth_setPc hoth) (hnd.erase m) h.ordNd hsub h.ordLt hnx h.val h.itv ?_
    simp only [St.dNodeAt, setPc_pc, upd_same, CView, WriterP, cview_lst, setPc_lst]
    show s.lst.erase m = []
    rw [he, ← hbm]; exact head?_eq_none g2.symm
  | some m' =>
    refine invC_dtor_mk (t := t) hdt (hoth_setPc hoth) (hnd.erase m) h.ordNd hsub h.ordLt hnx h.val h.itv ?_
    simp only [St.dNodeAt, setPc_pc, upd_same, CView, WriterP, cview_lst, setPc_lst]
    show (s.lst.erase m).head? = some m'
    rw [he, ← hbm]; exact g2.symm

theorem invC_step {s s' : St} {t : Tid} {e : Ev} (ha : InvA s) (h : InvC s) (hs : Step s t e s') : InvC s' := by
  cases hs with
  | regPst | pPstDel | pPstData | ePst | dDesZNpld | dFreZNpld => exact h
  -- the view of `t` and the fields of the view stay as they are
  | callLock | callRel | callBeg | callNxt | callDer | callPush | callErase | retLock | relSome | relNone | rExc
  | der | pushLock | regCon | regZh | casEraseOk | uOwnerActive | uOwnerInactive | uNextSome | rZnNode | rZnNull
  | rDesN | rFreN | rNext | rDesZ | uTrunc | pAloFail | pThrownMul | pExc | eAlo | eZh | dDesN | dOwner | dRNext
  | dZnNode | dZnNull | dDesZN | dFreZN | dDesZ =>
    exact invC_move h rfl ‹s.pc t = _› (by rfl)
  | regAlo _ _ hpc hk | regFail _ _ hpc hk => rcases hk with rfl | ⟨_, _, _, rfl⟩ <;> exact invC_move h rfl hpc rfl
  | pushStore c _ _ _ hpc | casFail c _ _ _ hpc => cases c <;> exact invC_move h rfl hpc rfl
  | uNextNone _ nx _ _ hpc | rFreZ _ _ nx hpc | dFreZ _ nx hpc => cases nx <;> exact invC_move h rfl hpc rfl
  | dZhead _ hpc => cases hz : s.zhead <;> exact invC_move h rfl hpc rfl
  | casRegOk k _ _ hpc =>
    have hk : k.regOp = true := by have := ha.opk t; rw [hpc] at this; exact this
    cases k <;> first | exact invC_move h rfl hpc rfl | cases hk
  | pUnlock k hpc =>
    have hk : k.isPush = true := by have := ha.opk t; rw [hpc] at this; exact this
    cases k <;> first | exact invC_move h rfl hpc rfl | cases hk
  -- `t` leaves a view without pending exception
  | ret k hpc => cases k <;> exact invC_quiet h rfl hpc trivial nofun trivial
  | eAloFail _ _ hpc | pThrow _ _ _ _ hpc => exact invC_quiet h rfl hpc trivial nofun trivial
  | eraseLock _ _ c hpc _ hi => exact invC_quiet h rfl hpc trivial nofun (h.itv t c hi)
  | eCon _ _ _ hpc => exact invC_quiet h rfl hpc trivial nofun (invC_wr h hpc :)
  | eDelDeleted _ _ hpc => exact invC_quiet h rfl hpc trivial nofun (invC_wr h hpc).2
  | callDtor _ _ hd => exact invC_callDtor h hd
  -- the iterator of `t` is assigned
  | relFresh _ hpc | uClear _ _ hpc => exact invC_setIt h none rfl hpc trivial rfl rfl (fun _ hx => nomatch hx)
  | eUnlock orig hpc =>
    exact invC_setIt h (some orig) rfl hpc trivial rfl rfl (fun x hx => (invC_wr h hpc) x (Option.some.inj hx))
  | beg _ _ _ hpc hh =>
    have hhd : s.head = s.lst.head? := h.hd (dt_false_of_hnd ha (t := t) (by rw [hh]; exact Hnd.noConfusion))
    exact invC_setIt h (some s.head) rfl hpc trivial rfl rfl (fun x hx => h.sub x (mem_of_head? (hhd ▸ Option.some.inj hx)))
  | nxt _ _ n _ hpc _ hi =>
    exact invC_setIt h (some (s.nodes n).next) rfl hpc trivial rfl rfl (fun x hx => h.val n (h.itv t n hi) x (Option.some.inj hx))
  -- the writer reads
  | pLoadFrontNone _ _ _ _ hpc _ hv =>
    obtain ⟨_, fhd, _, ftl, _⟩ := invC_writer_facts ha h hpc rfl
    have hl : s.lst = [] := head?_eq_none (fhd ▸ hv)
    refine invC_quiet h rfl hpc trivial nofun ⟨(invC_wr h hpc), hl, ?_⟩
    rcases ftl with f | f
    · cases htl : s.tail with
      | none => exact htl
      | some a => rw [htl] at f; exact absurd f.1 (hl ▸ List.not_mem_nil)
    · exact (quietC_tail f trivial).elim
  | pLoadFrontSome _ _ _ _ _ hpc _ hv =>
    obtain ⟨_, fhd, _, _, _⟩ := invC_writer_facts ha h hpc rfl
    exact invC_quiet h rfl hpc trivial nofun ⟨(invC_wr h hpc), fhd ▸ hv⟩
  | pLoadBackNone _ _ _ _ hpc hv =>
    obtain ⟨_, _, _, ftl, _⟩ := invC_writer_facts ha h hpc rfl
    refine invC_quiet h rfl hpc trivial nofun ⟨(invC_wr h hpc), ?_, hv⟩
    rcases ftl with f | f
    · rw [hv] at f; exact head?_eq_none f
    · exact (quietC_tail f trivial).elim
  | pLoadBackSome _ _ _ _ _ hpc hv =>
    obtain ⟨_, _, _, ftl, _⟩ := invC_writer_facts ha h hpc rfl
    refine invC_quiet h rfl hpc trivial nofun ⟨(invC_wr h hpc), ?_, hv⟩
    rcases ftl with f | f
    · exact hv ▸ f
    · exact (quietC_tail f trivial).elim
  | eOrig c adv _ hpc =>
    have hwr : c ∈ s.order := (invC_wr h hpc)
    refine invC_quiet h rfl hpc trivial nofun ⟨hwr, fun y hy => ?_⟩
    cases adv with
    | true => exact h.val c hwr y hy
    | false => exact Option.some.inj hy ▸ hwr
  | eDelFresh c _ hpc hv =>
    obtain ⟨_, _, _, _, fdel⟩ := invC_writer_facts ha h hpc rfl
    have hwr : c ∈ s.order ∧ _ := (invC_wr h hpc)
    refine invC_quiet h rfl hpc trivial nofun ⟨?_, hv, hwr.2⟩
    rcases fdel c hwr.1 with f | f
    · exact f.2 hv
    · cases f
  | eBack c _ _ _ hpc =>
    obtain ⟨_, _, fbk, _, _⟩ := invC_writer_facts ha h hpc rfl
    have hwr : c ∈ s.lst ∧ _ := (invC_wr h hpc)
    refine invC_quiet h rfl hpc trivial (fun _ hx => hx) ⟨hwr.1, hwr.2.1, hwr.2.2, ?_⟩
    exact (fbk c hwr.1).elim id fun f => (quietC_back f trivial).elim
  | eNext c _ _ _ _ hpc =>
    have hwr : c ∈ s.lst ∧ _ := (invC_wr h hpc)
    exact invC_quiet h rfl hpc trivial (fun _ hx => hx) ⟨hwr.1, hwr.2.1, hwr.2.2.1, hwr.2.2.2, h.nx c hwr.1⟩
  -- the destructor reads
  | dtorHead _ hpc =>
    have hwr : s.head = s.lst.head? := (invC_wr h hpc)
    cases hh : s.head with
    | none => exact invC_quiet h rfl hpc trivial nofun (head?_eq_none (hwr ▸ hh))
    | some m => exact invC_quiet h rfl hpc trivial nofun (hwr ▸ hh : s.lst.head? = some m)
  | dNext m _ hpc =>
    have hwr : s.lst.head? = some m := (invC_wr h hpc)
    exact invC_quiet h rfl hpc trivial nofun ⟨hwr, h.nx m (mem_of_head? hwr)⟩
  -- the writer and the destructor change the list
  | pAlo _ hpc => exact invC_pAlo ha h hpc
  | pCon f em x n hpc =>
    have hwr : n ∉ s.order ∧ n < s.nN := (invC_wr h hpc)
    exact invC_privNode (nodes' := upd s.nodes n { next := none, back := none, deleted := false, val := x }) ha h rfl hpc rfl trivial rfl n hwr.1 (fun y hy => upd_other _ _ _ _ hy)
      (fun c' h1 _ h3 _ h5 => by
        simp only [CView, WriterP, FreshN, h1, h3, h5, upd_same]; exact ⟨hwr.1, hwr.2, trivial, trivial, trivial⟩)
  | pF1 _ n h0 _ hpc =>
    have hwr : FreshN s.cview n none none ∧ _ := (invC_wr h hpc)
    exact invC_privNode (nodes' := upd s.nodes n { s.nodes n with next := some h0 }) ha h rfl hpc rfl trivial rfl n hwr.1.1 (fun y hy => upd_other _ _ _ _ hy)
      (fun c' h1 h2 h3 _ h5 => by
        simp only [CView, WriterP, FreshN, h1, h2, h3, h5, upd_same]
        exact ⟨⟨hwr.1.1, hwr.1.2.1, trivial, hwr.1.2.2.2.1, hwr.1.2.2.2.2⟩, hwr.2⟩)
  | pB1 _ n h0 _ hpc =>
    have hwr : FreshN s.cview n none none ∧ _ := (invC_wr h hpc)
    exact invC_privNode (nodes' := upd s.nodes n { s.nodes n with back := some h0 }) ha h rfl hpc rfl trivial rfl n hwr.1.1 (fun y hy => upd_other _ _ _ _ hy)
      (fun c' h1 h2 h3 h4 h5 => by
        simp only [CView, WriterP, FreshN, h1, h2, h3, h4, h5, upd_same]
        exact ⟨⟨hwr.1.1, hwr.1.2.1, hwr.1.2.2.1, trivial, hwr.1.2.2.2.2⟩, hwr.2.1, hwr.2.2⟩)
  | pE1 k n _ hpc =>
    obtain ⟨hf, hl, ht⟩ : FreshN s.cview n none none ∧ s.lst = [] ∧ s.tail = none := invC_wr h hpc
    exact invC_pushFront ha h hpc rfl (by rw [hl]; exact hf) (fun _ e => by rw [hl] at e; cases e)
      (fun _ f => (quietC_back f trivial).elim) (fun f => quietC_tail f trivial) rfl (fun _ => Or.inl ⟨k, n, rfl⟩)
      ⟨congrArg (n :: ·) hl, ht⟩
  | pE2 _ _ _ hpc => exact invC_setTail ha h hpc (Or.inl rfl)
  | pB3 _ _ _ hpc => exact invC_setTail ha h hpc (Or.inr rfl)
  | pF2 _ _ _ _ hpc => exact invC_pF2 ha h hpc
  | pF3 _ n _ hpc =>
    obtain ⟨h0, hf, hd, hb⟩ : ∃ h0, FreshN s.cview n (some h0) none ∧ s.lst.head? = some h0 ∧ (s.nodes h0).back = some n :=
      invC_wr h hpc
    exact invC_pushFront ha h hpc rfl (hd ▸ hf) (fun b e => Option.some.inj (hd.symm.trans e) ▸ hb)
      (fun b f => f.elim (fun ⟨_, _, _, hc⟩ => hc) fun ⟨_, _, _, hc⟩ => nomatch hc)
      (fun f => by rcases f with ⟨_, _, hc⟩ | ⟨_, _, hc⟩ | ⟨_, _, _, hc⟩ <;> cases hc) rfl
      (fun e => by rw [e] at hd; cases hd) trivial
  | pB2 _ _ _ _ hpc => exact invC_pB2 ha h hpc
  | eMark _ _ _ hpc => exact invC_eMark ha h hpc
  | eUnlPrev _ _ pp x _ _ hpc =>
    exact invC_of_view (invC_eUnl ha h hpc (upd s.nodes pp { s.nodes pp with next := x }) s.head ⟨rfl, rfl⟩) rfl
  | eUnlHead _ _ x _ _ hpc => exact invC_of_view (invC_eUnl ha h hpc s.nodes x ⟨rfl, rfl⟩) rfl
  | eFixNext _ _ p xx _ _ hpc =>
    exact invC_of_view (invC_eFix ha h hpc (upd s.nodes xx { s.nodes xx with back := p }) s.tail ⟨rfl, rfl⟩) rfl
  | eFixTail _ _ p _ _ hpc => exact invC_of_view (invC_eFix ha h hpc s.nodes p ⟨rfl, rfl⟩) rfl
  | dFreN _ _ hpc => exact invC_dFreN ha h hpc

end ConcVerif.Rcu
