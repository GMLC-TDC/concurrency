import ConcVerif.Proof.LR
import ConcVerif.Proof.HBKn
/-! Connection of the left-right model (`Model/LR.lean`) to the happens-before layer, part 1: the map
from model events to happens-before events, "thread `t` knows position `i`" (`Kn`), publication through
the write mutex (`Pub`) and the three synchronises-with edges the protocol uses:

* `unlock → lock` of the write mutex;
* the writer's store of `m_readingLeft` → a reader's load of it that reads from that store;
* a reader's decrement of a counter (RMW) → the writer's later load of that counter: the counters are
  only ever written by RMWs, so the release sequence headed by the decrement is never broken.

The memory orders are a parameter (`Ords`): the theorems hold for every assignment in which these four
operations are at least release / acquire (`Ords.OK`); today's code (and the model, which parses no
other order) uses seq_cst everywhere (`Ords.sc`).  The increment and the accesses of `m_countingLeft`
carry no happens-before obligation — they matter for the INTERLEAVING part (C03: seq_cst is what makes
the store-buffering pattern `store rl ; load cnt ∥ inc cnt ; load rl` behave as interleaved), which the
operational memory-model abstraction of `Base/HB.lean` takes as given. -/
namespace ConcVerif.LR
open HB (HBeq)

variable {t u r w : Tid} {e : Ev} {o : Ords} {es : List (Tid × Ev)} {c x : Side} {m : Option Tid}
  {tr : HB.Trace} {i : Nat}

/-- memory orders of the seven kinds of atomic operation of lr_guarded -/
structure Ords where
  ldRL : HB.Ord := .sc
  stRL : HB.Ord := .sc
  ldCL : HB.Ord := .sc
  stCL : HB.Ord := .sc
  inc : HB.Ord := .sc
  dec : HB.Ord := .sc
  ldCnt : HB.Ord := .sc

/-- what the happens-before argument needs of them -/
structure Ords.OK (o : Ords) : Prop where
  stRL : o.stRL.isRel = true
  ldRL : o.ldRL.isAcq = true
  dec : o.dec.isRel = true
  ldCnt : o.ldCnt.isAcq = true

/-- today's code: everything seq_cst -/
def Ords.sc : Ords := {}

theorem Ords.sc_ok : Ords.sc.OK := ⟨rfl, rfl, rfl, rfl⟩

/-- atomic locations: `m_readingLeft` = 0, `m_countingLeft` = 1, the counters 2 and 3 -/
def cntLoc : Side → HB.Loc
  | .L => 2
  | .R => 3

/-- plain locations: the two copies -/
def copyLoc : Side → HB.Loc
  | .L => 0
  | .R => 1

theorem copyLoc_inj {y : Side} (h : copyLoc x = copyLoc y) : x = y := by
  cases x <;> cases y <;> simp [copyLoc] at h <;> rfl

/-- happens-before content of a model event (write mutex = mutex 0).  A functor application / copy
assignment is a window `begin … end`; both ends are accesses (the begin of a copy carries the read of
the source, its end the write of the target; `LRConf` in `HBLRMain.lean` counts both ends as both). `fin` (the
inspection after the run, ordered by the joins of the harness) is not an access of the protocol. -/
def toHB (o : Ords) : Ev → HB.Ev
  | .ldRL _ => .ld 0 o.ldRL
  | .stRL _ => .st 0 o.stRL
  | .ldCL _ => .ld 1 o.ldCL
  | .stCL _ => .st 1 o.stCL
  | .inc c _ => .rmw (cntLoc c) o.inc
  | .dec c _ => .rmw (cntLoc c) o.dec
  | .ldCnt c _ => .ld (cntLoc c) o.ldCnt
  | .lock => .acq 0 .X
  | .unlock => .rel 0 .X
  | .fBegin x => .wr (copyLoc x)
  | .fEnd x _ => .wr (copyLoc x)
  | .cpBegin x => .rd (copyLoc x.flip)
  | .cpEnd x _ => .wr (copyLoc x)
  | .rd x _ => .rd (copyLoc x)
  | _ => .nop

def hbTrace (o : Ords) (es : List (Tid × Ev)) : HB.Trace := es.map (fun p => (p.1, toHB o p.2))

theorem hbTrace_append (o : Ords) (es ext : List (Tid × Ev)) :
    hbTrace o (es ++ ext) = hbTrace o es ++ hbTrace o ext := by simp [hbTrace]

theorem hbTrace_snoc (o : Ords) (es : List (Tid × Ev)) (t : Tid) (e : Ev) :
    hbTrace o (es ++ [(t, e)]) = hbTrace o es ++ [(t, toHB o e)] := by simp [hbTrace]

@[simp] theorem hbTrace_length (o : Ords) (es : List (Tid × Ev)) : (hbTrace o es).length = es.length := by
  simp [hbTrace]

theorem hbTrace_get (h : es[i]? = some (t, e)) :
    (hbTrace o es)[i]? = some (t, toHB o e) := by simp [hbTrace, h]

theorem hbTrace_get_inv {he : HB.Ev}
    (h : (hbTrace o es)[i]? = some (t, he)) : ∃ e, es[i]? = some (t, e) ∧ toHB o e = he :=
  HB.map_get_inv h

theorem toHB_st0 {od : HB.Ord} (h : toHB o e = .st 0 od) : ∃ v, e = .stRL v := by
  cases e <;> simp [toHB] at h
  exact ⟨_, rfl⟩

theorem toHB_st_cnt {od : HB.Ord} : toHB o e ≠ .st (cntLoc c) od := by
  intro h
  cases e <;> first | cases h | (cases c <;> cases h)

/-- position `i` happens-before-or-is an event of thread `t` -/
def Kn (tr : HB.Trace) (t : Tid) (i : Nat) : Prop := ∃ j e, tr[j]? = some (t, e) ∧ HBeq tr i j

theorem Kn.mono (ext : HB.Trace) (h : Kn tr t i) : Kn (tr ++ ext) t i := HB.Kn.mono ext h

theorem Kn.self {e : HB.Ev} (h : tr[i]? = some (t, e)) : Kn tr t i := HB.Kn.self h

theorem Kn.hb_last {e : HB.Ev} (h : Kn (tr ++ [(t, e)]) t i) : HBeq (tr ++ [(t, e)]) i tr.length := HB.Kn.hb_last h

theorem Kn.of_sw {e : HB.Ev} {k : Nat} (hk : HBeq tr i k) (hsw : HB.Sw (tr ++ [(t, e)]) k tr.length) :
    Kn (tr ++ [(t, e)]) t i :=
  HB.Kn.of_sw hk hsw

theorem Kn.hbeq_of_own {e : HB.Ev} (h : Kn tr u i) : HBeq (tr ++ [(u, e)]) i tr.length := HB.Kn.hbeq_of_own h

theorem sw_mutex {k : Nat} {v : Tid} (hk : es[k]? = some (v, .unlock)) :
    HB.Sw (hbTrace o es ++ [(t, toHB o .lock)]) k (hbTrace o es).length := by
  have hlt : k < (hbTrace o es).length := by simp; exact HB.lq_lt hk
  exact .mutex (md := .X) (md' := .X) hlt (HB.lq_mono _ (hbTrace_get hk)) (HB.lq_last _ _) (.inl rfl)

/-- the latest store of `m_readingLeft` synchronises with the load that has just been performed -/
theorem sw_rl (ho : o.OK) {q : Nat} {v v' : Side}
    (hq : es[q]? = some (w, .stRL v)) (hlast : ∀ k w' v'', q < k → es[k]? ≠ some (w', .stRL v'')) :
    HB.Sw (hbTrace o es ++ [(t, toHB o (.ldRL v'))]) q (hbTrace o es).length := by
  have hlt : q < (hbTrace o es).length := by simp; exact HB.lq_lt hq
  refine .atomic (a := 0) hlt (HB.lq_mono _ (hbTrace_get hq)) (HB.lq_last _ _) ⟨o.stRL, ho.stRL, .inl rfl⟩
    ⟨o.ldRL, ho.ldRL, .inl rfl⟩ ?_
  intro k u od h1 h2 hc
  rw [List.getElem?_append_left h2] at hc
  obtain ⟨e, he, hm⟩ := hbTrace_get_inv hc
  obtain ⟨v'', rfl⟩ := toHB_st0 hm
  exact hlast k u v'' h1 he

/-- every earlier decrement of a counter synchronises with the load of it that has just been
performed: nothing ever stores to a counter, so no release sequence on it is broken -/
theorem sw_cnt (ho : o.OK) {d : Nat} {old v : Nat}
    (hd : es[d]? = some (r, .dec c old)) :
    HB.Sw (hbTrace o es ++ [(t, toHB o (.ldCnt c v))]) d (hbTrace o es).length := by
  have hlt : d < (hbTrace o es).length := by simp; exact HB.lq_lt hd
  refine .atomic (a := cntLoc c) hlt (HB.lq_mono _ (hbTrace_get hd)) (HB.lq_last _ _) ⟨o.dec, ho.dec, .inr rfl⟩
    ⟨o.ldCnt, ho.ldCnt, .inl rfl⟩ ?_
  intro k u od _ h2 hc
  rw [List.getElem?_append_left h2] at hc
  obtain ⟨e, _, hm⟩ := hbTrace_get_inv hc
  exact toHB_st_cnt hm

theorem po_hb {j : Nat} {ei ej : Ev} (hij : i < j)
    (hi : es[i]? = some (t, ei)) (hj : es[j]? = some (t, ej)) : HB.HB (hbTrace o es) i j :=
  .po hij (hbTrace_get hi) (hbTrace_get hj)

/-- position `i` is known to the holder of the write mutex, or — while nobody holds it — ordered
before an unlock (so that the next locker will know it) -/
def Pub (o : Ords) (es : List (Tid × Ev)) : Option Tid → Nat → Prop
  | some t, i => Kn (hbTrace o es) t i
  | none, i => ∃ k v, es[k]? = some (v, Ev.unlock) ∧ HBeq (hbTrace o es) i k

theorem Pub.mono (ext : List (Tid × Ev))
    (h : Pub o es m i) : Pub o (es ++ ext) m i := by
  cases m with
  | some t => simp only [Pub, hbTrace_append] at *; exact h.mono _
  | none =>
    obtain ⟨k, v, h1, h2⟩ := h
    refine ⟨k, v, HB.lq_mono ext h1, ?_⟩
    rw [hbTrace_append]; exact h2.mono _

theorem Pub.lock (t : Tid) (h : Pub o es none i) :
    Pub o (es ++ [(t, .lock)]) (some t) i := by
  obtain ⟨k, v, h1, h2⟩ := h
  simp only [Pub, hbTrace_snoc]
  exact .of_sw h2 (sw_mutex h1)

theorem Pub.unlock {o : Ords} {es : List (Tid × Ev)} {i : Nat} {t : Tid} (h : Pub o es (some t) i) :
    Pub o (es ++ [(t, .unlock)]) none i := by
  refine ⟨es.length, t, HB.lq_last _ _, ?_⟩
  simp only [Pub] at h
  rw [hbTrace_snoc]
  have := h.hbeq_of_own (e := toHB o .unlock)
  simpa using this

theorem Pub.self (es : List (Tid × Ev)) (t : Tid) (e : Ev) :
    Pub o (es ++ [(t, e)]) (some t) es.length := by
  simp only [Pub]
  exact .self (hbTrace_get (HB.lq_last _ _))

theorem Pub.hb_last (hi : i < es.length)
    (h : Pub o (es ++ [(t, e)]) (some t) i) : HB.HB (hbTrace o (es ++ [(t, e)])) i es.length := by
  simp only [Pub, hbTrace_snoc] at *
  rcases h.hb_last with h | h
  · simp at h; omega
  · simpa using h

end ConcVerif.LR
