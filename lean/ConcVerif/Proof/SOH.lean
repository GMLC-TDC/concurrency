import ConcVerif.Proof.SOHSpec
/-! Invariants of the concurrent layer of the SearchableObjectHolder model:
* `LkInv`  — the lock is held exactly by the thread inside a critical section (mutual exclusion, no leak);
* `HInv`   — the maps are well-formed and the ghost history, replayed through the sequential
             specification from the empty maps, reproduces every recorded result and ends in the
             current maps (linearizability); each thread's pending result is its last history entry;
* `AInv`   — the reference ledger: everything stored or held was created and is not destroyed;
* `DInv`   — a thread past the destructor's final release exists only once the holder is gone;
`Inv` is the four together (`inv_reachable`).  A fifth, `JInv` (one destructor at a time, nobody locks after its
final release), is needed by the happens-before connection only and lives in Proof/HBSOH.lean (`jinv_reachable`).

`Tr` is this component's step relation (what other components call `Step`): one constructor per accepted edge of
`step`, with `step_tr : step s t e = some s' → Tr s t e s'` and its converse `tr_step`.  Every invariant is a case
analysis over `Tr`.  Most edges end in `x.setPc t q` with `x` equal to `s` in all fields but a few: each invariant
has a frame lemma stated for exactly that shape, with `x` and `q` variables, which an arm applies by syntactic
match, closing `x.pc = s.pc` and the like by `rfl`. -/
namespace ConcVerif.SOH

inductive Tr (s : St) (t : Tid) : Ev → St → Prop
  | pdt (k : ObjId) (hc : k ∈ s.created) (hd : k ∉ s.dead) (hm : ∀ x ∈ s.maps.objs, x.2 ≠ k)
      (hh : ∀ h ∈ s.held, h.2 ≠ k) : Tr s t (.pdt k) { s with dead := k :: s.dead }
  | callNew (op : Op) (k : ObjId) (hp : s.pc t = .idle) (hg : s.gone = false) (hn : op.newId = some k)
      (hf : k ∉ s.created) :
      Tr s t (.call op) ({ s with created := k :: s.created, held := (t, k) :: s.held }.setPc t (.called op))
  | call (op : Op) (hp : s.pc t = .idle) (hg : s.gone = false) (hn : op.newId = none) :
      Tr s t (.call op) (s.setPc t (.called op))
  | rel (k : ObjId) (hp : s.pc t = .idle) (hh : (t, k) ∈ s.held) :
      Tr s t (.rel k) { s with held := s.held.erase (t, k) }
  | lin (op : Op) (hp : s.pc t = .called op) (hl : s.lock = none) (hg : s.gone = false) :
      Tr s t .mlk ({ s with lock := some t, maps := (apply s.maps op).1,
                            hist := s.hist ++ [HEntry.mk t op (apply s.maps op).2],
                            held := heldAfter t op (apply s.maps op).2 s.held }.setPc t
                    (.cs op (apply s.maps op).2 (predCalls s.maps op)))
  | pcl (op : Op) (res : Res) (k : ObjId) (pend : List ObjId) (hp : s.pc t = .cs op res (k :: pend)) :
      Tr s t (.pcl k) (s.setPc t (.cs op res pend))
  | uth (op : Op) (hp : s.pc t = .cs op .threw []) : Tr s t .uth (s.setPc t (.thrown op))
  | mulCs (op : Op) (res : Res) (hp : s.pc t = .cs op res []) (hr : res ≠ .threw) (hl : s.lock = some t) :
      Tr s t .mul ({ s with lock := none }.setPc t (.unlocked op res))
  | mulThrown (op : Op) (hp : s.pc t = .thrown op) (hl : s.lock = some t) :
      Tr s t .mul ({ s with lock := none }.setPc t (.unlocked op .threw))
  | ret (op : Op) (res : Res) (hp : s.pc t = .unlocked op res) (hr : res ≠ .threw) :
      Tr s t (.ret res) (s.setPc t .idle)
  | exc (op : Op) (hp : s.pc t = .unlocked op .threw) : Tr s t .exc (s.setPc t .idle)
  | callD (hp : s.pc t = .idle) (hg : s.gone = false) (hd : s.dt = false) :
      Tr s t .callD ({ s with dt := true }.setPc t .dCalled)
  | dLock (hp : s.pc t = .dCalled) (hl : s.lock = none) : Tr s t .mlk ({ s with lock := some t }.setPc t (.dLocked 0))
  | dFinal (c : Nat) (hp : s.pc t = .dLocked c) (hl : s.lock = some t) (hc : s.maps.objs = [] ∨ 7 ≤ c) :
      Tr s t .mul ({ s with lock := none, maps := Maps.empty, gone := true }.setPc t .dDone)
  | dRetry (c : Nat) (hp : s.pc t = .dLocked c) (hl : s.lock = some t) (hc : ¬ (s.maps.objs = [] ∨ 7 ≤ c)) :
      Tr s t .mul ({ s with lock := none }.setPc t (.dWait (c + 1)))
  | dYld (c : Nat) (hp : s.pc t = .dWait c) (hc : c % 2 = 1) : Tr s t .yld (s.setPc t (.dRelock c))
  | dSlp (c : Nat) (hp : s.pc t = .dWait c) (hc : c % 2 = 0) : Tr s t .slp (s.setPc t (.dRelock c))
  | dRelock (c : Nat) (hp : s.pc t = .dRelock c) (hl : s.lock = none) :
      Tr s t .mlk ({ s with lock := some t }.setPc t (.dLocked c))
  | retD (hp : s.pc t = .dDone) : Tr s t .retD (s.setPc t .idle)
  | mac (hl : s.lock = some t ∨ s.pc t = .dDone) : Tr s t .mac s

variable {s s' : St} {t u : Tid} {e : Ev} {p q : Pc}

theorem step_tr (hs : step s t e = some s') : Tr s t e s' := by
  unfold step at hs
  -- one bullet per alternative of the `match` in `step`, in its order; the constructors of `Tr` are in the same order
  split at hs
  · obtain ⟨h, ⟨⟩⟩ := Option.ite_none_right_eq_some.mp hs; exact .pdt _ h.1 h.2.1 h.2.2.1 h.2.2.2
  · rename_i op hpc
    split at hs
    · rename_i hg
      split at hs
      · rename_i k hn; obtain ⟨hf, ⟨⟩⟩ := Option.ite_none_right_eq_some.mp hs; exact .callNew op k hpc hg hn hf
      · rename_i hn; cases hs; exact .call op hpc hg hn
    · cases hs
  · rename_i k hpc; obtain ⟨hh, ⟨⟩⟩ := Option.ite_none_right_eq_some.mp hs; exact .rel k hpc hh
  · rename_i op hpc; obtain ⟨h, ⟨⟩⟩ := Option.ite_none_right_eq_some.mp hs; exact .lin op hpc h.1 h.2
  · rename_i op res k' pend k hpc; obtain ⟨rfl, ⟨⟩⟩ := Option.ite_none_right_eq_some.mp hs; exact .pcl op res k pend hpc
  · rename_i op res hpc; obtain ⟨rfl, ⟨⟩⟩ := Option.ite_none_right_eq_some.mp hs; exact .uth op hpc
  · rename_i op res hpc; obtain ⟨h, ⟨⟩⟩ := Option.ite_none_right_eq_some.mp hs; exact .mulCs op res hpc h.1 h.2
  · rename_i op hpc; obtain ⟨h, ⟨⟩⟩ := Option.ite_none_right_eq_some.mp hs; exact .mulThrown op hpc h
  · rename_i op res r hpc; obtain ⟨⟨rfl, hr⟩, ⟨⟩⟩ := Option.ite_none_right_eq_some.mp hs; exact .ret op _ hpc hr
  · rename_i op res hpc; obtain ⟨rfl, ⟨⟩⟩ := Option.ite_none_right_eq_some.mp hs; exact .exc op hpc
  · rename_i hpc; obtain ⟨h, ⟨⟩⟩ := Option.ite_none_right_eq_some.mp hs; exact .callD hpc h.1 h.2
  · rename_i hpc; obtain ⟨h, ⟨⟩⟩ := Option.ite_none_right_eq_some.mp hs; exact .dLock hpc h
  · rename_i c hpc
    split at hs
    · rename_i hl
      split at hs
      · rename_i hc; cases hs; exact .dFinal c hpc hl hc
      · rename_i hc; cases hs; exact .dRetry c hpc hl hc
    · cases hs
  · rename_i c hpc; obtain ⟨hc, ⟨⟩⟩ := Option.ite_none_right_eq_some.mp hs; exact .dYld c hpc hc
  · rename_i c hpc; obtain ⟨hc, ⟨⟩⟩ := Option.ite_none_right_eq_some.mp hs; exact .dSlp c hpc hc
  · rename_i c hpc; obtain ⟨h, ⟨⟩⟩ := Option.ite_none_right_eq_some.mp hs; exact .dRelock c hpc h
  · rename_i hpc; cases hs; exact .retD hpc
  · obtain ⟨h, ⟨⟩⟩ := Option.ite_none_right_eq_some.mp hs; exact .mac h
  · cases hs

theorem tr_step {s s' : St} {t : Tid} {e : Ev} (h : Tr s t e s') : step s t e = some s' := by
  unfold step
  cases h with
  | pdt k hc hd hm hh => exact if_pos ⟨hc, hd, hm, hh⟩
  | mac hl => cases hp : s.pc t <;> exact if_pos (hp ▸ hl)
  | callNew op k hp hg hn hf => rw [hp]; exact (if_pos hg).trans (by rw [hn]; exact if_pos hf)
  | call op hp hg hn => rw [hp]; exact (if_pos hg).trans (by rw [hn])
  | dFinal c hp hl hc => rw [hp]; exact (if_pos hl).trans (if_pos hc)
  | dRetry c hp hl hc => rw [hp]; exact (if_pos hl).trans (if_neg hc)
  | retD hp => rw [hp]
  | rel _ hp h | mulThrown _ hp h | dLock hp h | dRelock _ hp h | dYld _ hp h | dSlp _ hp h => rw [hp]; exact if_pos h
  | pcl _ _ _ _ hp | uth _ hp | exc _ hp => rw [hp]; exact if_pos rfl
  | lin _ hp h1 h2 | mulCs _ _ hp h1 h2 | callD hp h1 h2 => rw [hp]; exact if_pos ⟨h1, h2⟩
  | ret _ _ hp hr => rw [hp]; exact if_pos ⟨rfl, hr⟩

@[simp] theorem setPc_pc_same (s : St) (t : Tid) (p : Pc) : (s.setPc t p).pc t = p := by simp [St.setPc]
theorem setPc_pc_other (s : St) (t u : Tid) (p : Pc) (h : u ≠ t) : (s.setPc t p).pc u = s.pc u := by
  simp [St.setPc, upd, h]
@[simp] theorem setPc_maps (s : St) (t : Tid) (p : Pc) : (s.setPc t p).maps = s.maps := rfl
@[simp] theorem setPc_lock (s : St) (t : Tid) (p : Pc) : (s.setPc t p).lock = s.lock := rfl
@[simp] theorem setPc_hist (s : St) (t : Tid) (p : Pc) : (s.setPc t p).hist = s.hist := rfl
@[simp] theorem setPc_held (s : St) (t : Tid) (p : Pc) : (s.setPc t p).held = s.held := rfl
@[simp] theorem setPc_created (s : St) (t : Tid) (p : Pc) : (s.setPc t p).created = s.created := rfl
@[simp] theorem setPc_dead (s : St) (t : Tid) (p : Pc) : (s.setPc t p).dead = s.dead := rfl
@[simp] theorem setPc_gone (s : St) (t : Tid) (p : Pc) : (s.setPc t p).gone = s.gone := rfl
@[simp] theorem setPc_dt (s : St) (t : Tid) (p : Pc) : (s.setPc t p).dt = s.dt := rfl

theorem tr_pc_other (h : Tr s t e s') (hu : u ≠ t) : s'.pc u = s.pc u := by
  cases h with
  | pdt | rel | mac => rfl
  | _ => exact setPc_pc_other _ t u _ hu

def Pc.inCS : Pc → Bool
  | .cs _ _ _ => true
  | .thrown _ => true
  | .dLocked _ => true
  | _ => false

def LkInv (s : St) : Prop := ∀ u, s.lock = some u ↔ (s.pc u).inCS = true

theorem lk_init : LkInv init := by intro u; simp [init, Pc.inCS]

theorem lk_frame {x : St} (h : LkInv s) (hp : s.pc t = p) (hpc : x.pc = s.pc)
    (hcase : (x.lock = s.lock ∧ q.inCS = p.inCS) ∨
             (s.lock = none ∧ x.lock = some t ∧ q.inCS = true) ∨
             (s.lock = some t ∧ x.lock = none ∧ q.inCS = false)) : LkInv (x.setPc t q) := by
  intro u
  show x.lock = some u ↔ (upd x.pc t q u).inCS = true
  rw [hpc]
  by_cases hu : u = t
  · subst hu
    rw [upd_same]
    rcases hcase with ⟨h1, h2⟩ | ⟨_, h2, h3⟩ | ⟨_, h2, h3⟩
    · rw [h1, h2, ← hp]; exact h u
    · simp [h2, h3]
    · simp [h2, h3]
  · rw [upd_other _ _ _ _ hu, ← h u]
    rcases hcase with ⟨h1, _⟩ | ⟨h1, h2, _⟩ | ⟨h1, h2, _⟩
    · rw [h1]
    · simp [h1, h2, Ne.symm hu]
    · simp [h1, h2, Ne.symm hu]

theorem lk_tr (h : LkInv s) (htr : Tr s t e s') : LkInv s' := by
  cases htr with
  | pdt | rel | mac => exact h
  | callNew _ _ hp | call _ hp | pcl _ _ _ _ hp | uth _ hp | ret _ _ hp | exc _ hp | callD hp | dYld _ hp
  | dSlp _ hp | retD hp => exact lk_frame h hp rfl (.inl ⟨rfl, rfl⟩)
  | lin _ hp hl | dLock hp hl | dRelock _ hp hl => exact lk_frame h hp rfl (.inr (.inl ⟨hl, rfl, rfl⟩))
  | mulCs _ _ hp _ hl | mulThrown _ hp hl | dFinal _ hp hl | dRetry _ hp hl =>
    exact lk_frame h hp rfl (.inr (.inr ⟨hl, rfl, rfl⟩))

/-- replay a history through the sequential specification; `none` if a recorded result differs -/
def replay (m : Maps) : List HEntry → Option Maps
  | [] => some m
  | e :: es => if (apply m e.op).2 = e.res then replay (apply m e.op).1 es else none

theorem replay_append (m : Maps) (a b : List HEntry) :
    replay m (a ++ b) = (replay m a).bind (fun m' => replay m' b) := by
  induction a generalizing m with
  | nil => rfl
  | cons e es ih =>
    simp only [List.cons_append, replay]
    split
    · exact ih _
    · rfl

def lastOf (t : Tid) : List HEntry → Option HEntry
  | [] => none
  | e :: es =>
      match lastOf t es with
      | some x => some x
      | none => if e.t = t then some e else none

theorem lastOf_snoc (t : Tid) (h : List HEntry) (e : HEntry) :
    lastOf t (h ++ [e]) = if e.t = t then some e else lastOf t h := by
  induction h with
  | nil => simp [lastOf]
  | cons a r ih =>
    simp only [List.cons_append, lastOf, ih]
    by_cases he : e.t = t <;> simp [he]

theorem lastOf_mem {t : Tid} {h : List HEntry} {e : HEntry} (hl : lastOf t h = some e) : e ∈ h ∧ e.t = t := by
  induction h with
  | nil => cases hl
  | cons a r ih =>
    simp only [lastOf] at hl
    split at hl
    · rename_i x hx
      cases hl
      exact ⟨List.mem_cons_of_mem _ (ih hx).1, (ih hx).2⟩
    · split at hl
      · rename_i hat; cases hl; exact ⟨List.mem_cons_self, hat⟩
      · cases hl

/-- the call a thread is executing and the result the specification gave it -/
def Pc.cur : Pc → Option (Op × Res)
  | .cs op res _ => some (op, res)
  | .thrown op => some (op, .threw)
  | .unlocked op res => some (op, res)
  | _ => none

structure HInv (s : St) : Prop where
  wf : WF s.maps
  rep : s.gone = false → replay Maps.empty s.hist = some s.maps
  goneEmpty : s.gone = true → s.maps = Maps.empty
  mine : ∀ u op res, (s.pc u).cur = some (op, res) → lastOf u s.hist = some ⟨u, op, res⟩

theorem hinv_init : HInv init :=
  ⟨⟨sorted_nil, sorted_nil⟩, fun _ => rfl, Bool.noConfusion, fun _ _ _ h => nomatch h⟩

/-- `t` moves to a pc that names no call or the call it named before, the history is unchanged: each thread's
pending call is still its last history entry; the facts about the maps are given for the new state -/
theorem hinv_frame {x : St} (h : HInv s) (hwf : WF x.maps)
    (hrep : x.gone = false → replay Maps.empty x.hist = some x.maps) (hge : x.gone = true → x.maps = Maps.empty)
    (hh : x.hist = s.hist) (hpc : x.pc = s.pc) (hcur : q.cur = none ∨ q.cur = (s.pc t).cur) : HInv (x.setPc t q) := by
  refine ⟨hwf, hrep, hge, fun u op res hu => ?_⟩
  change (upd x.pc t q u).cur = _ at hu
  rw [hpc] at hu
  show lastOf u x.hist = _
  rw [hh]
  by_cases hut : u = t
  · subst hut
    rw [upd_same] at hu
    rcases hcur with hc | hc <;> rw [hc] at hu
    · cases hu
    · exact h.mine u op res hu
  · rw [upd_other _ _ _ _ hut] at hu; exact h.mine u op res hu

theorem hinv_tr (h : HInv s) (htr : Tr s t e s') : HInv s' := by
  cases htr with
  | pdt | rel | mac => exact ⟨h.wf, h.rep, h.goneEmpty, h.mine⟩
  | pcl _ _ _ _ hp | uth _ hp | mulCs _ _ hp | mulThrown _ hp =>
    exact hinv_frame h h.wf h.rep h.goneEmpty rfl rfl (.inr (by rw [hp]; rfl))
  | dFinal => exact hinv_frame h ⟨sorted_nil, sorted_nil⟩ Bool.noConfusion (fun _ => rfl) rfl rfl (.inl rfl)
  | lin op hp hl hg =>
    refine ⟨apply_wf h.wf op, fun _ => ?_, fun hg' => Bool.noConfusion (hg.symm.trans hg'),
      fun u op' res' hu => ?_⟩
    · show replay Maps.empty (s.hist ++ [⟨t, op, (apply s.maps op).2⟩]) = some (apply s.maps op).1
      rw [replay_append, h.rep hg]
      simp [replay]
    · show lastOf u (s.hist ++ [⟨t, op, (apply s.maps op).2⟩]) = _
      rw [lastOf_snoc]
      by_cases hut : u = t
      · subst hut
        rw [setPc_pc_same] at hu
        cases hu
        exact if_pos rfl
      · rw [setPc_pc_other _ t u _ hut] at hu
        rw [if_neg (fun hh : t = u => hut hh.symm)]
        exact h.mine u op' res' hu
  | _ => exact hinv_frame h h.wf h.rep h.goneEmpty rfl rfl (.inl rfl)

structure AInv (s : St) : Prop where
  heldCreated : ∀ h ∈ s.held, h.2 ∈ s.created
  mapCreated : ∀ x ∈ s.maps.objs, x.2 ∈ s.created
  deadCreated : ∀ k ∈ s.dead, k ∈ s.created
  heldAlive : ∀ h ∈ s.held, h.2 ∉ s.dead
  mapAlive : ∀ x ∈ s.maps.objs, x.2 ∉ s.dead
  argHeld : ∀ u op k, s.pc u = .called op → op.newId = some k → (u, k) ∈ s.held
  resHeld : ∀ u op res, (s.pc u).cur = some (op, res) → ∀ k ∈ res.ids, (u, k) ∈ s.held

theorem ainv_init : AInv init := by
  refine ⟨?_, ?_, ?_, ?_, ?_, ?_, ?_⟩ <;> simp [init, Maps.empty, Pc.cur]

/-- the ledger after a step of `t`: the other threads keep their references, `t`'s new pc `q` claims only what
`t` holds, and whatever is stored or held afterwards is created and alive -/
theorem ainv_of (h : AInv s) (hpc : s'.pc = upd s.pc t q)
    (hk : ∀ u k, u ≠ t → (u, k) ∈ s.held → (u, k) ∈ s'.held)
    (harg : ∀ op k, q = .called op → op.newId = some k → (t, k) ∈ s'.held)
    (hres : ∀ op res, q.cur = some (op, res) → ∀ k ∈ res.ids, (t, k) ∈ s'.held)
    (hheld : ∀ x ∈ s'.held, x.2 ∈ s'.created ∧ x.2 ∉ s'.dead)
    (hmap : ∀ x ∈ s'.maps.objs, x.2 ∈ s'.created ∧ x.2 ∉ s'.dead) (hdead : ∀ k ∈ s'.dead, k ∈ s'.created) :
    AInv s' := by
  refine ⟨fun x hx => (hheld x hx).1, fun x hx => (hmap x hx).1, hdead, fun x hx => (hheld x hx).2,
    fun x hx => (hmap x hx).2, fun u op k hu hn => ?_, fun u op res hu k hk' => ?_⟩
  · rw [hpc] at hu
    by_cases hut : u = t
    · subst hut; rw [upd_same] at hu; exact harg op k hu hn
    · rw [upd_other _ _ _ _ hut] at hu; exact hk u k hut (h.argHeld u op k hu hn)
  · rw [hpc] at hu
    by_cases hut : u = t
    · subst hut; rw [upd_same] at hu; exact hres op res hu k hk'
    · rw [upd_other _ _ _ _ hut] at hu; exact hk u k hut (h.resHeld u op res hu k hk')

theorem AInv.heldOk (h : AInv s) : ∀ x ∈ s.held, x.2 ∈ s.created ∧ x.2 ∉ s.dead :=
  fun x hx => ⟨h.heldCreated x hx, h.heldAlive x hx⟩

theorem AInv.mapOk (h : AInv s) : ∀ x ∈ s.maps.objs, x.2 ∈ s.created ∧ x.2 ∉ s.dead :=
  fun x hx => ⟨h.mapCreated x hx, h.mapAlive x hx⟩

/-- a step that does not touch `held` and moves `t` to a pc that claims nothing new -/
theorem ainv_frame {x : St} (h : AInv s) (hh : x.held = s.held) (hpc : x.pc = s.pc)
    (hcalled : ∀ op, q = .called op → op.newId = none) (hcur : q.cur = none ∨ q.cur = (s.pc t).cur)
    (hheld : ∀ y ∈ x.held, y.2 ∈ x.created ∧ y.2 ∉ x.dead) (hmap : ∀ y ∈ x.maps.objs, y.2 ∈ x.created ∧ y.2 ∉ x.dead)
    (hdead : ∀ k ∈ x.dead, k ∈ x.created) : AInv (x.setPc t q) := by
  refine ainv_of h (congrArg (upd · t q) hpc) (fun u k _ hx => hh ▸ hx)
    (fun op k hq hn => nomatch (hcalled op hq).symm.trans hn) (fun op res hq k hk => ?_) hheld hmap hdead
  rcases hcur with hc' | hc' <;> rw [hc'] at hq
  · cases hq
  · exact hh ▸ h.resHeld t op res hq k hk

theorem mem_heldAfter {op : Op} {r : Res} {held : List (Tid × ObjId)} {x : Tid × ObjId}
    (h : x ∈ heldAfter t op r held) : (x.1 = t ∧ x.2 ∈ r.ids) ∨ x ∈ held := by
  simp only [heldAfter, List.mem_append, List.mem_map] at h
  rcases h with ⟨k, hk, rfl⟩ | h
  · exact .inl ⟨rfl, hk⟩
  · split at h
    · exact .inr (List.mem_of_mem_erase h)
    · exact .inr h

theorem mem_heldAfter_other {op : Op} {r : Res} {held : List (Tid × ObjId)} {k : ObjId}
    (hu : u ≠ t) (h : (u, k) ∈ held) : (u, k) ∈ heldAfter t op r held := by
  refine List.mem_append_right _ ?_
  split
  · exact (List.mem_erase_of_ne (fun hh => hu (Prod.mk.inj hh).1)).mpr h
  · exact h

theorem mem_heldAfter_res {op : Op} {r : Res} {held : List (Tid × ObjId)} {k : ObjId}
    (h : k ∈ r.ids) : (t, k) ∈ heldAfter t op r held :=
  List.mem_append_left _ (List.mem_map.mpr ⟨k, h, rfl⟩)

theorem ainv_tr (h : AInv s) (htr : Tr s t e s') : AInv s' := by
  cases htr with
  | mac => exact h
  | call _ _ _ hn =>
    exact ainv_frame h rfl rfl (fun _ hq => by cases hq; exact hn) (.inl rfl) h.heldOk h.mapOk h.deadCreated
  | pcl _ _ _ _ hp | uth _ hp | mulCs _ _ hp | mulThrown _ hp =>
    exact ainv_frame h rfl rfl (fun _ => Pc.noConfusion) (.inr (by rw [hp]; rfl)) h.heldOk h.mapOk h.deadCreated
  | dFinal =>
    exact ainv_frame h rfl rfl (fun _ => Pc.noConfusion) (.inl rfl) h.heldOk (fun _ hx => (List.not_mem_nil hx).elim)
      h.deadCreated
  | pdt k hc hd hm hh =>
    -- `k` joins `dead`: it was created, and nothing stored or held refers to it
    exact ⟨h.heldCreated, h.mapCreated, fun j hj => (List.mem_cons.mp hj).elim (· ▸ hc) (h.deadCreated j),
      fun x hx hx' => (List.mem_cons.mp hx').elim (hh x hx) (h.heldAlive x hx),
      fun x hx hx' => (List.mem_cons.mp hx').elim (hm x hx) (h.mapAlive x hx), h.argHeld, h.resHeld⟩
  | rel k hp hh =>
    exact ainv_of (q := s.pc t) h (upd_self _ _).symm
      (fun u k' hu hx => (List.mem_erase_of_ne (fun hh => hu (Prod.mk.inj hh).1)).mpr hx)
      (fun _ _ hq => by rw [hp] at hq; cases hq) (fun _ _ hq => by rw [hp] at hq; cases hq)
      (fun x hx => h.heldOk x (List.mem_of_mem_erase hx)) h.mapOk h.deadCreated
  | callNew op k hp hg hn hf =>
    -- a fresh object: created, held by `t` as the call's argument, and (being fresh) not dead
    refine ainv_of h rfl (fun u k' _ hx => List.mem_cons_of_mem _ hx)
      (fun _ k' hq hn' => by cases hq; cases hn.symm.trans hn'; exact List.mem_cons_self) (fun _ _ hq => nomatch hq)
      (fun x hx => ?_) (fun x hx => ⟨List.mem_cons_of_mem _ (h.mapCreated x hx), h.mapAlive x hx⟩)
      (fun j hj => List.mem_cons_of_mem _ (h.deadCreated j hj))
    rcases List.mem_cons.mp hx with rfl | hx
    · exact ⟨List.mem_cons_self, fun hdead => hf (h.deadCreated _ hdead)⟩
    · exact ⟨List.mem_cons_of_mem _ (h.heldCreated x hx), h.heldAlive x hx⟩
  | lin op hp hl hg =>
    -- stored afterwards: stored before or the call's argument; held afterwards: held before or a result,
    -- which was stored before
    refine ainv_of h rfl (fun u k' hu hx => mem_heldAfter_other hu hx) (fun _ _ => Pc.noConfusion)
      (fun _ _ hq k' hk' => by cases hq; exact mem_heldAfter_res hk') (fun x hx => ?_) (fun x hx => ?_) h.deadCreated
    · rcases mem_heldAfter hx with ⟨_, hx⟩ | hx
      · obtain ⟨y, hy, hyx⟩ := apply_res_ids hx
        rw [← hyx]; exact h.mapOk y hy
      · exact h.heldOk x hx
    · rcases apply_objs_ids hx with ⟨y, hy, hyx⟩ | hn
      · rw [← hyx]; exact h.mapOk y hy
      · exact h.heldOk (t, x.2) (h.argHeld t op x.2 hp hn)
  | _ => exact ainv_frame h rfl rfl (fun _ => Pc.noConfusion) (.inl rfl) h.heldOk h.mapOk h.deadCreated

def DInv (s : St) : Prop := ∀ u, s.pc u = .dDone → s.gone = true

theorem dinv_init : DInv init := fun _ => Pc.noConfusion

theorem dinv_frame {x : St} (h : DInv s) (hg : x.gone = s.gone) (hpc : x.pc = s.pc) (hq : q ≠ .dDone) :
    DInv (x.setPc t q) := by
  intro u hu
  by_cases hut : u = t
  · rw [hut, setPc_pc_same] at hu; exact absurd hu hq
  · rw [setPc_pc_other _ t u _ hut, hpc] at hu; exact hg ▸ h u hu

theorem dinv_tr (h : DInv s) (htr : Tr s t e s') : DInv s' := by
  cases htr with
  | pdt | rel | mac => exact h
  | dFinal => exact fun _ _ => rfl
  | _ => exact dinv_frame h rfl rfl Pc.noConfusion

structure Inv (s : St) : Prop where
  lk : LkInv s
  h : HInv s
  a : AInv s
  d : DInv s

theorem inv_init : Inv init := ⟨lk_init, hinv_init, ainv_init, dinv_init⟩

theorem inv_step (s : St) (t : Tid) (e : Ev) (s' : St) (hi : Inv s) (hs : step s t e = some s') : Inv s' :=
  have htr := step_tr hs
  ⟨lk_tr hi.lk htr, hinv_tr hi.h htr, ainv_tr hi.a htr, dinv_tr hi.d htr⟩

theorem inv_reachable (h : Reachable s) : Inv s :=
  let ⟨_, hes⟩ := h
  runFrom_inv inv_step inv_init hes

theorem reachable_step (h : Reachable s) (hs : step s t e = some s') : Reachable s' :=
  let ⟨es, hes⟩ := h
  ⟨es ++ [(t, e)], runFrom_snoc_eq_some.mpr ⟨s, hes, hs⟩⟩

end ConcVerif.SOH
