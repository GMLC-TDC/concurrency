import ConcVerif.Model.DObj
/-! Proofs about the sequential specification of `DelayedObjects` (`Seq.apply`): association-list
facts, the well-formedness invariant `WF`, its preservation, definedness (no `set_value` on a
satisfied promise), stability of satisfied promises, the value rule.  Every fact about one method goes
through the relation `App` (the defined branches of `Seq.apply`).  The concurrent layer is in
`Proof/DObjConc.lean`. -/
namespace ConcVerif.DObj

theorem nodup_map_inj {α β : Type} {f : α → β} {l : List α} (hn : (l.map f).Nodup) {a b : α} (ha : a ∈ l)
    (hb : b ∈ l) (h : f a = f b) : a = b := by
  induction l with
  | nil => cases ha
  | cons e r ih =>
    simp only [List.map_cons, List.nodup_cons] at hn
    cases ha with
    | head =>
      cases hb with
      | head => rfl
      | tail _ hb => exact absurd (h ▸ List.mem_map_of_mem hb) hn.1
    | tail _ ha =>
      cases hb with
      | head => exact absurd (h ▸ List.mem_map_of_mem ha) hn.1
      | tail _ hb => exact ih hn.2 ha hb

theorem lookup_mem {k : Key} {p : Id} {l : AList} (h : lookup k l = some p) : (k, p) ∈ l := by
  induction l with
  | nil => cases h
  | cons e r ih =>
    unfold lookup at h
    split at h
    · rename_i he; cases h; cases he; exact .head _
    · exact .tail _ (ih h)

theorem lookup_some_of_mem {k : Key} {p : Id} {l : AList} (h : (k, p) ∈ l) : ∃ q, lookup k l = some q := by
  induction l with
  | nil => cases h
  | cons e r ih =>
    unfold lookup
    split
    · exact ⟨_, rfl⟩
    · rename_i he
      cases h with
      | head => exact absurd rfl he
      | tail _ h => exact ih h

theorem lookup_none_iff {k : Key} {l : AList} : lookup k l = none ↔ ∀ p, (k, p) ∉ l := by
  constructor
  · intro h p hm
    obtain ⟨q, hq⟩ := lookup_some_of_mem hm
    rw [h] at hq; cases hq
  · intro h
    cases hl : lookup k l with
    | none => rfl
    | some q => exact absurd (lookup_mem hl) (h q)

theorem lookup_of_mem {k : Key} {p : Id} {l : AList} (hn : (l.map (·.1)).Nodup) (h : (k, p) ∈ l) :
    lookup k l = some p := by
  obtain ⟨q, hq⟩ := lookup_some_of_mem h
  cases nodup_map_inj hn (lookup_mem hq) h rfl
  exact hq

theorem key_of_id {k k' : Key} {p : Id} {l : AList} (hn : (l.map (·.2)).Nodup) (h : (k, p) ∈ l)
    (h' : (k', p) ∈ l) : k = k' := by
  cases nodup_map_inj hn h h' rfl
  rfl

theorem mem_erase {e : Key × Id} {k : Key} {l : AList} : e ∈ erase k l ↔ e ∈ l ∧ e.1 ≠ k := by
  simp [erase, List.mem_filter]

theorem erase_sublist (k : Key) (l : AList) : List.Sublist (erase k l) l := List.filter_sublist

theorem lookup_filter {k : Key} {P : Key × Id → Bool} (l : AList) (h : ∀ e, e.1 = k → P e = true) :
    lookup k (l.filter P) = lookup k l := by
  induction l with
  | nil => rfl
  | cons e r ih =>
    by_cases hp : P e = true
    · simp only [List.filter_cons_of_pos hp, lookup, ih]
    · have : e.1 ≠ k := fun hk => hp (h e hk)
      simp only [List.filter_cons_of_neg hp, lookup, ih, if_neg this]

theorem lookup_erase (k k' : Key) (l : AList) : lookup k (erase k' l) = if k = k' then none else lookup k l := by
  by_cases hk : k = k'
  · rw [if_pos hk]
    exact lookup_none_iff.2 fun p hm => (mem_erase.1 hm).2 hk
  · rw [if_neg hk]
    exact lookup_filter l fun e he => by simp [he, hk]

theorem lookup_insert (k k' : Key) (p : Id) (l : AList) :
    lookup k (insert k' p l) = if k = k' then some p else lookup k l := by
  by_cases hk : k = k'
  · simp [insert, lookup, hk]
  · simp [insert, lookup, hk, Ne.symm hk, lookup_erase]

theorem mem_insert {e : Key × Id} {k : Key} {p : Id} {l : AList} :
    e ∈ insert k p l ↔ e = (k, p) ∨ (e ∈ l ∧ e.1 ≠ k) := by
  simp [insert, mem_erase]

theorem mem_moveAll {e : Key × Id} {a b : AList} (h : e ∈ moveAll a b) : e ∈ a ∨ e ∈ b := by
  simp only [moveAll, List.mem_append, List.mem_filter] at h
  exact h.imp_right And.left

theorem lookup_append (k : Key) (a b : AList) :
    lookup k (a ++ b) = match lookup k a with | some p => some p | none => lookup k b := by
  induction a with
  | nil => rfl
  | cons e r ih =>
    simp only [List.cons_append, lookup]
    split
    · rfl
    · exact ih

theorem lookup_moveAll (k : Key) (a b : AList) :
    lookup k (moveAll a b) = match lookup k a with | some p => some p | none => lookup k b := by
  rw [moveAll, lookup_append]
  cases h : lookup k a with
  | some p => rfl
  | none =>
    exact lookup_filter b fun e he => by simp [he, h]

theorem allUnset_iff {f : Id → PState} {l : AList} : allUnset f l = true ↔ ∀ k p, (k, p) ∈ l → f p = .unset := by
  simp [allUnset, List.all_eq_true]

theorem fulfil_mem {f : Id → PState} {l : AList} {v : Val} {k : Key} {p : Id} (h : (k, p) ∈ l) :
    fulfil f l v p = .val v := by
  have : p ∈ l.map (·.2) := List.mem_map_of_mem (f := (·.2)) h
  simp [fulfil, this]

theorem fulfil_not_mem {f : Id → PState} {l : AList} {v : Val} {p : Id} (h : ∀ k, (k, p) ∉ l) :
    fulfil f l v p = f p := by
  have : p ∉ l.map (·.2) := by
    intro hm
    obtain ⟨e, he, hp⟩ := List.mem_map.1 hm
    subst hp; exact h e.1 he
  simp [fulfil, this]

theorem fulfil_cases (f : Id → PState) (l : AList) (v : Val) (p : Id) :
    (∃ k, (k, p) ∈ l) ∧ fulfil f l v p = .val v ∨ (∀ k, (k, p) ∉ l) ∧ fulfil f l v p = f p := by
  by_cases h : ∃ k, (k, p) ∈ l
  · exact .inl ⟨h, fulfil_mem h.choose_spec⟩
  · have h' : ∀ k, (k, p) ∉ l := fun k hk => h ⟨k, hk⟩
    exact .inr ⟨h', fulfil_not_mem h'⟩

theorem breakOld_apply (f : Id → PState) (o : Option Id) (x : Id) :
    breakOld f o x = if o = some x ∧ f x = .unset then .broken else f x := by
  cases o with
  | none => simp [breakOld]
  | some q =>
    simp only [breakOld]
    by_cases hq : f q = .unset
    · by_cases hx : x = q
      · subst hx; simp [hq]
      · simp [hq, upd, hx, Ne.symm hx]
    · by_cases hx : q = x
      · subst hx; simp [hq]
      · simp [hq, hx]

structure WF (σ : Seq) : Prop where
  pendUnset : ∀ k p, (k, p) ∈ σ.pending → σ.promise p = .unset
  pendHanded : ∀ k p, (k, p) ∈ σ.pending → p ∈ σ.handed
  pendIds : (σ.pending.map (·.2)).Nodup
  pendKeys : (σ.pending.map (·.1)).Nodup
  usedDone : ∀ k p, (k, p) ∈ σ.used → ∃ v, σ.promise p = .val v
  fresh : ∀ p, p ∉ σ.handed → σ.promise p = .unset
  handedAcc : ∀ p, p ∈ σ.handed → σ.promise p = .unset → ∃ k, (k, p) ∈ σ.pending
  deadEmpty : σ.dead = true → σ.pending = [] ∧ σ.used = []

theorem wf_init : WF Seq.init := by
  constructor <;> simp [Seq.init]

/-- the defined cases of `Seq.apply`, one constructor per branch of `Seq.app` -/
inductive App (σ : Seq) : Op → Seq → Res → List (Id × Val) → Prop
  | get (k : Key) (p : Id) (hp : p ∉ σ.handed) :
      App σ (.get k p)
        { σ with pending := insert k p σ.pending, promise := breakOld σ.promise (lookup k σ.pending),
                 handed := p :: σ.handed } .unit []
  | setNone (k : Key) (v : Val) (mv : Bool) (hl : lookup k σ.pending = none) : App σ (.set k v mv) σ .unit []
  | set (k : Key) (v : Val) (mv : Bool) (p : Id) (hl : lookup k σ.pending = some p) (hu : σ.promise p = .unset) :
      App σ (.set k v mv)
        { σ with pending := erase k σ.pending, used := insert k p σ.used, promise := upd σ.promise p (.val v) }
        .unit [(p, v)]
  | ful (v : Val) (hu : allUnset σ.promise σ.pending = true) :
      App σ (.ful v)
        { σ with pending := [], used := moveAll σ.pending σ.used, promise := fulfil σ.promise σ.pending v }
        .unit (σ.pending.map (fun e => (e.2, v)))
  | isRec (k : Key) : App σ (.isRec k) σ (.bool ((lookup k σ.pending).isSome || (lookup k σ.used).isSome)) []
  | isComp (k : Key) : App σ (.isComp k) σ (.bool (lookup k σ.used).isSome) []
  | fin (k : Key) : App σ (.fin k) { σ with used := erase k σ.used } .unit []
  | dtor (hu : allUnset σ.promise σ.pending = true) :
      App σ .dtor { σ with pending := [], used := [], promise := fulfil σ.promise σ.pending 0, dead := true }
        .unit (σ.pending.map (fun e => (e.2, 0)))

section
variable {σ σ' : Seq} {o : Op} {r : Res} {l : List (Id × Val)}

theorem App.of_apply (h : σ.apply o = some (σ', r, l)) : σ.dead = false ∧ App σ o σ' r l := by
  unfold Seq.apply at h
  split at h
  · cases h
  · rename_i hd
    refine ⟨by simpa using hd, ?_⟩
    cases o <;> dsimp only [Seq.app] at h
    case get k p => split at h <;> cases h; exact .get k p ‹_›
    case set k v mv =>
      split at h
      · cases h; exact .setNone k v mv ‹_›
      · split at h <;> cases h; exact .set k v mv _ ‹_› ‹_›
    case ful v => split at h <;> cases h; exact .ful v ‹_›
    case isRec k => cases h; exact .isRec k
    case isComp k => cases h; exact .isComp k
    case fin k => cases h; exact .fin k
    case dtor => split at h <;> cases h; exact .dtor ‹_›

/-! Where the indices of `App` are variables it is eliminated by `induction` rather than `cases` although it is not
recursive: no equations between the indices arise that way.  Where the method is fixed (`get_pending`) `cases` is used. -/

theorem App.to_apply (hd : σ.dead = false) (ha : App σ o σ' r l) : σ.apply o = some (σ', r, l) := by
  induction ha <;> simp [Seq.apply, Seq.app, *]

/-- retiring the entry under `k` (`getFuture` on a pending key abandons it, `setDelayedValue` completes it): the
pending map loses it, the promise stored there stops being unset, every other promise keeps its state -/
theorem wf_retire {σ : Seq} (w : WF σ) (hd : σ.dead = false) (k : Key) {f : Id → PState}
    (hf : ∀ x, lookup k σ.pending ≠ some x → f x = σ.promise x)
    (hq : ∀ x, lookup k σ.pending = some x → f x ≠ .unset) :
    WF { σ with pending := erase k σ.pending, promise := f } := by
  refine {
    pendUnset := ?_, pendHanded := fun k' p' hm => w.pendHanded k' p' (mem_erase.1 hm).1
    pendIds := w.pendIds.sublist ((erase_sublist k _).map _), pendKeys := w.pendKeys.sublist ((erase_sublist k _).map _)
    usedDone := ?_, fresh := ?_, handedAcc := ?_, deadEmpty := fun h => by simp [hd] at h } <;> dsimp only
  · intro k' p' hm
    -- promise ids are unique, so an entry that stays is not the one under `k`
    rw [hf p' fun h => (mem_erase.1 hm).2 (key_of_id w.pendIds (mem_erase.1 hm).1 (lookup_mem h))]
    exact w.pendUnset k' p' (mem_erase.1 hm).1
  · intro k' p' hm
    obtain ⟨v, hv⟩ := w.usedDone k' p' hm
    refine ⟨v, ?_⟩
    rw [hf p' fun h => ?_, hv]
    rw [w.pendUnset k p' (lookup_mem h)] at hv; cases hv
  · intro p' hp'
    rw [hf p' fun h => hp' (w.pendHanded k p' (lookup_mem h))]
    exact w.fresh p' hp'
  · intro p' hp' hu
    have hl : lookup k σ.pending ≠ some p' := fun h => hq p' h hu
    rw [hf p' hl] at hu
    obtain ⟨k', hk'⟩ := w.handedAcc p' hp' hu
    exact ⟨k', mem_erase.2 ⟨hk', fun hkk => hl (hkk ▸ lookup_of_mem w.pendKeys hk')⟩⟩

theorem wf_add {σ : Seq} (w : WF σ) (hd : σ.dead = false) {k : Key} {p : Id} (hk : lookup k σ.pending = none)
    (hp : p ∉ σ.handed) : WF { σ with pending := (k, p) :: σ.pending, handed := p :: σ.handed } := by
  refine { w with
    pendUnset := ?_, pendHanded := ?_
    pendIds := List.nodup_cons.2 ⟨fun hm => ?_, w.pendIds⟩, pendKeys := List.nodup_cons.2 ⟨fun hm => ?_, w.pendKeys⟩
    fresh := fun p' hp' => w.fresh p' fun h => hp' (.tail _ h)
    handedAcc := ?_, deadEmpty := fun h => by simp [hd] at h }
  · intro k' p' hm
    cases hm with
    | head => exact w.fresh p hp
    | tail _ hm => exact w.pendUnset k' p' hm
  · intro k' p' hm
    cases hm with
    | head => exact .head _
    | tail _ hm => exact .tail _ (w.pendHanded k' p' hm)
  · obtain ⟨e, he, rfl⟩ := List.mem_map.1 hm
    exact hp (w.pendHanded e.1 e.2 he)
  · obtain ⟨e, he, rfl⟩ := List.mem_map.1 hm
    exact lookup_none_iff.1 hk e.2 he
  · intro p' hp' hu
    cases hp' with
    | head => exact ⟨k, .head _⟩
    | tail _ hp' =>
      obtain ⟨k', hk'⟩ := w.handedAcc p' hp' hu
      exact ⟨k', .tail _ hk'⟩

/-- `fulfillAllPromises` and the destructor: every pending promise is satisfied and the pending map emptied;
the completed map keeps only entries it had or that were pending -/
theorem wf_sweep {σ : Seq} (w : WF σ) (v : Val) {used : AList} {dead : Bool}
    (hused : ∀ k p, (k, p) ∈ used → (k, p) ∈ σ.pending ∨ (k, p) ∈ σ.used) (hdead : dead = true → used = []) :
    WF { σ with pending := [], used := used, promise := fulfil σ.promise σ.pending v, dead := dead } := by
  refine {
    pendUnset := by simp, pendHanded := by simp, pendIds := .nil, pendKeys := .nil
    usedDone := ?_, fresh := ?_, handedAcc := ?_, deadEmpty := fun h => ⟨rfl, hdead h⟩ } <;> dsimp only
  · intro k p hm
    rcases fulfil_cases σ.promise σ.pending v p with ⟨_, h2⟩ | ⟨h1, h2⟩
    · exact ⟨v, h2⟩
    · rw [h2]
      exact w.usedDone k p ((hused k p hm).resolve_left (h1 k))
  · intro p hp
    rw [fulfil_not_mem fun k hk => hp (w.pendHanded k p hk)]
    exact w.fresh p hp
  · intro p hp hu
    rcases fulfil_cases σ.promise σ.pending v p with ⟨_, h2⟩ | ⟨h1, h2⟩
    · rw [h2] at hu; cases hu
    · rw [h2] at hu
      obtain ⟨k, hk⟩ := w.handedAcc p hp hu
      exact absurd hk (h1 k)

theorem wf_apply (w : WF σ) (h : σ.apply o = some (σ', r, l)) : WF σ' := by
  obtain ⟨hd, ha⟩ := App.of_apply h
  induction ha with
  | get k p hp =>
    exact wf_add
      (wf_retire w hd k (f := breakOld σ.promise (lookup k σ.pending)) (fun x h => by simp [breakOld_apply, h])
        fun x h => by rw [breakOld_apply]; split <;> simp_all)
      hd (by simp [lookup_erase]) hp
  | set k v mv p hl hu =>
    have w' := wf_retire w hd k (f := upd σ.promise p (.val v))
      (fun x h => by have : x ≠ p := fun e => h (e ▸ hl); simp [upd, this])
      (fun x h => by rw [hl] at h; cases h; simp [upd])
    refine { w' with usedDone := fun k' p' hm => ?_, deadEmpty := fun h => by simp [hd] at h }
    rcases mem_insert.1 hm with he | ⟨hm, _⟩
    · cases he; exact ⟨v, by simp [upd]⟩
    · exact w'.usedDone k' p' hm
  | ful v hu => exact wf_sweep w v (fun _ _ => mem_moveAll) (fun h => by simp [hd] at h)
  | fin k =>
    exact { w with usedDone := fun k' p hm => w.usedDone k' p (mem_erase.1 hm).1,
                   deadEmpty := fun h => by simp [hd] at h }
  | dtor hu => exact wf_sweep w 0 (by simp) (fun _ => rfl)
  | _ => exact w

/-- **No `promise_already_satisfied`.**  On a well-formed live container every method is defined
(for `getFuture`: given a fresh promise name): no `set_value` is ever attempted on a promise that
already holds a value. -/
theorem apply_defined {σ : Seq} (w : WF σ) (hd : σ.dead = false) (o : Op)
    (hf : ∀ k p, o = .get k p → p ∉ σ.handed) : ∃ x, σ.apply o = some x := by
  have hall : allUnset σ.promise σ.pending = true := allUnset_iff.2 w.pendUnset
  cases o with
  | get k p => exact ⟨_, App.to_apply hd (.get k p (hf k p rfl))⟩
  | set k v mv =>
    cases hl : lookup k σ.pending with
    | none => exact ⟨_, App.to_apply hd (.setNone k v mv hl)⟩
    | some p => exact ⟨_, App.to_apply hd (.set k v mv p hl (w.pendUnset k p (lookup_mem hl)))⟩
  | ful v => exact ⟨_, App.to_apply hd (.ful v hall)⟩
  | isRec k => exact ⟨_, App.to_apply hd (.isRec k)⟩
  | isComp k => exact ⟨_, App.to_apply hd (.isComp k)⟩
  | fin k => exact ⟨_, App.to_apply hd (.fin k)⟩
  | dtor => exact ⟨_, App.to_apply hd (.dtor hall)⟩

theorem fulfil_vals {f : Id → PState} {P : AList} (u : Val) (hu : allUnset f P = true) :
    (∀ p v, (p, v) ∈ P.map (fun e => (e.2, u)) → f p = .unset) ∧
    (∀ p v, fulfil f P u p = .val v ↔ f p = .val v ∨ (p, v) ∈ P.map (fun e => (e.2, u))) := by
  refine ⟨fun p v hm => ?_, fun p v => ?_⟩
  · obtain ⟨e, he, hpe⟩ := List.mem_map.1 hm
    cases hpe
    exact allUnset_iff.1 hu e.1 e.2 he
  · rcases fulfil_cases f P u p with ⟨⟨k, hk⟩, h2⟩ | ⟨h1, h2⟩
    · rw [h2, allUnset_iff.1 hu k p hk]
      constructor
      · intro hv; cases hv; exact .inr (List.mem_map.2 ⟨(k, p), hk, rfl⟩)
      · rintro (hv | hm)
        · cases hv
        · obtain ⟨e, _, hpe⟩ := List.mem_map.1 hm
          cases hpe; rfl
    · rw [h2]
      refine ⟨.inl, fun hv => hv.resolve_right fun hm => ?_⟩
      obtain ⟨e, he, hpe⟩ := List.mem_map.1 hm
      cases hpe; exact h1 e.1 he

/-- the `set_value` calls of one method are made on promises that were unset, and a promise has a value afterwards
exactly if it had it before or was set now -/
theorem apply_vals (h : σ.apply o = some (σ', r, l)) :
    (∀ p v, (p, v) ∈ l → σ.promise p = .unset) ∧
    (∀ p v, σ'.promise p = .val v ↔ σ.promise p = .val v ∨ (p, v) ∈ l) := by
  induction (App.of_apply h).2 with
  | get k q hq => exact ⟨by simp, fun p v => by simp only [breakOld_apply]; split <;> simp_all⟩
  | set k u mv q hl hq =>
    refine ⟨fun p v hm => ?_, fun p v => ?_⟩
    · cases List.mem_singleton.1 hm; exact hq
    · by_cases hp : p = q
      · subst hp; simp [upd, hq, eq_comm]
      · simp [upd, hp]
  | ful u hu => exact fulfil_vals u hu
  | dtor hu => exact fulfil_vals 0 hu
  | _ => exact ⟨by simp, by simp⟩

theorem apply_val_stable {p : Id} {v : Val} (h : σ.apply o = some (σ', r, l)) (hv : σ.promise p = .val v) :
    σ'.promise p = .val v :=
  ((apply_vals h).2 p v).2 (.inl hv)

/-- … and no promise is set twice by one method -/
theorem apply_sets_nodup (w : WF σ) (h : σ.apply o = some (σ', r, l)) : (l.map (·.1)).Nodup := by
  induction (App.of_apply h).2 with
  | ful u hu => rw [List.map_map]; exact w.pendIds
  | dtor hu => rw [List.map_map]; exact w.pendIds
  | _ => simp

theorem apply_same_value (h : σ.apply o = some (σ', r, l)) : ∃ v, ∀ e ∈ l, e.2 = v := by
  induction (App.of_apply h).2 with
  | set k v mv p hl hu => exact ⟨v, by simp⟩
  | ful v hu => exact ⟨v, List.forall_mem_map.2 fun _ _ => rfl⟩
  | dtor hu => exact ⟨0, List.forall_mem_map.2 fun _ _ => rfl⟩
  | _ => exact ⟨0, by simp⟩

theorem apply_handed (h : σ.apply o = some (σ', r, l)) (p : Id) :
    p ∈ σ'.handed ↔ (∃ k, o = .get k p) ∨ p ∈ σ.handed := by
  induction (App.of_apply h).2 <;> simp [eq_comm]

theorem apply_dead (h : σ.apply o = some (σ', r, l)) :
    σ.dead = false ∧ (σ'.dead = true ↔ o = .dtor) := by
  obtain ⟨hd, ha⟩ := App.of_apply h
  exact ⟨hd, by induction ha <;> simp [hd]⟩

end

theorem run_cons {σ σ' : Seq} {e : HEntry} {es : List HEntry} (h : σ.run (e :: es) = some σ') :
    ∃ σ1 l, σ.apply e.op = some (σ1, e.res, l) ∧ σ1.run es = some σ' := by
  simp only [Seq.run] at h
  split at h
  · rename_i σ1 r l ha
    split at h
    · rename_i hr; subst hr; exact ⟨σ1, l, ha, h⟩
    · cases h
  · cases h

theorem run_append (σ : Seq) (a b : List HEntry) : σ.run (a ++ b) = (σ.run a).bind (fun σ' => σ'.run b) := by
  induction a generalizing σ with
  | nil => rfl
  | cons e es ih =>
    simp only [List.cons_append, Seq.run]
    split
    · split
      · exact ih _
      · rfl
    · rfl

theorem run_inv {P : Seq → Prop} (hP : ∀ σ σ' o r l, P σ → σ.apply o = some (σ', r, l) → P σ') {σ σ' : Seq}
    {h : List HEntry} (h0 : P σ) (hr : σ.run h = some σ') : P σ' := by
  induction h generalizing σ with
  | nil => cases hr; exact h0
  | cons e es ih =>
    obtain ⟨σ1, l, ha, hr⟩ := run_cons hr
    exact ih (hP _ _ _ _ _ h0 ha) hr

theorem run_wf {σ σ' : Seq} {h : List HEntry} (w : WF σ) (hr : σ.run h = some σ') : WF σ' :=
  run_inv (fun _ _ _ _ _ w ha => wf_apply w ha) w hr

theorem run_dead {σ σ' : Seq} {h : List HEntry} (hr : σ.run h = some σ') (hd : σ'.dead = true)
    (h0 : σ.dead = false) : ∃ e ∈ h, e.op = .dtor := by
  induction h generalizing σ with
  | nil => cases hr; rw [h0] at hd; cases hd
  | cons e es ih =>
    obtain ⟨σ1, l, ha, hr⟩ := run_cons hr
    cases h1 : σ1.dead with
    | true => exact ⟨e, .head _, (apply_dead ha).2.1 h1⟩
    | false =>
      obtain ⟨e', hm, he'⟩ := ih hr h1
      exact ⟨e', .tail _ hm, he'⟩

/-- nothing is applied after the destructor, so a container with the destructor in its history is destroyed -/
theorem run_dtor_dead {σ σ' : Seq} {h : List HEntry} (hr : σ.run h = some σ') (hd : ∃ e ∈ h, e.op = .dtor) :
    σ'.dead = true := by
  induction h generalizing σ with
  | nil => obtain ⟨_, hm, _⟩ := hd; cases hm
  | cons e es ih =>
    obtain ⟨σ1, l, ha, hr1⟩ := run_cons hr
    obtain ⟨e', hm, he'⟩ := hd
    cases hm with
    | tail _ hm => exact ih hr1 ⟨e', hm, he'⟩
    | head =>
      have h1 := (apply_dead ha).2.2 he'
      cases es with
      | nil => cases hr1; exact h1
      | cons e2 es2 =>
        obtain ⟨_, _, ha2, _⟩ := run_cons hr1
        rw [(apply_dead ha2).1] at h1; cases h1

theorem run_handed {σ σ' : Seq} {h : List HEntry} (hr : σ.run h = some σ') (p : Id) :
    p ∈ σ'.handed ↔ p ∈ σ.handed ∨ ∃ e ∈ h, ∃ k, e.op = .get k p := by
  induction h generalizing σ with
  | nil => cases hr; simp
  | cons e es ih =>
    obtain ⟨σ1, l, ha, hr1⟩ := run_cons hr
    rw [ih hr1, apply_handed ha]
    simp only [List.mem_cons, or_and_right, exists_or, exists_eq_left, or_assoc, or_left_comm]

/-- the first event after a `getFuture(k)` that satisfies its promise: a matching `setDelayedValue`, a
`fulfillAllPromises`, or the destructor (default value `X{}` = 0) -/
def firstHit (k : Key) : List HEntry → Option Val
  | [] => none
  | e :: es =>
      match e.op with
      | .set k' v _ => if k' = k then some v else firstHit k es
      | .ful v => some v
      | .dtor => some 0
      | _ => firstHit k es

/-- the value an operation gives to the pending promise of key `k`, if it satisfies it -/
def Op.hits (k : Key) : Op → Option Val
  | .set k' v _ => if k' = k then some v else none
  | .ful v => some v
  | .dtor => some 0
  | _ => none

theorem firstHit_cons (k : Key) (e : HEntry) (es : List HEntry) :
    firstHit k (e :: es) = match e.op.hits k with | some v => some v | none => firstHit k es := by
  rw [firstHit]
  generalize e.op = o
  cases o <;> try rfl
  case set k' v mv => simp only [Op.hits]; split <;> rfl

/-- `firstHit` is the standard "first element for which … is defined" -/
theorem firstHit_eq_findSome (k : Key) (h : List HEntry) : firstHit k h = h.findSome? (fun e => e.op.hits k) := by
  induction h with
  | nil => rfl
  | cons e es ih =>
    rw [firstHit_cons, List.findSome?_cons, ih]
    cases e.op.hits k <;> rfl

theorem firstHit_dtor {k : Key} {h : List HEntry} (hd : ∃ e ∈ h, e.op = .dtor) : (firstHit k h).isSome = true := by
  obtain ⟨e, hm, he⟩ := hd
  rw [firstHit_eq_findSome, List.findSome?_isSome_iff]
  exact ⟨e, hm, by rw [he]; rfl⟩

/-- one method, seen from a key `k` with pending promise `p` that the method does not request again: it
satisfies `p` with the value `Op.hits` names, or leaves it pending -/
theorem apply_hit {σ σ' : Seq} {o : Op} {r : Res} {l : List (Id × Val)} {k : Key} {p : Id}
    (hl : lookup k σ.pending = some p) (ho : ∀ q, o ≠ .get k q) (h : σ.apply o = some (σ', r, l)) :
    match o.hits k with
    | some v => σ'.promise p = .val v
    | none => lookup k σ'.pending = some p := by
  induction (App.of_apply h).2 with
  | get k' q hq =>
    have hk : k ≠ k' := fun hh => ho q (hh ▸ rfl)
    simp [Op.hits, lookup_insert, hk, hl]
  | setNone k' v mv hn =>
    have hk : k' ≠ k := by intro hh; subst hh; rw [hl] at hn; cases hn
    simp [Op.hits, hk, hl]
  | set k' v mv q hq hu =>
    by_cases hk : k' = k
    · subst hk; rw [hl] at hq; cases hq
      simp [Op.hits, upd]
    · simp [Op.hits, hk, lookup_erase, Ne.symm hk, hl]
  | ful v hu => exact fulfil_mem (lookup_mem hl)
  | dtor hu => exact fulfil_mem (lookup_mem hl)
  | _ => exact hl

/-- **Value rule** on the sequential object: while key `k` is not requested again, the promise `p` pending
under `k` ends up with the value given by the earliest later operation, in history order, that is a matching
`setDelayedValue`, a `fulfillAllPromises` or the destructor (default value) — and is still unset if there is none. -/
theorem value_rule {k : Key} {p : Id} (h : List HEntry) (σ σ' : Seq) (w : WF σ)
    (hl : lookup k σ.pending = some p) (hn : ∀ e ∈ h, ∀ q, e.op ≠ .get k q) (hr : σ.run h = some σ') :
    σ'.promise p = (match firstHit k h with | some v => .val v | none => .unset) := by
  induction h generalizing σ with
  | nil => cases hr; exact w.pendUnset k p (lookup_mem hl)
  | cons e es ih =>
    obtain ⟨σ1, l, ha, hr1⟩ := run_cons hr
    have hit := apply_hit hl (hn e (.head _)) ha
    rw [firstHit_cons]
    cases hh : e.op.hits k with
    | some v =>
      rw [hh] at hit
      exact run_inv (P := fun σ => σ.promise p = .val v) (fun _ _ _ _ _ hv ha => apply_val_stable ha hv) hit hr1
    | none =>
      rw [hh] at hit
      exact ih σ1 (wf_apply w ha) hit (fun e' hm => hn e' (.tail _ hm)) hr1

theorem get_pending {σ σ' : Seq} {k : Key} {p : Id} {r : Res} {l : List (Id × Val)}
    (h : σ.apply (.get k p) = some (σ', r, l)) : lookup k σ'.pending = some p := by
  cases (App.of_apply h).2
  simp [lookup_insert]

/-- `both` is the quirk: a completed key whose future was requested again before `finishedWithValue` -/
inductive Phase
  | unknown | pending | completed | both
  deriving DecidableEq, Repr

def Seq.phase (σ : Seq) (k : Key) : Phase :=
  match lookup k σ.pending, lookup k σ.used with
  | none, none => .unknown
  | some _, none => .pending
  | none, some _ => .completed
  | some _, some _ => .both

/-- the life-cycle automaton: phase of key `k` after method `o` -/
def Phase.after (o : Op) (k : Key) (ph : Phase) : Phase :=
  match o with
  | .get k' _ =>
      if k' = k then (match ph with | .unknown => .pending | .pending => .pending | .completed => .both | .both => .both)
      else ph
  | .set k' _ _ =>
      if k' = k then (match ph with | .pending => .completed | .both => .completed | x => x) else ph
  | .ful _ => (match ph with | .pending => .completed | .both => .completed | x => x)
  | .fin k' =>
      if k' = k then (match ph with | .completed => .unknown | .both => .pending | x => x) else ph
  | .dtor => .unknown
  | _ => ph

theorem phase_step {σ σ' : Seq} {o : Op} {r : Res} {l : List (Id × Val)}
    (h : σ.apply o = some (σ', r, l)) (k : Key) : σ'.phase k = Phase.after o k (σ.phase k) := by
  induction (App.of_apply h).2 with
  | get k' q hq =>
    dsimp only [Seq.phase, Phase.after]
    simp only [lookup_insert]
    by_cases hk : k = k'
    · subst hk; cases lookup k σ.pending <;> cases lookup k σ.used <;> simp
    · simp [hk, Ne.symm hk]
  | setNone k' u mv hn =>
    dsimp only [Seq.phase, Phase.after]
    by_cases hk : k' = k
    · subst hk; rw [hn]; cases lookup k' σ.used <;> simp
    · simp [hk]
  | set k' u mv q hq hu =>
    dsimp only [Seq.phase, Phase.after]
    simp only [lookup_erase, lookup_insert]
    by_cases hk : k = k'
    · subst hk; rw [hq]; cases lookup k σ.used <;> simp
    · simp [hk, Ne.symm hk]
  | ful u hu =>
    dsimp only [Seq.phase, Phase.after]
    simp only [lookup_moveAll, lookup]
    cases lookup k σ.pending <;> cases lookup k σ.used <;> simp
  | fin k' =>
    dsimp only [Seq.phase, Phase.after]
    simp only [lookup_erase]
    by_cases hk : k = k'
    · subst hk; cases lookup k σ.pending <;> cases lookup k σ.used <;> simp
    · simp [hk, Ne.symm hk]
  | dtor hu => rfl
  | _ => rfl

theorem phase_unknown_iff (σ : Seq) (k : Key) :
    ((lookup k σ.pending).isSome || (lookup k σ.used).isSome) = true ↔ σ.phase k ≠ .unknown := by
  unfold Seq.phase; split <;> simp_all

theorem phase_completed_iff (σ : Seq) (k : Key) :
    (lookup k σ.used).isSome = true ↔ (σ.phase k = .completed ∨ σ.phase k = .both) := by
  unfold Seq.phase; split <;> simp_all

end ConcVerif.DObj
