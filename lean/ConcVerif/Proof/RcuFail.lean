import ConcVerif.Proof.RcuHist
/-! Allocation failures: the steps on the exception paths change nothing but the thread's pc and the write mutex. -/
namespace ConcVerif.Rcu

/-- everything except the pcs and the holder of the write mutex is the same -/
def SameData (s s' : St) : Prop :=
  s'.nodes = s.nodes ∧ s'.recs = s.recs ∧ s'.nN = s.nN ∧ s'.nR = s.nR ∧ s'.nled = s.nled ∧ s'.rled = s.rled ∧
  s'.head = s.head ∧ s'.tail = s.tail ∧ s'.zhead = s.zhead ∧ s'.log = s.log ∧ s'.lst = s.lst ∧ s'.order = s.order ∧
  s'.live = s.live ∧ s'.dt = s.dt ∧ s'.hnd = s.hnd ∧ s'.it = s.it

theorem sameData_refl (s : St) : SameData s s := by simp only [SameData, and_self]

theorem sameData_trans {a b c : St} (h1 : SameData a b) (h2 : SameData b c) : SameData a c := by
  simp only [SameData] at *
  simp only [h2, h1, and_self]

theorem st_eq_of_sameData {s s' : St} (h : SameData s s') (hw : s'.wmtx = s.wmtx) (hp : s'.pc = s.pc) : s' = s := by
  cases s; cases s'
  simp only [SameData] at h hw hp
  simp only [h, hw, hp]

/-- the (pc, event) pairs on the three exception paths caused by an allocation failure, from the call to the `exc` -/
def onFailPath : Pc → Ev → Bool
  | .idle, .call k => k != .dtor
  | .called _, .mlk => true
  | .called _, .afl _ => true
  | .eOrig .., .ald .. => true
  | .eDel .., .pldDel .. => true
  | .eAlloc .., .afl _ => true
  | .pAlloc _, .afl _ => true
  | .pThrown _, .mul => true
  | .pExc _, .exc _ => true
  | .rExc _, .exc _ => true
  | _, _ => false

def Frame (s s' : St) (t : Tid) : Prop := SameData s s' ∧ ∀ u, u ≠ t → s'.pc u = s.pc u

theorem SameData.setPc {s d : St} (t : Tid) (p : Pc) (h : SameData s d) : SameData s (d.setPc t p) := h

theorem SameData.setWmtx (s : St) (v : Option Tid) : SameData s { s with wmtx := v } := sameData_refl s

theorem failPath_frame {s s' : St} {t : Tid} {e : Ev} (hS : Step s t e s') (hk : onFailPath (s.pc t) e = true) :
    Frame s s' t := by
  refine ⟨?_, fun u hu => hS.pc_other hu⟩
  cases hS
  case callLock | callRel | callBeg | callNxt | callDer | callPush | callErase | regFail | eOrig | eDelDeleted | eDelFresh |
      eAloFail | pAloFail | pExc | rExc =>
    exact .setPc _ _ (sameData_refl s)
  case pushLock | eraseLock | pThrownMul => exact .setPc _ _ (.setWmtx s _)
  all_goals (rw [‹s.pc t = _›] at hk; cases hk)

theorem run_cons_some {s s' : St} {t : Tid} {e : Ev} {es : List (Tid × Ev)}
    (h : runFrom step s ((t, e) :: es) = some s') : ∃ s1, step s t e = some s1 ∧ runFrom step s1 es = some s' :=
  runFrom_cons_eq_some.1 h

theorem frame_trans {a b c : St} {t : Tid} (h1 : Frame a b t) (h2 : Frame b c t) : Frame a c t :=
  ⟨sameData_trans h1.1 h2.1, fun u hu => (h2.2 u hu).trans (h1.2 u hu)⟩

theorem st_eq_of_frame {s s' : St} {t : Tid} (h : Frame s s' t) (hw : s'.wmtx = s.wmtx) (hp : s'.pc t = s.pc t) : s' = s := by
  refine st_eq_of_sameData h.1 hw ?_
  funext u
  by_cases hu : u = t
  · subst hu; exact hp
  · exact h.2 u hu

local macro "shape" h:ident hpc:ident : tactic =>
  `(tactic| (have S := step_sound $h
             have F := failPath_frame S (by simp [$hpc:ident, onFailPath])
             cases S <;> simp_all [Frame]))

theorem shape_call {s s' : St} {t : Tid} {k : Op} (hk : k ≠ .dtor) (hpc : s.pc t = .idle) (h : step s t (.call k) = some s') :
    s'.pc t = .called k ∧ s'.wmtx = s.wmtx ∧ Frame s s' t := by
  have S := step_sound h
  have F := failPath_frame S (by simp [hpc, onFailPath, hk])
  cases S <;> simp_all [Frame]

theorem call_idle {s s' : St} {t : Tid} {k : Op} (h : step s t (.call k) = some s') : s.pc t = .idle := by
  have S := step_sound h
  cases S <;> assumption

theorem shape_mlk_erase {s s' : St} {t : Tid} {adv : Bool} (hpc : s.pc t = .called (.erase adv)) (h : step s t .mlk = some s') :
    (∃ c, s'.pc t = .eOrig c adv) ∧ s.wmtx = none ∧ s'.wmtx = some t ∧ Frame s s' t := by
  shape h hpc

theorem shape_mlk_push {s s' : St} {t : Tid} {f em : Bool} {x : Int} (hpc : s.pc t = .called (.push f em x))
    (h : step s t .mlk = some s') : s'.pc t = .pAlloc (.push f em x) ∧ s.wmtx = none ∧ s'.wmtx = some t ∧ Frame s s' t := by
  shape h hpc

theorem shape_eOrig {s s' : St} {t : Tid} {c0 : Nat} {adv : Bool} {f : Fld} {o : Ord} {v : Option Nat}
    (hpc : s.pc t = .eOrig c0 adv) (h : step s t (.ald f o v) = some s') :
    (∃ orig, s'.pc t = .eDel c0 orig) ∧ s'.wmtx = s.wmtx ∧ Frame s s' t := by
  shape h hpc

theorem shape_eDel_fresh {s s' : St} {t : Tid} {c0 c : Nat} {orig : Option Nat}
    (hpc : s.pc t = .eDel c0 orig) (h : step s t (.pldDel c false) = some s') :
    s'.pc t = .eAlloc c0 orig ∧ s'.wmtx = s.wmtx ∧ Frame s s' t := by
  shape h hpc

theorem shape_eAlloc_fail {s s' : St} {t : Tid} {c0 : Nat} {orig : Option Nat}
    (hpc : s.pc t = .eAlloc c0 orig) (h : step s t (.afl true) = some s') :
    s'.pc t = .pThrown (.erase true) ∧ s'.wmtx = s.wmtx ∧ Frame s s' t := by
  shape h hpc

theorem shape_pAlloc_fail {s s' : St} {t : Tid} {k : Op} (hpc : s.pc t = .pAlloc k) (h : step s t (.afl false) = some s') :
    s'.pc t = .pThrown k ∧ s'.wmtx = s.wmtx ∧ Frame s s' t := by
  shape h hpc

theorem shape_reg_fail {s s' : St} {t : Tid} {k : Op} (hpc : s.pc t = .called k) (h : step s t (.afl true) = some s') :
    s'.pc t = .rExc k ∧ s'.wmtx = s.wmtx ∧ Frame s s' t := by
  shape h hpc

theorem shape_pThrown {s s' : St} {t : Tid} {k : Op} (hpc : s.pc t = .pThrown k) (h : step s t .mul = some s') :
    s'.pc t = .pExc k ∧ s'.wmtx = none ∧ Frame s s' t := by
  shape h hpc

theorem shape_pExc {s s' : St} {t : Tid} {k k' : Op} (hpc : s.pc t = .pExc k) (h : step s t (.exc k') = some s') :
    s'.pc t = .idle ∧ s'.wmtx = s.wmtx ∧ Frame s s' t := by
  shape h hpc

theorem shape_rExc {s s' : St} {t : Tid} {k k' : Op} (hpc : s.pc t = .rExc k) (h : step s t (.exc k') = some s') :
    s'.pc t = .idle ∧ s'.wmtx = s.wmtx ∧ Frame s s' t := by
  shape h hpc

end ConcVerif.Rcu
