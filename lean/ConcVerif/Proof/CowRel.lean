import ConcVerif.Model.Cow
import ConcVerif.Proof.LRRel
/-! The edges of the cow model as a relation: one constructor of `Step` per pair (pc, event) that `Cow.step` accepts,
named after the two, with the guards as hypotheses and the successor state written out.  Operations delegated to the
left-right model appear as hypotheses `LR.step s.lr t e = some l` (`lrGot`, `lrRel`, `lrRd` for the fixed sequences), so
that the lemmas about `LR.step` apply to them as they stand.  Every constructor starts with `hp : s.pc t = <pc>` and ends
in `setPc t <pc'>`, so that a case analysis can treat the edges it does not care about in one arm.  `Step.of_step` turns
an accepted step into an edge; a fact about one step of the model is a case analysis on `Step`. -/
namespace ConcVerif.Cow
open ConcVerif.LR (Side)

inductive Step (s : St) (t : Tid) : Ev → St → Prop
  | idle_callShared {k l} (hp : s.pc t = .idle) (hl : LR.step s.lr t (.call (.ls k)) = some l) :
      Step s t (.call (.lockShared k)) ((withLr s l).setPc t (.rdA k))
  | idle_prd {v c} (hp : s.pc t = .idle) (hm : (t, v) ∈ s.snaps) (hc : c = s.cont v) :
      Step s t (.prd v c) (s.setPc t .idle)
  | idle_callDrop {v} (hp : s.pc t = .idle) (hm : (t, v) ∈ s.snaps) :
      Step s t (.call (.drop v)) (({ s with snaps := s.snaps.erase (t, v) } : St).setPc t
        (.dr v (({ s with snaps := s.snaps.erase (t, v) } : St).needOf v)))
  | idle_callLock (hp : s.pc t = .idle) : Step s t (.call .lock) (s.setPc t .lkCalled)
  | idle_callCancelNull (hp : s.pc t = .idle) : Step s t (.call .cancelNull) (s.setPc t .idle)
  | idle_retCancelNull (hp : s.pc t = .idle) : Step s t (.ret .cancelNull) (s.setPc t .idle)
  | idle_fin {vl vr c} (hp : s.pc t = .idle) (hw : s.wm = none) (hm : s.lr.mtx = none) (hl : vl = s.sv .L)
      (hr : vr = s.sv .R) (hc : c = s.cont vl) : Step s t (.fin vl vr c) (s.setPc t .idle)
  | rdA_ldCL {k v l} (hp : s.pc t = .rdA k) (hl : LR.step s.lr t (.ldCL v) = some l) :
      Step s t (.lr (.ldCL v)) ((withLr s l).setPc t (.rdA k))
  | rdA_inc {k c old l} (hp : s.pc t = .rdA k) (hl : LR.step s.lr t (.inc c old) = some l) :
      Step s t (.lr (.inc c old)) ((withLr s l).setPc t (.rdA k))
  | rdA_ldRL {k x l} (hp : s.pc t = .rdA k) (hl : lrGot s t k x = some l) :
      Step s t (.lr (.ldRL x)) ((withLr s l).setPc t (.rdH k none))
  | rdH_ldPtr {k x v l} (hp : s.pc t = .rdH k none) (hv : v = s.sv x) (hl : lrRd s t x = some l) :
      Step s t (.ldPtr x v) (({ s with lr := l, snaps := (t, v) :: s.snaps } : St).setPc t (.rdH k (some v)))
  | rdH_ldCtl {k v x l} (hp : s.pc t = .rdH k (some v)) (hl : lrRd s t x = some l) :
      Step s t (.ldCtl x) ((withLr s l).setPc t (.rdP k v))
  | rdP_dec {k v c old l} (hp : s.pc t = .rdP k v) (hl : lrRel s t c old = some l) :
      Step s t (.lr (.dec c old)) ((withLr s l).setPc t (.rdD k v))
  | rdD_ret {k v} (hp : s.pc t = .rdD k v) : Step s t (.retGot (.lockShared k) v) (s.setPc t .idle)
  | dr_pdt {v need} (hp : s.pc t = .dr v need) (hn : need ≠ .no) (hd : v ∉ s.dead) (hr : s.refd v = false) :
      Step s t (.pdt v) (({ s with dead := v :: s.dead } : St).setPc t (.dr v .no))
  | dr_ret {v need} (hp : s.pc t = .dr v need) (hn : need ≠ .must) : Step s t (.ret (.drop v)) (s.setPc t .idle)
  | lkCalled_olock {l} (hp : s.pc t = .lkCalled) (hw : s.wm = none) (hl : LR.step s.lr t (.call (.ls 0)) = some l) :
      Step s t .olock (({ s with lr := l, wm := some t } : St).setPc t .lkA)
  | lkA_ldCL {v l} (hp : s.pc t = .lkA) (hl : LR.step s.lr t (.ldCL v) = some l) :
      Step s t (.lr (.ldCL v)) ((withLr s l).setPc t .lkA)
  | lkA_inc {c old l} (hp : s.pc t = .lkA) (hl : LR.step s.lr t (.inc c old) = some l) :
      Step s t (.lr (.inc c old)) ((withLr s l).setPc t .lkA)
  | lkA_ldRL {x l} (hp : s.pc t = .lkA) (hl : lrGot s t 0 x = some l) :
      Step s t (.lr (.ldRL x)) ((withLr s l).setPc t (.lkH none))
  | lkH_ldPtr {x v l} (hp : s.pc t = .lkH none) (hv : v = s.sv x) (hl : lrRd s t x = some l) :
      Step s t (.ldPtr x v) ((withLr s l).setPc t (.lkH (some v)))
  | lkH_pcp {new src c} (hp : s.pc t = .lkH (some src)) (hn : new ∉ s.alloc) (hc : c = s.cont src) :
      Step s t (.pcp new src c)
        (({ s with alloc := new :: s.alloc, parent := fun w => if w = new then src else s.parent w,
                   cont := fun w => if w = new then c else s.cont w } : St).setPc t (.lkC new))
  | lkH_uth {src} (hp : s.pc t = .lkH (some src)) : Step s t .uth (s.setPc t .lkT)
  | lkC_dec {v c old l} (hp : s.pc t = .lkC v) (hl : lrRel s t c old = some l) :
      Step s t (.lr (.dec c old)) ((withLr s l).setPc t (.lkD v))
  | lkD_ret {v} (hp : s.pc t = .lkD v) : Step s t (.retGot .lock v) (s.setPc t (.wHold v))
  | lkT_dec {c old l} (hp : s.pc t = .lkT) (hl : lrRel s t c old = some l) :
      Step s t (.lr (.dec c old)) ((withLr s l).setPc t .lkTD)
  | lkTD_ounlock (hp : s.pc t = .lkTD) (hw : s.wm = some t) :
      Step s t .ounlock (({ s with wm := none } : St).setPc t .lkExc)
  | lkExc_exc (hp : s.pc t = .lkExc) : Step s t (.exc .lock) (s.setPc t .idle)
  | wHold_pwr {v c} (hp : s.pc t = .wHold v) :
      Step s t (.pwr v c) (({ s with cont := fun w => if w = v then c else s.cont w } : St).setPc t (.wHold v))
  | wHold_prd {v v' c} (hp : s.pc t = .wHold v) (hm : v' = v ∨ (t, v') ∈ s.snaps) (hc : c = s.cont v') :
      Step s t (.prd v' c) (s.setPc t (.wHold v))
  | wHold_callMove {v} (hp : s.pc t = .wHold v) : Step s t (.call .move) (s.setPc t (.wHold v))
  | wHold_retMove {v} (hp : s.pc t = .wHold v) : Step s t (.ret .move) (s.setPc t (.wHold v))
  | wHold_callRelease {v l} (hp : s.pc t = .wHold v) (hl : LR.step s.lr t (.call (.modify v)) = some l) :
      Step s t (.call .release) ((withLr s l).setPc t (.relA v))
  | wHold_callCancel {v} (hp : s.pc t = .wHold v) : Step s t (.call .cancel) (s.setPc t (.cn v false false))
  | relA_lock {v l} (hp : s.pc t = .relA v) (hl : LR.step s.lr t .lock = some l) :
      Step s t (.lr .lock) ((withLr s l).setPc t (.relA v))
  | relA_stPtr {v x l} (hp : s.pc t = .relA v) (hl : LR.step s.lr t (.fBegin x) = some l) :
      Step s t (.stPtr x v) (({ s with lr := l, det := some x } : St).setPc t (.relA v))
  | relA_stCtl {v x l} (hp : s.pc t = .relA v) (hd : s.det = some x) (hr : s.sv x ∈ s.dead ∨ s.refd (s.sv x) = true)
      (hl : LR.step s.lr t (.fEnd x (s.lr.val x ++ [v])) = some l) :
      Step s t (.stCtl x) (({ s with lr := l, det := none } : St).setPc t (.relB v false))
  | relA_ldCtl {v x} (hp : s.pc t = .relA v) (hd : s.det = some x) : Step s t (.ldCtl x) (s.setPc t (.relA v))
  | relA_neutral {v e l} (hp : s.pc t = .relA v) (hn : neutral e = true) (hl : LR.step s.lr t e = some l) :
      Step s t (.lr e) ((withLr s l).setPc t (.relA v))
  | relB_stRL {v y l} (hp : s.pc t = .relB v false) (hl : LR.step s.lr t (.stRL y) = some l) :
      Step s t (.lr (.stRL y)) ((withLr s l).setPc t (.relB v true))
  | relB_stPtr {v f x l} (hp : s.pc t = .relB v f) (hl : LR.step s.lr t (.fBegin x) = some l) :
      Step s t (.stPtr x v) (({ s with lr := l, det := some x } : St).setPc t (.relB v f))
  | relB_pdt {v f o} (hp : s.pc t = .relB v f) (hw : s.winRef o = true) (hd : o ∉ s.dead) (hr : s.refd o = false) :
      Step s t (.pdt o) (({ s with dead := o :: s.dead } : St).setPc t (.relB v f))
  | relB_stCtl {v f x l} (hp : s.pc t = .relB v f) (hd : s.det = some x)
      (hr : s.sv x ∈ s.dead ∨ s.refd (s.sv x) = true) (hl : LR.step s.lr t (.fEnd x (s.lr.val x ++ [v])) = some l) :
      Step s t (.stCtl x) (({ s with lr := l, det := none } : St).setPc t (.relB v f))
  | relB_ldCtl {v f x} (hp : s.pc t = .relB v f) (hd : s.det = some x) : Step s t (.ldCtl x) (s.setPc t (.relB v f))
  | relB_unlock {v l} (hp : s.pc t = .relB v true) (hl : LR.step s.lr t .unlock = some l) :
      Step s t (.lr .unlock) ((withLr s l).setPc t (.relC v))
  | relB_neutral {v f e l} (hp : s.pc t = .relB v f) (hn : neutral e = true) (hl : LR.step s.lr t e = some l) :
      Step s t (.lr e) ((withLr s l).setPc t (.relB v f))
  | relC_ounlock {v l} (hp : s.pc t = .relC v) (hw : s.wm = some t) (hl : LR.step s.lr t (.ret (.modify v)) = some l) :
      Step s t .ounlock (({ s with lr := l, wm := none, released := s.released ++ [v] } : St).setPc t (.relU v))
  | relU_ret {v} (hp : s.pc t = .relU v) : Step s t (.ret .release) (s.setPc t .idle)
  | cn_ounlock {v d} (hp : s.pc t = .cn v false d) (hw : s.wm = some t) :
      Step s t .ounlock (({ s with wm := none } : St).setPc t (.cn v true d))
  | cn_pdt {v u} (hp : s.pc t = .cn v u false) :
      Step s t (.pdt v) (({ s with dead := v :: s.dead } : St).setPc t (.cn v u true))
  | cn_ret {v} (hp : s.pc t = .cn v true true) : Step s t (.ret .cancel) (s.setPc t .idle)

variable {s s' : St} {t : Tid} {e : Ev}

/-- for the edges that leave the thread where it is: their successor state too is written with `setPc` -/
theorem setPc_self {p : Pc} (hp : s.pc t = p) : s.setPc t p = s := by
  subst hp
  unfold St.setPc
  rw [upd_self]

@[simp] theorem setPc_pc_self (s : St) (t : Tid) (p : Pc) : (s.setPc t p).pc t = p := upd_same ..

theorem Step.stay {s1 : St} {p : Pc} (hp : s1.pc t = p) (h : Step s t e (s1.setPc t p)) : Step s t e s1 :=
  setPc_self hp ▸ h

theorem guarded_map {α β : Type} {c : Prop} [Decidable c] {x : Option α} {f : α → β} {b : β}
    (h : (if c then x.map f else none) = some b) : c ∧ ∃ a, x = some a ∧ f a = b := by
  split at h
  · exact ⟨‹c›, Option.map_eq_some_iff.mp h⟩
  · cases h

/-- The `next` blocks follow the order of the pcs in `Cow.step`, the bullets inside each the order of the arms of that pc's
step function in `Model/Cow.lean`. -/
theorem Step.of_step (hs : step s t e = some s') : Step s t e s' := by
  unfold step at hs
  split at hs
  next hp =>
    unfold stepIdle at hs
    split at hs
    · obtain ⟨l, hl, rfl⟩ := Option.map_eq_some_iff.mp hs; exact .idle_callShared hp hl
    · obtain ⟨⟨hm, hc⟩, rfl⟩ := ite_some hs; exact .stay hp (.idle_prd hp hm hc)
    · obtain ⟨hm, rfl⟩ := ite_some hs; exact .idle_callDrop hp hm
    · cases hs; exact .idle_callLock hp
    · cases hs; exact .stay hp (.idle_callCancelNull hp)
    · cases hs; exact .stay hp (.idle_retCancelNull hp)
    · obtain ⟨⟨hw, hm, hl, hr, hc⟩, rfl⟩ := ite_some hs; exact .stay hp (.idle_fin hp hw hm hl hr hc)
    · cases hs
  next k hp =>
    unfold stepRdA at hs
    split at hs
    · obtain ⟨l, hl, rfl⟩ := Option.map_eq_some_iff.mp hs; exact .rdA_ldCL hp hl
    · obtain ⟨l, hl, rfl⟩ := Option.map_eq_some_iff.mp hs; exact .rdA_inc hp hl
    · obtain ⟨l, hl, rfl⟩ := Option.map_eq_some_iff.mp hs; exact .rdA_ldRL hp hl
    · cases hs
  next k g hp =>
    unfold stepRdH at hs
    split at hs
    · obtain ⟨⟨rfl, hv⟩, l, hl, rfl⟩ := guarded_map hs; exact .rdH_ldPtr hp hv hl
    · split at hs
      · obtain ⟨l, hl, rfl⟩ := Option.map_eq_some_iff.mp hs; exact .rdH_ldCtl hp hl
      · cases hs
    · cases hs
  next k v hp =>
    unfold stepRdP at hs
    split at hs
    · obtain ⟨l, hl, rfl⟩ := Option.map_eq_some_iff.mp hs; exact .rdP_dec hp hl
    · cases hs
  next k v hp =>
    unfold stepRdD at hs
    split at hs
    · obtain ⟨⟨rfl, rfl⟩, rfl⟩ := ite_some hs; exact .rdD_ret hp
    · cases hs
  next v need hp =>
    unfold stepDr at hs
    split at hs
    · obtain ⟨⟨rfl, hn, hd, hr⟩, rfl⟩ := ite_some hs; exact .dr_pdt hp hn hd hr
    · obtain ⟨⟨rfl, hn⟩, rfl⟩ := ite_some hs; exact .dr_ret hp hn
    · cases hs
  next hp =>
    unfold stepLkCalled at hs
    split at hs
    · obtain ⟨hw, l, hl, rfl⟩ := guarded_map hs; exact .lkCalled_olock hp hw hl
    · cases hs
  next hp =>
    unfold stepLkA at hs
    split at hs
    · obtain ⟨l, hl, rfl⟩ := Option.map_eq_some_iff.mp hs; exact .lkA_ldCL hp hl
    · obtain ⟨l, hl, rfl⟩ := Option.map_eq_some_iff.mp hs; exact .lkA_inc hp hl
    · obtain ⟨l, hl, rfl⟩ := Option.map_eq_some_iff.mp hs; exact .lkA_ldRL hp hl
    · cases hs
  next g hp =>
    unfold stepLkH at hs
    split at hs
    · obtain ⟨⟨rfl, hv⟩, l, hl, rfl⟩ := guarded_map hs; exact .lkH_ldPtr hp hv hl
    · obtain ⟨⟨rfl, hn, hc⟩, rfl⟩ := ite_some hs; exact .lkH_pcp hp hn hc
    · obtain ⟨hg, rfl⟩ := ite_some hs
      cases g with
      | none => exact absurd rfl hg
      | some src => exact .lkH_uth hp
    · cases hs
  next v hp =>
    unfold stepLkC at hs
    split at hs
    · obtain ⟨l, hl, rfl⟩ := Option.map_eq_some_iff.mp hs; exact .lkC_dec hp hl
    · cases hs
  next v hp =>
    unfold stepLkD at hs
    split at hs
    · obtain ⟨rfl, rfl⟩ := ite_some hs; exact .lkD_ret hp
    · cases hs
  next hp =>
    unfold stepLkT at hs
    split at hs
    · obtain ⟨l, hl, rfl⟩ := Option.map_eq_some_iff.mp hs; exact .lkT_dec hp hl
    · cases hs
  next hp =>
    unfold stepLkTD at hs
    split at hs
    · obtain ⟨hw, rfl⟩ := ite_some hs; exact .lkTD_ounlock hp hw
    · cases hs
  next hp =>
    unfold stepLkExc at hs
    split at hs
    · cases hs; exact .lkExc_exc hp
    · cases hs
  next v hp =>
    unfold stepWHold at hs
    split at hs
    · obtain ⟨rfl, rfl⟩ := ite_some hs; exact .stay hp (.wHold_pwr hp)
    · obtain ⟨⟨hm, hc⟩, rfl⟩ := ite_some hs; exact .stay hp (.wHold_prd hp hm hc)
    · cases hs; exact .stay hp (.wHold_callMove hp)
    · cases hs; exact .stay hp (.wHold_retMove hp)
    · obtain ⟨l, hl, rfl⟩ := Option.map_eq_some_iff.mp hs; exact .wHold_callRelease hp hl
    · cases hs; exact .wHold_callCancel hp
    · cases hs
  next v hp =>
    unfold stepRelA at hs
    split at hs
    · obtain ⟨l, hl, rfl⟩ := Option.map_eq_some_iff.mp hs; exact .relA_lock hp hl
    · obtain ⟨rfl, l, hl, rfl⟩ := guarded_map hs; exact .relA_stPtr hp hl
    · obtain ⟨⟨hd, hr⟩, l, hl, rfl⟩ := guarded_map hs; exact .relA_stCtl hp hd hr hl
    · obtain ⟨hd, rfl⟩ := ite_some hs; exact .stay hp (.relA_ldCtl hp hd)
    · obtain ⟨hn, l, hl, rfl⟩ := guarded_map hs; exact .relA_neutral hp hn hl
    · cases hs
  next v f hp =>
    unfold stepRelB at hs
    split at hs
    · obtain ⟨rfl, l, hl, rfl⟩ := guarded_map hs; exact .relB_stRL hp hl
    · obtain ⟨rfl, l, hl, rfl⟩ := guarded_map hs; exact .relB_stPtr hp hl
    · obtain ⟨⟨hw, hd, hr⟩, rfl⟩ := ite_some hs; exact .stay hp (.relB_pdt hp hw hd hr)
    · obtain ⟨⟨hd, hr⟩, l, hl, rfl⟩ := guarded_map hs; exact .relB_stCtl hp hd hr hl
    · obtain ⟨hd, rfl⟩ := ite_some hs; exact .stay hp (.relB_ldCtl hp hd)
    · obtain ⟨rfl, l, hl, rfl⟩ := guarded_map hs; exact .relB_unlock hp hl
    · obtain ⟨hn, l, hl, rfl⟩ := guarded_map hs; exact .relB_neutral hp hn hl
    · cases hs
  next v hp =>
    unfold stepRelC at hs
    split at hs
    · obtain ⟨hw, l, hl, rfl⟩ := guarded_map hs; exact .relC_ounlock hp hw hl
    · cases hs
  next v hp =>
    unfold stepRelU at hs
    split at hs
    · cases hs; exact .relU_ret hp
    · cases hs
  next v u d hp =>
    unfold stepCn at hs
    split at hs
    · obtain ⟨⟨rfl, hw⟩, rfl⟩ := ite_some hs; exact .cn_ounlock hp hw
    · obtain ⟨⟨rfl, rfl⟩, rfl⟩ := ite_some hs; exact .cn_pdt hp
    · obtain ⟨⟨rfl, rfl⟩, rfl⟩ := ite_some hs; exact .cn_ret hp
    · cases hs

end ConcVerif.Cow
