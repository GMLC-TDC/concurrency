import ConcVerif.Proof.RcuAll
/-! The history variables of C12, and the few steps (`Edge`) that matter to them and to the layers above RcuAll.

The model `Model/Rcu.lean` is extended — outside the model, so trace acceptance is unaffected (`runFrom_ghost`) — by
history variables that `step` never reads:

* per thread, `base t` = the linked nodes at the moment the thread's current traversal started (`begin`), `seen t` =
  the nodes its iterator has pointed to since (`stepH`);
* `ncs` counts the acquisitions of the write mutex, `hist` logs every mutation of the linked list — the
  reader-visible linearisation store of a `push` / `erase` — tagged with the number of the critical section it
  happened in (`stepW`).

Of the transitions of the model only a handful (`Edge`) write the linked list, a `next` pointer, an element value, an
iterator, a handle or the write mutex; every other step is `Quiet` (`Step.quiet`).  The invariants behind C12 are
preserved by quiet steps for one and the same reason and need a case analysis over `Edge` only. -/
namespace ConcVerif.Rcu

/-- the model with a history variable updated by `f`; `stepH`, `stepW` below are `stepG ghUpd`, `stepG whUpd` by definition -/
def stepG {G : Type} (f : St → G → Tid → Ev → G) (sg : St × G) (t : Tid) (e : Ev) : Option (St × G) :=
  (step sg.1 t e).map (fun s' => (s', f sg.1 sg.2 t e))

/-- a history variable never blocks a step: the extended system has exactly the traces of the model -/
theorem runFrom_ghost {G : Type} (f : St → G → Tid → Ev → G) (es : List (Tid × Ev)) (s : St) (g : G) :
    (runFrom (stepG f) (s, g) es).map (·.1) = runFrom step s es := by
  induction es generalizing s g with
  | nil => rfl
  | cons x xs ih =>
    obtain ⟨t, e⟩ := x
    simp only [runFrom_cons, stepG]
    cases step s t e with
    | none => rfl
    | some s1 => exact ih s1 _

theorem ghost_fst {G : Type} {f : St → G → Tid → Ev → G} {g0 : G} {es : List (Tid × Ev)} {sg : St × G}
    (h : runFrom (stepG f) (init, g0) es = some sg) : run es = some sg.1 := by
  have := runFrom_ghost f es init g0
  rw [h] at this
  exact this.symm

theorem ghost_of {G : Type} (f : St → G → Tid → Ev → G) (g0 : G) {es : List (Tid × Ev)} {s : St}
    (h : run es = some s) : ∃ g, runFrom (stepG f) (init, g0) es = some (s, g) := by
  obtain ⟨⟨s', g⟩, hr, rfl⟩ := Option.map_eq_some_iff.1 ((runFrom_ghost f es init g0).trans h)
  exact ⟨g, hr⟩

/-- an invariant of the extended system needs to be shown for accepted steps of the model only -/
theorem ghost_inv {G : Type} {f : St → G → Tid → Ev → G} {g0 : G} {Inv : St × G → Prop}
    (hstep : ∀ s g t e s', Inv (s, g) → step s t e = some s' → Inv (s', f s g t e)) (h0 : Inv (init, g0))
    {es : List (Tid × Ev)} {sg : St × G} (h : runFrom (stepG f) (init, g0) es = some sg) : Inv sg :=
  runFrom_inv (fun sg t e sg' hi hs => by
    obtain ⟨s1, h1, rfl⟩ := Option.map_eq_some_iff.1 hs
    exact hstep _ _ _ _ _ hi h1) h0 h

/-- a finite test: run the trace and decide the property of the state it ends in -/
theorem ghost_witness {G : Type} (f : St → G → Tid → Ev → G) (g0 : G) (es : List (Tid × Ev)) (P : St → G → Prop)
    [∀ s g, Decidable (P s g)]
    (h : ((runFrom (stepG f) (init, g0) es).elim false fun sg => decide (P sg.1 sg.2)) = true) :
    ∃ s g, runFrom (stepG f) (init, g0) es = some (s, g) ∧ P s g := by
  cases hr : runFrom (stepG f) (init, g0) es with
  | none => rw [hr] at h; cases h
  | some sg => rw [hr] at h; exact ⟨sg.1, sg.2, rfl, of_decide_eq_true h⟩

/-! ## Traversals -/

structure Gh where
  base : Tid → List Nat
  seen : Tid → List Nat

def gh0 : Gh := { base := fun _ => [], seen := fun _ => [] }

/-- history update: `begin` starts a traversal, `++` and the assignment of `erase`'s result move the iterator -/
def ghUpd (s : St) (g : Gh) (t : Tid) (e : Ev) : Gh :=
  match s.pc t, e with
  | .called .beg, .ald .head _ v => { base := upd g.base t s.lst, seen := upd g.seen t v.toList }
  | .called .nxt, .ald (.nnext _) _ v => { g with seen := upd g.seen t (v.toList ++ g.seen t) }
  | .eUnlock o, .mul => if s.it t = some o then g else { g with seen := upd g.seen t (o.toList ++ g.seen t) }
  | _, _ => g

def stepH (sg : St × Gh) (t : Tid) (e : Ev) : Option (St × Gh) :=
  (step sg.1 t e).map (fun s' => (s', ghUpd sg.1 sg.2 t e))

def runH (es : List (Tid × Ev)) : Option (St × Gh) := runFrom stepH (init, gh0) es

def ReachableH (sg : St × Gh) : Prop := ∃ es, runH es = some sg

theorem reachableH_fst {sg : St × Gh} (h : ReachableH sg) : Reachable sg.1 := by
  obtain ⟨es, hes⟩ := h
  exact ⟨es, ghost_fst (f := ghUpd) hes⟩

theorem reachableH_of {s : St} (h : Reachable s) : ∃ g, ReachableH (s, g) := by
  obtain ⟨es, hes⟩ := h
  obtain ⟨g, hg⟩ := ghost_of ghUpd gh0 hes
  exact ⟨g, es, hg⟩

/-! ## Writers -/

inductive WOp
  | front (n : Nat) | back (n : Nat) | erase (c : Nat)
  deriving DecidableEq, Repr

/-- sequential reference: the three mutations on a plain `List` -/
def applyW (l : List Nat) : WOp → List Nat
  | .front n => n :: l
  | .back n => l ++ [n]
  | .erase c => l.erase c

structure Wh where
  ncs : Nat
  hist : List (Nat × WOp)

def wh0 : Wh := { ncs := 0, hist := [] }

/-- the pcs whose (only) step is the linearisation store of a mutation -/
def linOf : Pc → Option WOp
  | .pE1 k n => some (match k with | .push false _ _ => .back n | _ => .front n)
  | .pF3 _ n => some (.front n)
  | .pB2 _ n _ => some (.back n)
  | .eUnl c _ _ _ _ => some (.erase c)
  | _ => none

def whUpd (s : St) (w : Wh) (t : Tid) (e : Ev) : Wh :=
  match e with
  | .mlk => { w with ncs := w.ncs + 1 }
  | _ =>
    match linOf (s.pc t) with
    | some op => { w with hist := w.hist ++ [(w.ncs, op)] }
    | none => w

def stepW (sw : St × Wh) (t : Tid) (e : Ev) : Option (St × Wh) :=
  (step sw.1 t e).map (fun s' => (s', whUpd sw.1 sw.2 t e))

def runW (es : List (Tid × Ev)) : Option (St × Wh) := runFrom stepW (init, wh0) es

def ReachableW (sw : St × Wh) : Prop := ∃ es, runW es = some sw

theorem reachableW_fst {sw : St × Wh} (h : ReachableW sw) : Reachable sw.1 := by
  obtain ⟨es, hes⟩ := h
  exact ⟨es, ghost_fst (f := whUpd) hes⟩

theorem reachableW_of {s : St} (h : Reachable s) : ∃ w, ReachableW (s, w) := by
  obtain ⟨es, hes⟩ := h
  obtain ⟨w, hw⟩ := ghost_of whUpd wh0 hes
  exact ⟨w, es, hw⟩

/-! ## The steps that matter -/

/-- the steps that write the linked list, a `next` pointer, an element value, an iterator, a handle or the write mutex -/
inductive Edge (s : St) (t : Tid) : Ev → St → Prop
  | beg (w : Bool) (r : Nat) (o : Ord) (hpc : s.pc t = .called .beg) (hh : s.hnd t = .reg w r) :
      Edge s t (.ald .head o s.head) ({ s with it := upd s.it t (some s.head) }.setPc t (.retp .beg))
  | nxt (n : Nat) (o : Ord) (hpc : s.pc t = .called .nxt) (hi : s.it t = some (some n)) :
      Edge s t (.ald (.nnext n) o (s.nodes n).next) ({ s with it := upd s.it t (some (s.nodes n).next) }.setPc t (.retp .nxt))
  | retLock (w : Bool) (hpc : s.pc t = .called (.lock w)) :
      Edge s t (.ret (.lock w)) ({ s with hnd := upd s.hnd t (.fresh w), live := t :: s.live }.setPc t .idle)
  | relFresh (hpc : s.pc t = .called .rel) : Edge s t (.ret .rel) ((s.dropHnd t).setPc t .idle)
  | uClear (r : Nat) (o : Ord) (hpc : s.pc t = .uClear r) :
      Edge s t (.ast (.rowner r) o none) (((s.setOwner r none).dropHnd t).setPc t (.retp .rel))
  | casRegOk (k : Op) (r : Nat) (o : Ord) (hpc : s.pc t = .pushCas (.reg k) r s.zhead) (ho : o.isSc = true) :
      Edge s t (.cas o s.zhead (some r) true s.zhead)
        ({ s with zhead := some r, log := r :: s.log, hnd := upd s.hnd t (.reg (s.hnd t).isW r) }.setPc t (.called k))
  | pushLock (f em : Bool) (v : Int) (hpc : s.pc t = .called (.push f em v)) (hm : s.wmtx = none) :
      Edge s t .mlk ({ s with wmtx := some t }.setPc t (.pAlloc (.push f em v)))
  | eraseLock (adv : Bool) (c : Nat) (hpc : s.pc t = .called (.erase adv)) (hm : s.wmtx = none) :
      Edge s t .mlk ({ s with wmtx := some t }.setPc t (.eOrig c adv))
  | pCon (f em : Bool) (x : Int) (n : Nat) (hpc : s.pc t = .pCons (.push f em x) n) :
      Edge s t (.conN n x)
        (({ s with nodes := upd s.nodes n { next := none, back := none, deleted := false, val := x } }.setNled n .cons).setPc t
          (.pLoad (.push f em x) n))
  | pThrownMul (k : Op) (hpc : s.pc t = .pThrown k) (hm : s.wmtx = some t) :
      Edge s t .mul ({ s with wmtx := none }.setPc t (.pExc k))
  | pE1 (k : Op) (n : Nat) (o : Ord) (hpc : s.pc t = .pE1 k n) :
      Edge s t (.ast .head o (some n)) ({ s with head := some n, lst := n :: s.lst, order := n :: s.order }.setPc t (.pE2 k n))
  | pF1 (k : Op) (n h : Nat) (o : Ord) (hpc : s.pc t = .pF1 k n h) :
      Edge s t (.ast (.nnext n) o (some h)) ((s.setNext n (some h)).setPc t (.pF2 k n h))
  | pF3 (k : Op) (n : Nat) (o : Ord) (hpc : s.pc t = .pF3 k n) :
      Edge s t (.ast .head o (some n)) ({ s with head := some n, lst := n :: s.lst, order := n :: s.order }.setPc t (.pUnlock k))
  | pB2 (k : Op) (n h : Nat) (o : Ord) (hpc : s.pc t = .pB2 k n h) :
      Edge s t (.ast (.nnext h) o (some n))
        ({ (s.setNext h (some n)) with lst := s.lst ++ [n], order := s.order ++ [n] }.setPc t (.pB3 k n))
  | pUnlock (k : Op) (hpc : s.pc t = .pUnlock k) (hm : s.wmtx = some t) :
      Edge s t .mul ({ s with wmtx := none }.setPc t (.retp k))
  | eUnlPrev (c : Nat) (orig : Option Nat) (pp : Nat) (x : Option Nat) (z : Nat) (o : Ord)
      (hpc : s.pc t = .eUnl c orig (some pp) x z) :
      Edge s t (.ast (.nnext pp) o x) ({ (s.setNext pp x) with lst := s.lst.erase c }.setPc t (.eFix c orig (some pp) x z))
  | eUnlHead (c : Nat) (orig x : Option Nat) (z : Nat) (o : Ord) (hpc : s.pc t = .eUnl c orig none x z) :
      Edge s t (.ast .head o x) ({ s with head := x, lst := s.lst.erase c }.setPc t (.eFix c orig none x z))
  | eUnlock (orig : Option Nat) (hpc : s.pc t = .eUnlock orig) (hm : s.wmtx = some t) :
      Edge s t .mul ({ s with wmtx := none, it := upd s.it t (some orig) }.setPc t (.retp (.erase true)))
  | dFreN (m : Nat) (nx : Option Nat) (hpc : s.pc t = .dFreN m nx) :
      Edge s t (.fre false m) ({ (s.setNled m .freed) with lst := s.lst.erase m }.dNodeAt t nx)

structure Quiet (s : St) (t : Tid) (e : Ev) (s' : St) : Prop where
  lst : s'.lst = s.lst
  order : s'.order = s.order
  next : ∀ n, (s'.nodes n).next = (s.nodes n).next
  val : ∀ n, (s'.nodes n).val = (s.nodes n).val
  it : s'.it = s.it
  dt : s'.dt = false → s.dt = false
  wmtx : s'.wmtx = s.wmtx
  head : s'.head = s.head
  hnd : s'.hnd = s.hnd
  lin : linOf (s.pc t) = none
  pc : ∀ u, u ≠ t → s'.pc u = s.pc u

theorem setPc_pc_self (s : St) (t : Tid) (p : Pc) : (s.setPc t p).pc t = p := upd_same _ _ _

theorem upd_it_self {s : St} {t : Tid} {o : Option Nat} (h : s.it t = some o) : upd s.it t (some o) = s.it := by
  funext u
  by_cases hut : u = t
  · subst hut; rw [upd_same, h]
  · rw [upd_other _ _ _ _ hut]

variable {s s' d : St} {t : Tid} {e : Ev}

namespace Quiet

theorem refl (h : linOf (s.pc t) = none) : Quiet s t e s := ⟨rfl, rfl, fun _ => rfl, fun _ => rfl, rfl, id, rfl, rfl, rfl, h, fun _ _ => rfl⟩

theorem setPc (p : Pc) (q : Quiet s t e d) : Quiet s t e (d.setPc t p) :=
  ⟨q.lst, q.order, q.next, q.val, q.it, q.dt, q.wmtx, q.head, q.hnd, q.lin, fun u hu => (upd_other _ _ _ _ hu).trans (q.pc u hu)⟩

theorem setNled (n : Nat) (l : Led) (q : Quiet s t e d) : Quiet s t e (d.setNled n l) :=
  ⟨q.lst, q.order, q.next, q.val, q.it, q.dt, q.wmtx, q.head, q.hnd, q.lin, q.pc⟩

theorem setRled (r : Nat) (l : Led) (q : Quiet s t e d) : Quiet s t e (d.setRled r l) :=
  ⟨q.lst, q.order, q.next, q.val, q.it, q.dt, q.wmtx, q.head, q.hnd, q.lin, q.pc⟩

theorem setRNext (r : Nat) (v : Option Nat) (q : Quiet s t e d) : Quiet s t e (d.setRNext r v) :=
  ⟨q.lst, q.order, q.next, q.val, q.it, q.dt, q.wmtx, q.head, q.hnd, q.lin, q.pc⟩

end Quiet

/-- the one case analysis over all transitions; the arms peel the updates off the successor state (`Quiet.setPc` …)
instead of proving each field by `rfl` through nested record updates -/
theorem Step.quiet (hs : Step s t e s') (hn : ¬ Edge s t e s') : Quiet s t e s' := by
  cases hs
  case beg | nxt | retLock | relFresh | uClear | casRegOk | pushLock | eraseLock | pCon | pThrownMul | pE1 | pF1 | pF3 | pB2 | pUnlock | eUnlPrev |
      eUnlHead | eUnlock | dFreN =>
    exact absurd (by constructor <;> assumption) hn
  -- the stores to `back` and `deleted` leave `next` and `val` alone
  case pF2 k n h o hpc ho | pB1 k n h o hpc ho | eFixNext c orig p xx z o hpc ho | eMark c orig z hpc =>
    exact .setPc _ ⟨rfl, rfl, upd_proj Node.next _ _ _ rfl, upd_proj Node.val _ _ _ rfl, rfl, id, rfl, rfl, rfl, congrArg linOf hpc, fun _ _ => rfl⟩
  case callDtor hpc hl hd =>
    exact .setPc _ ⟨rfl, rfl, fun _ => rfl, fun _ => rfl, rfl, (fun h => nomatch h), rfl, rfl, rfl, congrArg linOf hpc, fun _ _ => rfl⟩
  -- the reclaimer and the destructor move their cursor
  case uNextNone r nx m o hpc ho hv => cases nx <;> exact .setPc _ ⟨rfl, rfl, fun _ => rfl, fun _ => rfl, rfl, id, rfl, rfl, rfl, congrArg linOf hpc, fun _ _ => rfl⟩
  case rFreZ r m nx hpc | dFreZ m nx hpc =>
    cases nx <;> exact .setPc _ ⟨rfl, rfl, fun _ => rfl, fun _ => rfl, rfl, id, rfl, rfl, rfl, congrArg linOf hpc, fun _ _ => rfl⟩
  case dtorHead o hpc ho => cases s.head <;> exact .setPc _ (.refl (congrArg linOf hpc))
  case dZhead o hpc ho => cases s.zhead <;> exact .setPc _ ⟨rfl, rfl, fun _ => rfl, fun _ => rfl, rfl, id, rfl, rfl, rfl, congrArg linOf hpc, fun _ _ => rfl⟩
  -- the rest writes at most the ledgers, records, `nN`, `nR`, `log`, `tail`, `zhead`, of which `Quiet` does not speak
  case regPst | pPstDel | pPstData | ePst | dDesZNpld | dFreZNpld => exact .refl (by rw [‹s.pc t = _›]; rfl)
  case rDesN | rFreN | pThrow | dDesN | dDesZN | dFreZN => exact .setPc _ (.setNled _ _ (.refl (by rw [‹s.pc t = _›]; rfl)))
  case rDesZ | dDesZ => exact .setPc _ (.setRled _ _ (.refl (by rw [‹s.pc t = _›]; rfl)))
  case pushStore | uTrunc => exact .setPc _ (.setRNext _ _ (.refl (by rw [‹s.pc t = _›]; rfl)))
  case regAlo | eAlo | regCon | eCon =>
    exact .setPc _ (.setRled _ _ ⟨rfl, rfl, fun _ => rfl, fun _ => rfl, rfl, id, rfl, rfl, rfl, by rw [‹s.pc t = _›]; rfl, fun _ _ => rfl⟩)
  case pAlo => exact .setPc _ (.setNled _ _ ⟨rfl, rfl, fun _ => rfl, fun _ => rfl, rfl, id, rfl, rfl, rfl, by rw [‹s.pc t = _›]; rfl, fun _ _ => rfl⟩)
  case casEraseOk | pE2 | pB3 | eFixTail =>
    exact .setPc _ ⟨rfl, rfl, fun _ => rfl, fun _ => rfl, rfl, id, rfl, rfl, rfl, by rw [‹s.pc t = _›]; rfl, fun _ _ => rfl⟩
  all_goals exact .setPc _ (.refl (by rw [‹s.pc t = _›]; rfl))

theorem Step.mlk_edge (hs : Step s t .mlk s') : Edge s t .mlk s' := by
  cases hs <;> constructor <;> assumption

theorem Step.mul_edge (hs : Step s t .mul s') : Edge s t .mul s' := by
  cases hs <;> constructor <;> assumption

/-- the three patterns of `ghUpd` name the events of `Edge.beg`, `Edge.nxt` and `Edge.eUnlock` -/
theorem ghUpd_quiet (hs : Step s t e s') (hn : ¬ Edge s t e s') (g : Gh) :
    ghUpd s g t e = g := by
  unfold ghUpd
  split
  · rename_i hp
    cases hs with
    | beg w r o hpc hh ho => exact absurd (.beg w r _ hpc hh) hn
    | dtorHead _ hpc | pLoadFrontNone _ _ _ _ hpc | pLoadFrontSome _ _ _ _ _ hpc => exact nomatch hpc.symm.trans hp
  · rename_i hp
    cases hs with
    | nxt w r n o hpc hh hi ho => exact absurd (.nxt _ _ hpc hi) hn
    | eOrig _ _ _ hpc | eNext _ _ _ _ _ hpc | dNext _ _ hpc => exact nomatch hpc.symm.trans hp
  · exact absurd hs.mul_edge hn
  · rfl

theorem whUpd_quiet (hs : Step s t e s') (hn : ¬ Edge s t e s') (w : Wh) :
    whUpd s w t e = w := by
  unfold whUpd
  split
  · exact absurd hs.mlk_edge hn
  · rw [(hs.quiet hn).lin]

theorem Edge.pc_other (he : Edge s t e s') {u : Tid} (hut : u ≠ t) :
    s'.pc u = s.pc u := by
  cases he
  case dFreN m nx hpc => cases nx <;> exact upd_other _ _ _ _ hut
  all_goals exact upd_other _ _ _ _ hut

theorem Step.pc_other (hs : Step s t e s') {u : Tid} (hut : u ≠ t) : s'.pc u = s.pc u := by
  by_cases he : Edge s t e s'
  · exact he.pc_other hut
  · exact (hs.quiet he).pc u hut

end ConcVerif.Rcu
