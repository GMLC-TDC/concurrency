import ConcVerif.Proof.HBLRInv
/-! Left-right and happens-before, part 3: every model edge is one of seven kinds of step (`Cls`), each
described by what the happens-before invariants look at: the mutex, `m_readingLeft`, the pc of the
acting thread (handle, registration, pending counters) and the event. -/
namespace ConcVerif.LR

variable {s s' : St} {t : Tid} {e : Ev} {p : Pc} {c x l : Side}

theorem not_zPend_pre : ¬ zPend (.pre l) c := by
  intro ⟨_, _, _, h, _⟩; cases h

theorem not_zPend_post2 : ¬ zPend (.post2 l) c := by
  intro ⟨_, _, _, h, _⟩; cases h

theorem not_zPend_quiet : ¬ zPend .quiet c := by
  intro ⟨_, _, _, h, _⟩; cases h

theorem not_zPend_tt : ¬ zPend (.wait l true true) c := by
  intro ⟨_, _, _, h, h2⟩; injection h with _ h3 h4; subst h3; subst h4; cases c <;> simp [zOf] at h2

theorem not_zPend_of_not_post {p : Pc} (h : p.post = false) (c : Side) : ¬ zPend p.pk c := by
  cases p <;> first | exact not_zPend_quiet | exact Bool.noConfusion h

/-- the kinds of step, by what the happens-before invariants look at afterwards: the mutex, `m_readingLeft`, the pcs -/
inductive Cls (s : St) (t : Tid) : Ev → Option Tid → Side → (Tid → Pc) → Prop
  | frame {e : Ev} (p' : Pc) (hh : p'.held = (s.pc t).held)
      (hr : ∀ x, p'.held = some x → p'.regIn = (s.pc t).regIn) (hz : ∀ c, zPend (s.pc t).pk c → zPend p'.pk c)
      (hw : ∀ x, e.wrS = some x →
        s.mtx = some t ∧ x ≠ s.rl ∧ (∀ r, (s.pc r).held ≠ some x) ∧ ∀ c, ¬ zPend p'.pk c)
      (hrd : ∀ x v, e = .rd x v → (s.pc t).held = some x ∧
        (x = s.rl.flip → ∃ u c, s.mtx = some u ∧ zPend (s.pc u).pk c ∧ (s.pc t).regIn = some c))
      (hst : ∀ v, e ≠ .stRL v) : Cls s t e s.mtx s.rl (upd s.pc t p')
  | load (c : Side) (hpc0 : s.pc t = .rdInc c) : Cls s t (.ldRL s.rl) s.mtx s.rl (upd s.pc t (.rdGot c s.rl))
  | dec (c x : Side) (old : Nat) (hpc0 : s.pc t = .rdRel c x) : Cls s t (.dec c old) s.mtx s.rl (upd s.pc t .rdRelD)
  | lock (op : OpId) (hm0 : s.mtx = none) (hh : (s.pc t).held = none) :
      Cls s t .lock (some t) s.rl (upd s.pc t (.wA op s.rl))
  | unlock (p' : Pc) (hm0 : s.mtx = some t) (hh' : p'.held = none) (hh : (s.pc t).held = none)
      (hz : ∀ c, ¬ zPend (s.pc t).pk c) : Cls s t .unlock none s.rl (upd s.pc t p')
  | flip (op : OpId) (l : Side) (hpc0 : s.pc t = .wF1d op l) (hm0 : s.mtx = some t) :
      Cls s t (.stRL l.flip) s.mtx l.flip (upd s.pc t (.wWait op l false false))
  | zero (op : OpId) (l : Side) (zL zR : Bool) (c : Side) (hpc0 : s.pc t = .wWait op l zL zR) (hm0 : s.mtx = some t)
      (hz : s.reg c = []) : Cls s t (.ldCnt c 0) s.mtx s.rl (upd s.pc t (waitSeen op l zL zR c))

/-- events that are neither an access of a copy nor a store of `m_readingLeft` -/
def Ev.inert : Ev → Bool
  | .fBegin _ | .fEnd _ _ | .cpBegin _ | .cpEnd _ _ | .rd _ _ | .stRL _ => false
  | _ => true

theorem Ev.inert_spec (h : e.inert = true) : e.wrS = none ∧ (∀ x v, e ≠ .rd x v) ∧ ∀ v, e ≠ .stRL v :=
  ⟨by cases e <;> first | rfl | exact Bool.noConfusion h, fun _ _ he => Bool.noConfusion (he ▸ h),
    fun _ he => Bool.noConfusion (he ▸ h)⟩

theorem Cls.simple (p' : Pc) (hp : s.pc t = p) (hh : p'.held = p.held) (hr : p'.regIn = p.regIn ∨ p'.held = none)
    (hk : p'.pk = p.pk ∨ ∀ c, ¬ zPend p.pk c) (he : e.inert = true) : Cls s t e s.mtx s.rl (upd s.pc t p') := by
  subst hp
  obtain ⟨hw, hrd, hst⟩ := Ev.inert_spec he
  refine .frame p' hh ?_ ?_ ?_ ?_ hst
  · intro x hx
    rcases hr with hr | hr
    · exact hr
    · rw [hr] at hx; cases hx
  · intro c hc
    rcases hk with hk | hk
    · rw [hk]; exact hc
    · exact absurd hc (hk c)
  · intro x hx; rw [hw] at hx; cases hx
  · intro x v hx; exact absurd hx (hrd x v)

theorem Cls.same (he : e.inert = true) : Cls s t e s.mtx s.rl s.pc := by
  have := Cls.simple (s := s) (t := t) (s.pc t) rfl rfl (.inl rfl) (.inl rfl) he
  rwa [upd_self] at this

theorem wrS_not_rd (h : e.wrS = some x) : (∀ y v, e ≠ .rd y v) ∧ ∀ v, e ≠ .stRL v := by
  constructor
  · intro y v hc; subst hc; simp [Ev.wrS] at h
  · intro v hc; subst hc; simp [Ev.wrS] at h

theorem Inv.pre_facts (h : Inv s) (hp : s.pc t = p) (hq : p.post = true)
    (hk : p.pk = .pre l) : s.mtx = some t ∧ l.flip ≠ s.rl ∧ ∀ r, (s.pc r).held ≠ some l.flip := by
  obtain ⟨a, b⟩ := hk ▸ h.phase_at hp hq
  exact ⟨(h.holder t).1 (hp ▸ hq), a ▸ Side.flip_ne l, fun r hc => Side.flip_ne l (b r _ hc)⟩

theorem Inv.post2_facts (h : Inv s) (hp : s.pc t = p) (hq : p.post = true)
    (hk : p.pk = .post2 l ∨ p.pk = .wait l true true) :
    s.mtx = some t ∧ l ≠ s.rl ∧ ∀ r, (s.pc r).held ≠ some l := by
  have hph := h.phase_at hp hq
  obtain ⟨a, b⟩ : PhaseX s.rl s.pc (.post2 l) := by
    rcases hk with hk | hk
    · exact hk ▸ hph
    · exact phase_wait_done (hk ▸ hph)
  exact ⟨(h.holder t).1 (hp ▸ hq), a ▸ Side.ne_flip l, fun r hc => Side.ne_flip l (b r _ hc)⟩

/-- a write / copy access to side `x` by the mutex holder in a phase in which `rl` points away from `x` and no
handle points to `x` (`hf`, from `Inv.pre_facts` / `Inv.post2_facts`) -/
theorem Cls.write (p' : Pc) (x : Side) (hp : s.pc t = p) (hq : p.post = true) (hq' : p'.post = true)
    (hz0 : ∀ c, ¬ zPend p.pk c) (hz : ∀ c, ¬ zPend p'.pk c) (hx : e.wrS = some x)
    (hf : s.mtx = some t ∧ x ≠ s.rl ∧ ∀ r, (s.pc r).held ≠ some x) : Cls s t e s.mtx s.rl (upd s.pc t p') := by
  subst hp
  refine .frame p' (by rw [post_held hq, post_held hq']) ?_ ?_ ?_ ?_ (wrS_not_rd hx).2
  · intro y hy; rw [post_held hq'] at hy; cases hy
  · intro c hc; exact absurd hc (hz0 c)
  · intro y hy; rw [hx] at hy; cases hy
    exact ⟨hf.1, hf.2.1, hf.2.2, hz⟩
  · intro y v hy; exact absurd hy ((wrS_not_rd hx).1 y v)

/-- a read through a handle: the side is the one the flag points to, unless the holder is waiting and
the reader's counter has not been observed at zero -/
theorem Inv.read_off_rl (h : Inv s) (hpc : s.pc t = .rdHold c x) (hx : x = s.rl.flip) :
    ∃ u c', s.mtx = some u ∧ zPend (s.pc u).pk c' ∧ (s.pc t).regIn = some c' := by
  obtain ⟨w, op, zL, zR, hm, hw, _, hz⟩ := h.held_off (r := t) (hpc ▸ rfl) (hx ▸ Side.flip_ne _)
  exact ⟨w, c, hm, hw ▸ ⟨x, zL, zR, rfl, hz c (hpc ▸ rfl)⟩, hpc ▸ rfl⟩

end ConcVerif.LR
