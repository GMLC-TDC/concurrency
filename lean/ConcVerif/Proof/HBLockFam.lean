import ConcVerif.Proof.HBLock
import ConcVerif.Proof.LockFamReg
/-! Connection of the lock-family model to the happens-before layer: every trace ACCEPTED by
`LockFam.step` (locking enabled), mapped to happens-before events, is consistent with mutex
semantics and makes every payload access under the wrapper's mutex (writes exclusively) — the
hypotheses of the lockset theorem. -/
namespace ConcVerif.LockFam

def sideMode : Side → HB.Mode
  | .X => .X
  | .S => .S

/-- happens-before content of a wrapper-model event (mutex = location 0, payload = location 0) -/
def toHB : Ev → HB.Ev
  | .lk sd _ true => .acq 0 (sideMode sd)
  | .rel sd => .rel 0 (sideMode sd)
  | .rd _ => .rd 0
  | .wr _ => .wr 0
  | _ => .nop

def hbTrace (es : List (Tid × Ev)) : HB.Trace := es.map (fun p => (p.1, toHB p.2))

def ofMode : Mode → Option HB.Mode
  | .none => none
  | .S => some .S
  | .X => some .X

theorem ofMode_eq_none : ∀ {m : Mode}, ofMode m = none → m = .none
  | .none, _ => rfl

theorem ofMode_side (sd : Side) : ofMode sd.mode = some (sideMode sd) := by cases sd <;> rfl

theorem hbTrace_snoc (es : List (Tid × Ev)) (t : Tid) (e : Ev) : hbTrace (es ++ [(t, e)]) = hbTrace es ++ [(t, toHB e)] := by
  simp [hbTrace]

theorem acquire_compat {s s1 : St} {t : Tid} {sd : Side} (hg : GInv s) (ha : s.acquire t sd = some s1) (u : Tid) :
    HB.compat (ofMode (s.held u)) (sideMode sd) = true := by
  obtain ⟨_, hx, hs, _⟩ := acquire_spec ha
  cases hh : s.held u
  · rfl
  · cases sd
    · have := (hg.sharedHeld u).2 hh
      rw [hs rfl] at this; cases this
    · rfl
  · rw [(hg.exclHeld u).2 hh] at hx; cases hx

theorem toHB_cases {e : Ev} (h : e.onMutex = false) : toHB e = .nop ∨ (∃ v, e = .rd v) ∨ (∃ v, e = .wr v) := by
  cases e
  case lk _ _ ok =>
    cases ok
    · exact .inl rfl
    · cases h
  case rel => cases h
  case rd v => exact .inr (.inl ⟨v, rfl⟩)
  case wr v => exact .inr (.inr ⟨v, rfl⟩)
  all_goals exact .inl rfl

/-- the simulation: after every accepted trace (locking enabled) the happens-before view of who holds
the wrapper's mutex is the model's ghost `held`, the mapped trace is consistent with mutex semantics,
and every payload access is made under the mutex (writes exclusively) -/
theorem hb_sim {cap : Bool} {es : List (Tid × Ev)} {s : St} (h : run true cap es = some s) :
    (∀ u, HB.held (hbTrace es) u 0 = ofMode (s.held u)) ∧ HB.MutexOK (hbTrace es) ∧ HB.LockSet (hbTrace es) 0 0 := by
  suffices h' : HB.Agrees (hbTrace es) 0 (fun u => ofMode (s.held u)) ∧ HB.LockSet (hbTrace es) 0 0 from
    ⟨h'.1.1, h'.1.2, h'.2⟩
  refine runFrom_trace_inv (P := fun es s => HB.Agrees (hbTrace es) 0 (fun u => ofMode (s.held u)) ∧
    HB.LockSet (hbTrace es) 0 0) ⟨.nil fun _ => rfl, HB.lockSet_nil 0 0⟩ ?_ h
  rintro es s1 t e s2 h1 ⟨ihA, ihL⟩ h2
  have hreach : Reachable true cap s1 := ⟨es, h1⟩
  have hen := reachable_enabled hreach
  rw [hbTrace_snoc]
  obtain ⟨s3, hm, hf⟩ := (Step.of_step h2).mutex
  rw [hf.held]
  cases hm
  case acquire sd how ha =>
    obtain ⟨hn, _, _, hheld, _⟩ := acquire_spec ha
    refine ⟨ihA.acq (congrArg ofMode hn) (fun u _ => acquire_compat (inv_reachable hreach).g ha u) fun u => ?_,
      HB.lockSet_snoc ihL nofun nofun⟩
    show ofMode (s3.held u) = _
    rw [hheld, upd_apply]; split
    · exact ofMode_side sd
    · rfl
  case release sd hr =>
    obtain ⟨hmode, hheld, _⟩ := release_spec hr
    refine ⟨ihA.rel ((congrArg ofMode hmode).trans (ofMode_side sd)) fun u => ?_, HB.lockSet_snoc ihL nofun nofun⟩
    show ofMode (s3.held u) = _
    rw [hheld, upd_apply]; split <;> rfl
  case none hne =>
    rcases toHB_cases hne with hk | ⟨v, rfl⟩ | ⟨v, rfl⟩
    · rw [hk]; exact ⟨ihA.inert nofun nofun, HB.lockSet_snoc ihL nofun nofun⟩
    · refine ⟨ihA.inert nofun nofun, HB.lockSet_snoc ihL (fun _ => ?_) nofun⟩
      rw [ihA.1]; exact fun hc => (read_held (inv_reachable hreach) hen h2).1 (ofMode_eq_none hc)
    · refine ⟨ihA.inert nofun nofun, HB.lockSet_snoc ihL nofun (fun _ => ?_)⟩
      rw [ihA.1]; exact congrArg ofMode (write_held (inv_reachable hreach) hen h2)

/-- **C07 for the lock family (model level).**  In every trace accepted by the wrapper model with
locking enabled, every payload access happens after every earlier conflicting payload access. -/
theorem lockfam_hb {cap : Bool} {es : List (Tid × Ev)} {s : St} (h : run true cap es = some s) {i j : Nat}
    (hij : i < j) (hc : HB.ConflictOn (hbTrace es) 0 i j) : HB.HB (hbTrace es) i j := by
  obtain ⟨_, hm, hl⟩ := hb_sim h
  exact HB.lockset_hb hm hl hij hc

theorem hbTrace_access {es : List (Tid × Ev)} {i : Nat} {t : Tid} {ei : HB.Ev} {x : HB.Loc}
    (h : (hbTrace es)[i]? = some (t, ei)) (ha : ei.accesses x) : x = 0 := by
  rw [hbTrace, List.getElem?_map] at h
  obtain ⟨⟨u, e⟩, -, he⟩ := Option.map_eq_some_iff.1 h
  cases he
  cases e
  case lk _ _ ok => cases ok <;> rcases ha with ha | ha <;> cases ha
  case rd | wr => rcases ha with ha | ha <;> cases ha; rfl
  all_goals rcases ha with ha | ha <;> cases ha

/-- no accepted trace of the wrapper model (locking enabled) contains a data race -/
theorem lockfam_no_race {cap : Bool} {es : List (Tid × Ev)} {s : St} (h : run true cap es = some s) :
    ¬ HB.Race (hbTrace es) := by
  intro ⟨i, j, hij, ⟨x, hc⟩, hn⟩
  have hx : x = 0 := by
    obtain ⟨t, u, ei, ej, h1, _, ha, _⟩ := hc
    exact hbTrace_access h1 ha
  subst hx
  exact hn (lockfam_hb h hij hc)

end ConcVerif.LockFam
