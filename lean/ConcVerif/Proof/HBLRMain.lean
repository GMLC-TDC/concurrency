import ConcVerif.Proof.HBLRStep
import ConcVerif.Proof.HBComplete
/-! Left-right and happens-before, part 5: the invariants hold along every accepted trace
(`hinv_run`), hence every write to a copy happens-after every earlier access of it and every read
happens-after every earlier write (`lr_order`), and the mapped trace has no data race. -/
namespace ConcVerif.LR
open HB (HBeq)

variable {s s' : St} {t u r : Tid} {e : Ev} {p' : Pc} {o : Ords} {es : List (Tid × Ev)} {c x rl : Side}
  {pc : Tid → Pc} {m : Option Tid} {i : Nat}

structure HInv (o : Ords) (es : List (Tid × Ev)) (m : Option Tid) (rl : Side) (pc : Tid → Pc) : Prop where
  i1 : I1 o es m
  i2 : I2 o es rl
  i3 : I3 o es pc
  i4 : I4 es pc
  i5 : I5 o es m rl pc

theorem hinv_nil (o : Ords) (m : Option Tid) (rl : Side) (pc : Tid → Pc) : HInv o [] m rl pc := by
  refine ⟨?_, ?_, ?_, ?_, ?_⟩
  · intro i u e x hi; simp at hi
  · intro i u e hi; simp at hi
  · intro r x _ i u e hi; simp at hi
  · intro i r x v hi; simp at hi
  · intro i r v hi; simp at hi

theorem upd_held_of (hh : p'.held = (pc t).held) (r : Tid) :
    (upd pc t p' r).held = (pc r).held := by
  by_cases h : r = t
  · subst h; rw [upd_same]; exact hh
  · rw [upd_other _ _ _ _ h]

theorem upd_keep (p' : Pc) (hn : (pc t).held = none)
    (hx : (pc r).held = some x) : (upd pc t p' r).held = some x ∧ (upd pc t p' r).regIn = (pc r).regIn := by
  have : r ≠ t := by intro hc; subst hc; rw [hn] at hx; cases hx
  rw [upd_other _ _ _ _ this]; exact ⟨hx, rfl⟩

theorem upd_held_sub (hn : p'.held = none) (r : Tid) (x : Side) (hx : (upd pc t p' r).held = some x) :
    (pc r).held = some x := by
  by_cases h : r = t
  · subst h; rw [upd_same, hn] at hx; cases hx
  · rw [upd_other _ _ _ _ h] at hx; exact hx

theorem upd_zkeep (p' : Pc) (hq : ∀ c, ¬ zPend (pc t).pk c)
    (hz : zPend (pc u).pk c) : zPend (upd pc t p' u).pk c := by
  have : u ≠ t := by intro hc; subst hc; exact hq c hz
  rw [upd_other _ _ _ _ this]; exact hz

theorem waitSeen_held (op : OpId) (l : Side) (zL zR : Bool) (c : Side) : (waitSeen op l zL zR c).held = none := by
  cases c <;> rfl

theorem hinv_step (ho : o.OK) (hi : Inv s) {m' : Option Tid} {rl' : Side} {pc' : Tid → Pc}
    (h : HInv o es s.mtx s.rl s.pc) (hc : Cls s t e m' rl' pc') : HInv o (es ++ [(t, e)]) m' rl' pc' := by
  obtain ⟨h1, h2, h3, h4, h5⟩ := h
  cases hc with
  | frame p' hh hr hz hw hrd hst =>
    have hheld := upd_held_of (pc := s.pc) (t := t) hh
    have hzk : ∀ u c, zPend (s.pc u).pk c → zPend (upd s.pc t p' u).pk c := by
      intro u c hzp
      by_cases hut : u = t
      · subst hut; rw [upd_same]; exact hz c hzp
      · rw [upd_other _ _ _ _ hut]; exact hzp
    refine ⟨I1_snoc h1 fun x hx => (hw x hx).1, I2_snoc h2 (fun hx => (hw _ hx).2.1 rfl) hst,
      I3_snoc h3 (fun r x hx => hheld r ▸ hx) fun x hx r => hheld r ▸ (hw x hx).2.2.1 r,
      I4_snoc h4 (fun r x hx => hheld r ▸ hx) fun x v he => hheld t ▸ (hrd x v he).1,
      I5_snoc h5 ?_ (fun u c _ hzp => hzk u c hzp) ?_⟩
    · intro r x hx
      refine ⟨by rw [hheld]; exact hx, ?_⟩
      by_cases hrt : r = t
      · subst hrt; rw [upd_same]; exact hr x (by rw [hh]; exact hx)
      · rw [upd_other _ _ _ _ hrt]
    · intro v he
      obtain ⟨hx, hf⟩ := hrd _ v he
      obtain ⟨u, c, hmu, hzp, hreg⟩ := hf rfl
      refine ⟨u, c, hmu, hzk u c hzp, by rw [hheld]; exact hx, ?_⟩
      rw [upd_same, hr _ (by rw [hh]; exact hx)]; exact hreg
  | load c hpc0 =>
    have hn : (s.pc t).held = none := hpc0 ▸ rfl
    exact ⟨I1_snoc h1 nofun, I2_snoc h2 nofun nofun, I3_load ho h2 h3 rfl,
      I4_snoc h4 (fun r x hx => (upd_keep _ hn hx).1) nofun,
      I5_snoc h5 (fun r x hx => upd_keep _ hn hx) (fun u c _ hzp => upd_zkeep _ (fun _ => hpc0 ▸ not_zPend_quiet) hzp)
        nofun⟩
  | dec c x old hpc0 =>
    exact ⟨I1_snoc h1 nofun, I2_snoc h2 nofun nofun, I3_snoc h3 (upd_held_sub rfl) nofun, I4_dec _ h4,
      I5_dec _ h5 (hpc0 ▸ rfl) fun _ => hpc0 ▸ not_zPend_quiet⟩
  | lock op hm0 hh =>
    exact ⟨I1_lock t (hm0 ▸ h1), I2_snoc h2 nofun nofun, I3_snoc h3 (upd_held_sub rfl) nofun,
      I4_snoc h4 (fun r x hx => (upd_keep _ hh hx).1) nofun, I5_lock _ t (hm0 ▸ h5)⟩
  | unlock p' hm0 hh' hh hz =>
    exact ⟨I1_unlock (hm0 ▸ h1), I2_snoc h2 nofun nofun, I3_snoc h3 (upd_held_sub hh') nofun,
      I4_snoc h4 (fun r x hx => (upd_keep _ hh hx).1) nofun, I5_unlock _ (hm0 ▸ h5) hz⟩
  | flip op l hpc0 hm0 =>
    have hn : (s.pc t).held = none := hpc0 ▸ rfl
    exact ⟨I1_snoc h1 nofun, I2_flip l.flip (hm0 ▸ h1), I3_snoc h3 (upd_held_sub rfl) nofun,
      I4_snoc h4 (fun r x hx => (upd_keep _ hn hx).1) nofun, hm0 ▸ I5_flip h4 hn rfl⟩
  | zero op l zL zR c hpc0 hm0 hz =>
    have hn : (s.pc t).held = none := hpc0 ▸ rfl
    have hno : ∀ r, (s.pc r).regIn ≠ some c := fun r hr => nomatch hz ▸ (hi.mem r c).2 hr
    exact ⟨I1_snoc h1 nofun, I2_snoc h2 nofun nofun,
      I3_snoc h3 (upd_held_sub (waitSeen_held op l zL zR c)) nofun,
      I4_snoc h4 (fun r x hx => (upd_keep _ hn hx).1) nofun, hm0 ▸ I5_zero ho (hm0 ▸ h5) (hpc0 ▸ rfl) rfl hno hn⟩

theorem hinv_run (ho : o.OK) {b : Bool} (h : run (init b) es = some s) : HInv o es s.mtx s.rl s.pc :=
  runFrom_trace_inv (P := fun es s => HInv o es s.mtx s.rl s.pc) (hinv_nil o ..)
    (fun es _ _ _ _ h1 hP h2 => have hi := inv_reachable ⟨b, es, h1⟩; hinv_step ho hi hP (step_cls hi h2)) h

/-- the side a writer event reads (the source of a copy), or a reader reads through its handle -/
def Ev.rdS : Ev → Option Side
  | .rd x _ => some x
  | .cpBegin x | .cpEnd x _ => some x.flip
  | _ => none

def Touches (e : Ev) (x : Side) : Prop := e.wrS = some x ∨ e.rdS = some x

/-- two model events conflict: they access the same copy and at least one of them writes it -/
def LRConf (ei ej : Ev) : Prop := ∃ x, (ei.wrS = some x ∧ Touches ej x) ∨ (Touches ei x ∧ ej.wrS = some x)

theorem rdS_only (h : e.rdS = some x) (hw : e.wrS = none) : ∃ v, e = .rd x v := by
  cases e <;> simp [Ev.rdS, Ev.wrS] at h hw
  subst h; exact ⟨_, rfl⟩

theorem cls_of_wr {m' : Option Tid} {rl' : Side} {pc' : Tid → Pc} (hc : Cls s t e m' rl' pc') (hx : e.wrS = some x) :
    m' = some t ∧ x = rl'.flip ∧ ∀ c, ¬ zPend (pc' t).pk c := by
  cases hc with
  | frame p' hh hr hz hw hrd hst =>
    obtain ⟨a, b, _, d⟩ := hw x hx
    exact ⟨a, side_ne_iff.1 b, fun c => by rw [upd_same]; exact d c⟩
  | _ => cases hx

theorem cls_of_rd {v : List OpId} {m' : Option Tid} {rl' : Side} {pc' : Tid → Pc} (hc : Cls s t (.rd x v) m' rl' pc') :
    (pc' t).held = some x := by
  cases hc with
  | frame p' hh hr hz hw hrd hst => rw [upd_same, hh]; exact (hrd x v rfl).1

/-- the event just performed happens-after every earlier conflicting access -/
theorem last_order {ei : Ev} {m' : Option Tid} {rl' : Side} {pc' : Tid → Pc} (h : HInv o (es ++ [(t, e)]) m' rl' pc')
    (hc : Cls s t e m' rl' pc') (hi : es[i]? = some (u, ei)) (hcf : LRConf ei e) :
    HB.HB (hbTrace o (es ++ [(t, e)])) i es.length := by
  have hil := HB.lq_lt hi
  have hi' := HB.lq_mono [(t, e)] hi
  -- whatever the holder of the mutex knows is ordered before its new event
  have viaPub : m' = some t → Pub o (es ++ [(t, e)]) m' i → HB.HB (hbTrace o (es ++ [(t, e)])) i es.length := by
    intro hm hp; rw [hm] at hp; exact hp.hb_last hil
  obtain ⟨x, ⟨hwi, hte⟩ | ⟨hti, hwe⟩⟩ := hcf
  · -- earlier write, later access
    cases hw : e.wrS with
    | some y =>
      obtain ⟨hm, _, _⟩ := cls_of_wr hc hw
      exact viaPub hm (h.i1 i u ei x hi' hwi)
    | none =>
      rcases hte with hte | hte
      · rw [hw] at hte; cases hte
      · obtain ⟨v, rfl⟩ := rdS_only hte hw
        have hk : Kn (hbTrace o (es ++ [(t, .rd x v)])) t i := h.i3 t x (cls_of_rd hc) i u ei hi' hwi
        rw [hbTrace_snoc] at hk ⊢
        rcases hk.hb_last with hk | hk
        · simp at hk; omega
        · simpa using hk
  · -- earlier access, later write
    obtain ⟨hm, hx, hz⟩ := cls_of_wr hc hwe
    cases hw : ei.wrS with
    | some y => exact viaPub hm (h.i1 i u ei y hi' hw)
    | none =>
      rcases hti with hti | hti
      · rw [hw] at hti; cases hti
      · obtain ⟨v, rfl⟩ := rdS_only hti hw
        rw [hx] at hi'
        rcases h.i5 i u v hi' with hp | ⟨t', c, hm', hzp, _⟩
        · exact viaPub hm hp
        · rw [hm] at hm'; cases hm'; exact absurd hzp (hz c)

/-- **every conflicting pair of accesses of a copy is ordered by happens-before** -/
theorem lr_order (ho : o.OK) {b : Bool} (h : run (init b) es = some s)
    {j : Nat} {ei ej : Ev} (hij : i < j) (hi : es[i]? = some (u, ei)) (hj : es[j]? = some (t, ej))
    (hc : LRConf ei ej) : HB.HB (hbTrace o es) i j := by
  induction es using HB.snoc_induction generalizing s with
  | h0 => simp at hj
  | hs es x ih =>
    obtain ⟨t', e⟩ := x
    obtain ⟨s1, h1, h2⟩ := runFrom_snoc_eq_some.1 h
    rcases HB.lq_snoc hj with ⟨hjl, hj'⟩ | ⟨hjl, hp⟩
    · have hi'' : es[i]? = some (u, ei) := by
        rw [List.getElem?_append_left (by omega)] at hi; exact hi
      rw [hbTrace_append]; exact (ih h1 hi'' hj').mono _
    · cases hp; subst hjl
      have hi'' : es[i]? = some (u, ei) := by
        rw [List.getElem?_append_left hij] at hi; exact hi
      have hinv : Inv s1 := inv_reachable ⟨b, es, h1⟩
      exact last_order (hinv_run ho h) (step_cls hinv h2) hi'' hc

theorem toHB_wr {y : HB.Loc} (h : toHB o e = .wr y) : ∃ x, e.wrS = some x ∧ copyLoc x = y := by
  cases e <;> simp [toHB] at h <;> exact ⟨_, rfl, h⟩

theorem toHB_rd {y : HB.Loc} (h : toHB o e = .rd y) : ∃ x, e.rdS = some x ∧ copyLoc x = y := by
  cases e <;> simp [toHB] at h <;> exact ⟨_, rfl, h⟩

theorem toHB_acc {y : HB.Loc} (h : (toHB o e).accesses y) : ∃ x, Touches e x ∧ copyLoc x = y := by
  rcases h with h | h
  · obtain ⟨x, h1, h2⟩ := toHB_rd h; exact ⟨x, .inr h1, h2⟩
  · obtain ⟨x, h1, h2⟩ := toHB_wr h; exact ⟨x, .inl h1, h2⟩

theorem lr_conf_of_hb {y : HB.Loc} {j : Nat}
    (hc : HB.ConflictOn (hbTrace o es) y i j) :
    ∃ u t ei ej, es[i]? = some (u, ei) ∧ es[j]? = some (t, ej) ∧ LRConf ei ej := by
  obtain ⟨u, t, hi, hj, h1, h2, ai, aj, hw⟩ := hc
  obtain ⟨ei, gi, mi⟩ := hbTrace_get_inv h1
  obtain ⟨ej, gj, mj⟩ := hbTrace_get_inv h2
  subst mi; subst mj
  refine ⟨u, t, ei, ej, gi, gj, ?_⟩
  rcases hw with hw | hw
  · obtain ⟨x, w1, w2⟩ := toHB_wr hw
    obtain ⟨x', t1, t2⟩ := toHB_acc aj
    have : x' = x := copyLoc_inj (t2.trans w2.symm)
    subst this
    exact ⟨x', .inl ⟨w1, t1⟩⟩
  · obtain ⟨x, w1, w2⟩ := toHB_wr hw
    obtain ⟨x', t1, t2⟩ := toHB_acc ai
    have : x' = x := copyLoc_inj (t2.trans w2.symm)
    subst this
    exact ⟨x', .inr ⟨t1, w1⟩⟩

theorem lr_hb (ho : o.OK) {b : Bool} (h : run (init b) es = some s)
    {y : HB.Loc} {j : Nat} (hij : i < j) (hc : HB.ConflictOn (hbTrace o es) y i j) : HB.HB (hbTrace o es) i j := by
  obtain ⟨u, t, ei, ej, gi, gj, hcf⟩ := lr_conf_of_hb hc
  exact lr_order ho h hij gi gj hcf

theorem lr_no_race (ho : o.OK) {b : Bool} (h : run (init b) es = some s) :
    ¬ HB.Race (hbTrace o es) := by
  intro ⟨i, j, hij, ⟨y, hc⟩, hn⟩
  exact hn (lr_hb ho h hij hc)

end ConcVerif.LR
