import ConcVerif.Proof.Latch
/-! Ties the ghost counter `St.arrived` of the Latch model (number of decrements performed) to the
*calls* that appear in the trace: every decrement belongs to exactly one `arrive` /
`arrive_and_wait` call, so `arrived` never exceeds the number of such calls that have started, and
the difference is exactly the number of callers that have not reached their decrement yet.
Any number of threads, any trace; the pending callers are carried as a ghost list. -/
namespace ConcVerif.Latch

variable {s s' : St} {P : List Tid} {c : Nat} {t : Tid} {e : Ev}

/-- inside `arrive`, before the decrement -/
def Pc.pending : Pc → Bool
  | .aCalled _ | .aLocked _ => true
  | _ => false

def acN : Ev → Nat
  | .call .arrive => 1
  | .call .aaw => 1
  | _ => 0

/-- number of `arrive` / `arrive_and_wait` calls started in a trace -/
def arriveCalls : List (Tid × Ev) → Nat
  | [] => 0
  | (_, e) :: es => acN e + arriveCalls es

/-- `P` lists the callers that have not reached their decrement; with the decrements made they account for `c` calls -/
structure J (s : St) (P : List Tid) (c : Nat) : Prop where
  sum : s.arrived + P.length = c
  mem : ∀ t, (s.pc t).pending = true ↔ t ∈ P
  nodup : P.Nodup

/-- a call of `arrive` / `arrive_and_wait` puts the caller on the list, its decrement takes it off, and no
other step changes `arrived` or whether its thread is pending -/
theorem J_step (h : J s P c) (hs : Step s t e s') :
    ∃ P', J s' P' (c + acN e) := by
  have keep : ∀ {s'' : St} {p : Pc} (p' : Pc), s.pc t = p → s''.arrived = s.arrived → s''.pc = upd s.pc t p' →
      p'.pending = p.pending → J s'' P c := fun p' hp ha hpc hpend =>
    ⟨ha ▸ h.sum, fun u => hpc ▸ upd_proj Pc.pending s.pc t p' (hp ▸ hpend) u ▸ h.mem u, h.nodup⟩
  cases hs with
  | @callA k hp hk =>
    have hnin : t ∉ P := fun hin => by have := (h.mem t).2 hin; rw [hp] at this; cases this
    refine ⟨t :: P, ?_, upd_forall (P := fun u (p : Pc) => p.pending = true ↔ u ∈ t :: P)
      ⟨fun _ => List.mem_cons_self, fun _ => rfl⟩
      (fun u hu => (h.mem u).trans ⟨List.mem_cons_of_mem _, fun hin => (List.mem_cons.1 hin).resolve_left hu⟩),
      List.nodup_cons.2 ⟨hnin, h.nodup⟩⟩
    have := h.sum
    cases k
    case wait => exact absurd rfl hk
    all_goals exact congrArg (· + 1) this
  | dec hp =>
    have hin : t ∈ P := (h.mem t).1 (by rw [hp]; rfl)
    refine ⟨P.erase t, ?_, upd_forall (P := fun u (p : Pc) => p.pending = true ↔ u ∈ P.erase t)
      ⟨nofun, fun hin => absurd hin h.nodup.not_mem_erase⟩ (fun u hu => (h.mem u).trans (List.mem_erase_of_ne hu).symm),
      h.nodup.erase t⟩
    show s.arrived + 1 + (P.erase t).length = c
    rw [List.length_erase_of_mem hin, Nat.add_assoc, Nat.add_comm 1, Nat.sub_add_cancel (List.length_pos_of_mem hin)]
    exact h.sum
  | _ => exact ⟨P, keep _ (by assumption) rfl rfl (by rfl)⟩

theorem J_run (es : List (Tid × Ev)) (h : J s P c)
    (hr : runFrom step s es = some s') : ∃ P', J s' P' (c + arriveCalls es) := by
  induction es generalizing s P c with
  | nil => cases hr; exact ⟨P, h⟩
  | cons te es ih =>
    obtain ⟨t, e⟩ := te
    obtain ⟨s1, hst, hr⟩ := runFrom_cons_eq_some.1 hr
    obtain ⟨P1, h1⟩ := J_step h (Step.of_step hst)
    exact Nat.add_assoc .. ▸ ih h1 hr

theorem J_init (start : Int) : J (init start) [] 0 :=
  ⟨rfl, fun _ => ⟨nofun, nofun⟩, .nil⟩

end ConcVerif.Latch
