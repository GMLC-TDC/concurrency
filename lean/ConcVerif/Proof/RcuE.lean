import ConcVerif.Proof.Rcu
/-! Layer E of the rcu_list invariant: reachability (DESIGN §7.4 N2–N4).

`Safe r c` — node `c` is protected for a handle registered with log record `r`: it is linked, or its
erase is in progress (unlinked, zombie record not yet on the log), or its zombie record is on the log
*above* `r`.  Every node a registered handle can name (its iterator, the value `erase` is about to
return, the `next` of an unlinked node that is itself protected) is protected; with layer B (a record
is taken off the log only when every older record is inactive) and layer D this gives: every node a
live handle dereferences is constructed and not destroyed. -/
namespace ConcVerif.Rcu

/-- pcs relevant to reachability -/
def EView : Pc → Pc
  | .eOrig c a => .eOrig c a
  | .eDel c o => .eDel c o
  | .eAlloc c o => .eDel c o
  | .eCons c o _ => .eDel c o
  | .eMark c o _ => .eDel c o
  | .eBack c o _ => .eDel c o
  | .eNext c o _ _ => .eDel c o
  | .eUnl c o _ _ _ => .eDel c o
  | .eFix _ o _ _ z => .eZh o z
  | .eZh o z => .eZh o z
  | .pushStore (.erase o) z _ => .eZh o z
  | .pushCas (.erase o) z _ => .eZh o z
  | .eUnlock o => .eUnlock o
  | _ => .idle

structure ESt where
  lst : List Nat
  order : List Nat
  log : List Nat
  zn : Nat → Option Nat
  nx : Nat → Option Nat
  hnd : Tid → Hnd
  it : Tid → Option (Option Nat)
  vpc : Tid → Pc

def St.eview (s : St) : ESt :=
  { lst := s.lst, order := s.order, log := s.log, zn := fun x => (s.recs x).znode, nx := fun n => (s.nodes n).next,
    hnd := s.hnd, it := s.it, vpc := fun u => EView (s.pc u) }

/-- node whose erase is in progress: unlinked, zombie record not yet on the log (`EView` never yields `eAlloc`, so only
the arm `eZh` is met) -/
def pendNode (e : ESt) : Pc → Option Nat
  | .eAlloc c _ => some c
  | .eZh _ z => e.zn z
  | _ => none

/-- the nodes `erase` still needs: the one it works on (until the unlink store: `EView` maps `eAlloc … eUnl` to `eDel`) and the one it returns -/
def origOf : Pc → List Nat
  | .eOrig c _ => [c]
  | .eDel c o => c :: o.toList
  | .eAlloc _ o | .eZh o _ | .eUnlock o => o.toList
  | _ => []

def Safe (e : ESt) (r c : Nat) : Prop :=
  c ∈ e.lst ∨ (∃ u, pendNode e (e.vpc u) = some c) ∨ ∃ z ∈ e.log, e.zn z = some c ∧ r ∈ Below e.log z

structure InvEv (e : ESt) : Prop where
  cur : ∀ t w r c, e.hnd t = .reg w r → e.it t = some (some c) → Safe e r c
  org : ∀ t w r x, e.hnd t = .reg w r → x ∈ origOf (e.vpc t) → Safe e r x
  edge : ∀ t w r, e.hnd t = .reg w r → ∀ c ∈ e.order, c ∉ e.lst → ∀ x, e.nx c = some x → Safe e r c → Safe e r x
  pend : ∀ u c, pendNode e (e.vpc u) = some c → c ∈ e.order ∧ ∀ x, e.nx c = some x → x ∈ e.lst

def InvE (s : St) : Prop := InvEv s.eview

theorem invE_init : InvE init :=
  ⟨(fun _ _ _ _ h => nomatch h), (fun _ _ _ _ h => nomatch h), (fun _ _ _ h => nomatch h), (fun _ _ h => nomatch h)⟩

theorem invE_of_view {s s' : St} (h : InvE s) (hv : s'.eview = s.eview) : InvE s' := by
  unfold InvE; rw [hv]; exact h

@[simp] theorem eview_lst (s : St) : s.eview.lst = s.lst := rfl
@[simp] theorem eview_order (s : St) : s.eview.order = s.order := rfl
@[simp] theorem eview_log (s : St) : s.eview.log = s.log := rfl
@[simp] theorem eview_zn (s : St) (x : Nat) : s.eview.zn x = (s.recs x).znode := rfl
@[simp] theorem eview_nx (s : St) (n : Nat) : s.eview.nx n = (s.nodes n).next := rfl
@[simp] theorem eview_hnd (s : St) : s.eview.hnd = s.hnd := rfl
@[simp] theorem eview_it (s : St) : s.eview.it = s.it := rfl
@[simp] theorem eview_vpc (s : St) (u : Tid) : s.eview.vpc u = EView (s.pc u) := rfl

theorem zn_setRNext (s : St) (r : Nat) (v : Option Nat) :
    (fun x => ((s.setRNext r v).recs x).znode) = fun x => (s.recs x).znode :=
  upd_proj_fun s.recs Rec.znode r _ rfl
theorem zn_setOwner (s : St) (r : Nat) (v : Option Tid) :
    (fun x => ((s.setOwner r v).recs x).znode) = fun x => (s.recs x).znode :=
  upd_proj_fun s.recs Rec.znode r _ rfl
theorem nx_setBack (s : St) (n : Nat) (v : Option Nat) :
    (fun x => ((s.setBack n v).nodes x).next) = fun x => (s.nodes x).next :=
  upd_proj_fun s.nodes Node.next n _ rfl
theorem nx_setDel (s : St) (n : Nat) (v : Bool) :
    (fun x => ((s.setDel n v).nodes x).next) = fun x => (s.nodes x).next :=
  upd_proj_fun s.nodes Node.next n _ rfl

/-- general preservation lemma of layer E.  `hfwd`: protection is stable for the handles that stay registered;
`hbwd`: an unlinked node that is protected after the step was already unlinked and protected before (with the same
`next`), or its `next` is protected outright; the thread that moves re-establishes its own cursor / return value;
a handle registered by this step (second case of `hfwd`) has no iterator and names no node yet, so only the edge
clause has to be shown for it. -/
theorem invE_gen {s s' : St} {t : Tid} (h : InvE s)
    (hfwd : ∀ u w r, s'.hnd u = .reg w r →
      (s.hnd u = .reg w r ∧ ∀ c, Safe s.eview r c → Safe s'.eview r c) ∨
      (u = t ∧ s'.it t = none ∧ origOf (EView (s'.pc t)) = [] ∧
        ∀ c ∈ s'.order, c ∉ s'.lst → ∀ x, (s'.nodes c).next = some x → Safe s'.eview r c → Safe s'.eview r x))
    (hbwd : ∀ u w r, s'.hnd u = .reg w r → s.hnd u = .reg w r → ∀ c ∈ s'.order, c ∉ s'.lst → Safe s'.eview r c →
      (c ∈ s.order ∧ c ∉ s.lst ∧ Safe s.eview r c ∧ (s'.nodes c).next = (s.nodes c).next) ∨
      (∀ x, (s'.nodes c).next = some x → Safe s'.eview r x))
    (hcur : ∀ w r c, s'.hnd t = .reg w r → s'.it t = some (some c) → s.it t = some (some c) ∨ Safe s'.eview r c)
    (hit : ∀ u, u ≠ t → s'.it u = s.it u)
    (horg : ∀ w r x, s'.hnd t = .reg w r → x ∈ origOf (EView (s'.pc t)) →
      x ∈ origOf (EView (s.pc t)) ∨ Safe s'.eview r x)
    (hvpc : ∀ u, u ≠ t → s'.pc u = s.pc u)
    (hpend : ∀ u c, pendNode s'.eview (EView (s'.pc u)) = some c →
      c ∈ s'.order ∧ ∀ x, (s'.nodes c).next = some x → x ∈ s'.lst) :
    InvE s' := by
  obtain ⟨e1, e2, e3, e4⟩ := h
  simp only [eview_lst, eview_order, eview_nx, eview_hnd, eview_it, eview_vpc] at e1 e2 e3 e4
  refine ⟨?_, ?_, ?_, ?_⟩
  all_goals simp only [eview_lst, eview_order, eview_nx, eview_hnd, eview_it, eview_vpc]
  · intro u w r c hu hc
    rcases hfwd u w r hu with ⟨g1, g2⟩ | ⟨g1, g2, _, _⟩
    · by_cases hut : u = t
      · subst hut
        rcases hcur w r c hu hc with g | g
        · exact g2 c (e1 u w r c g1 g)
        · exact g
      · rw [hit u hut] at hc; exact g2 c (e1 u w r c g1 hc)
    · subst g1; rw [g2] at hc; cases hc
  · intro u w r x hu hx
    rcases hfwd u w r hu with ⟨g1, g2⟩ | ⟨g1, _, g3, _⟩
    · by_cases hut : u = t
      · subst hut
        rcases horg w r x hu hx with g | g
        · exact g2 x (e2 u w r x g1 g)
        · exact g
      · rw [hvpc u hut] at hx; exact g2 x (e2 u w r x g1 hx)
    · subst g1; rw [g3] at hx; simp at hx
  · intro u w r hu c hc hcl x hx hs
    rcases hfwd u w r hu with ⟨g1, g2⟩ | ⟨_, _, _, g4⟩
    · rcases hbwd u w r hu g1 c hc hcl hs with ⟨b1, b2, b3, b4⟩ | b
      · rw [b4] at hx
        exact g2 x (e3 u w r g1 c b1 b2 x hx b3)
      · exact b x hx
    · exact g4 c hc hcl x hx hs
  · exact hpend

/-- protection only depends on `lst`, `log`, the `zombie_node` fields and the erases in progress -/
theorem safe_congr {e e' : ESt} {r c : Nat} (h : Safe e r c) (h1 : e'.lst = e.lst) (h2 : e'.log = e.log)
    (h3 : ∀ z ∈ e.log, e'.zn z = e.zn z) (h4 : ∀ u, pendNode e (e.vpc u) = some c → ∃ u', pendNode e' (e'.vpc u') = some c) :
    Safe e' r c := by
  rcases h with g | ⟨u, g⟩ | ⟨z, g1, g2, g3⟩
  · exact Or.inl (by rw [h1]; exact g)
  · exact Or.inr (Or.inl (h4 u g))
  · exact Or.inr (Or.inr ⟨z, by rw [h2]; exact g1, by rw [h3 z g1]; exact g2, by rw [h2]; exact g3⟩)

theorem eview_cls (p : Pc) : (isIdleV (EView p) || holdsW p) = true := by
  cases p with
  | pushStore c r e => cases c <;> rfl
  | pushCas c r e => cases c <;> rfl
  | _ => rfl

theorem eview_nonidle {p : Pc} (h : EView p ≠ .idle) : holdsW p = true := by
  have k := eview_cls p
  rw [isIdleV_false h] at k
  exact k

theorem eview_eZh_priv {p : Pc} {o : Option Nat} {z : Nat} (h : EView p = .eZh o z) : privRec (BView p) = some z := by
  cases p with
  | pushStore c r e => cases c <;> cases h <;> rfl
  | pushCas c r e => cases c <;> cases h <;> rfl
  | _ => cases h <;> rfl

theorem others_eidle {s : St} {t : Tid} {p : Pc} (ha : InvA s) (hpc : s.pc t = p) (hw : holdsW p = true) :
    ∀ u, u ≠ t → EView (s.pc u) = .idle := by
  subst hpc
  intro u hut
  apply Classical.byContradiction
  intro hc
  have a := (ha.wm u).1 (eview_nonidle hc)
  have b := (ha.wm t).1 hw
  rw [a] at b; injection b with b; exact hut b

theorem pend_holder {s : St} (ha : InvA s) {u : Tid} {c : Nat} (h : pendNode s.eview (EView (s.pc u)) = some c) :
    s.wmtx = some u := by
  apply (ha.wm u).1
  apply eview_nonidle
  intro hc; rw [hc] at h; simp [pendNode] at h

theorem safe_iff_of_eq {e e' : ESt} {r c : Nat} (h1 : e'.lst = e.lst) (h2 : e'.log = e.log)
    (h3 : ∀ z ∈ e.log, e'.zn z = e.zn z) (h4 : ∀ u, pendNode e' (e'.vpc u) = pendNode e (e.vpc u)) :
    Safe e' r c ↔ Safe e r c := by
  constructor
  · intro h
    exact safe_congr h h1.symm h2.symm (fun z hz => (h3 z (by rw [← h2]; exact hz)).symm) (fun u hu => ⟨u, by rw [← h4 u]; exact hu⟩)
  · intro h
    exact safe_congr h h1 h2 h3 (fun u hu => ⟨u, by rw [h4 u]; exact hu⟩)

/-- a record is taken off the log (by a reclaimer or by the destructor): no registered handle is below it -/
theorem invE_pop {s : St} {t : Tid} (h : InvE s) (hnd : s.log.Nodup) (m : Nat) (rled' : Nat → Led) (p' : Pc)
    (hp' : EView p' = .idle) {p : Pc} (hpc : s.pc t = p) (hpt : EView p = .idle)
    (hsafe : ∀ u w r, s.hnd u = .reg w r → r ≠ m ∧ r ∉ Below s.log m) :
    InvE ({ s with rled := rled', log := s.log.erase m }.setPc t p') := by
  subst hpc
  have hv : ∀ u, EView (({ s with rled := rled', log := s.log.erase m }.setPc t p').pc u) = EView (s.pc u) := by
    intro u; by_cases hut : u = t
    · subst hut; simp [hp', hpt]
    · simp [hut]
  have hpe : ∀ u, pendNode ({ s with rled := rled', log := s.log.erase m }.setPc t p').eview
      (EView (({ s with rled := rled', log := s.log.erase m }.setPc t p').pc u)) = pendNode s.eview (EView (s.pc u)) := by
    intro u; rw [hv u]; rfl
  refine invE_gen (t := t) h ?_ ?_ (fun w r c hu hc => Or.inl hc) (fun u hut => rfl) ?_ (fun u hut => by simp [hut]) ?_
  · intro u w r hu
    left
    refine ⟨hu, ?_⟩
    intro c hc
    rcases hc with g | ⟨u', g⟩ | ⟨z, g1, g2, g3⟩
    · exact Or.inl g
    · exact Or.inr (Or.inl ⟨u', by simp only [eview_vpc] at g ⊢; rw [hpe u']; exact g⟩)
    · obtain ⟨k1, k2⟩ := hsafe u w r hu
      simp only [eview_log, eview_zn] at g1 g2 g3
      have hzm : z ≠ m := by intro e; subst e; exact k2 g3
      refine Or.inr (Or.inr ⟨z, ?_, g2, ?_⟩)
      · exact (List.mem_erase_of_ne hzm).2 g1
      · show r ∈ Below (s.log.erase m) z
        rw [below_erase hnd hzm]; exact (List.mem_erase_of_ne k1).2 g3
  · intro u w r hu hu' c hc hcl hs
    left
    refine ⟨hc, hcl, ?_, rfl⟩
    rcases hs with g | ⟨u', g⟩ | ⟨z, g1, g2, g3⟩
    · exact Or.inl g
    · exact Or.inr (Or.inl ⟨u', by simp only [eview_vpc] at g ⊢; rw [← hpe u']; exact g⟩)
    · have g1' : z ∈ s.log.erase m := g1
      have hzm : z ≠ m := fun e => by subst e; exact (List.Nodup.mem_erase_iff hnd).1 g1' |>.1 rfl
      have g3' : r ∈ Below (s.log.erase m) z := g3
      rw [below_erase hnd hzm] at g3'
      exact Or.inr (Or.inr ⟨z, List.mem_of_mem_erase g1', g2, List.mem_of_mem_erase g3'⟩)
  · intro w r x hu hx; simp [hp', origOf] at hx
  · intro u c hu
    rw [hpe u] at hu
    exact h.pend u c hu

/-- a node is linked (`push_front` / `push_back`): `lst` and `order` grow by a node that was in neither -/
theorem invE_link {s s' : St} {t : Tid} (h : InvE s) (n : Nat)
    (hA : s'.hnd = s.hnd) (hl : ∀ x, x ∈ s'.lst ↔ x = n ∨ x ∈ s.lst) (ho : ∀ x, x ∈ s'.order ↔ x = n ∨ x ∈ s.order)
    (hlog : s'.log = s.log) (hrec : s'.recs = s.recs)
    (hnx : ∀ c ∈ s.order, c ∉ s.lst → (s'.nodes c).next = (s.nodes c).next)
    (hit : s'.it = s.it) (hvt : EView (s'.pc t) = .idle) (hvt' : EView (s.pc t) = .idle)
    (hvpc : ∀ u, u ≠ t → s'.pc u = s.pc u) (hnopend : ∀ u, pendNode s.eview (EView (s.pc u)) = none) : InvE s' := by
  have hv : ∀ u, EView (s'.pc u) = EView (s.pc u) := by
    intro u; by_cases hut : u = t
    · subst hut; rw [hvt, hvt']
    · rw [hvpc u hut]
  have hpe : ∀ u, pendNode s'.eview (EView (s'.pc u)) = pendNode s.eview (EView (s.pc u)) := by
    intro u; rw [hv u]
    cases EView (s.pc u) <;> simp [pendNode, hrec]
  refine invE_gen (t := t) h ?_ ?_ (fun w r c hu hc => Or.inl (by rw [← hit]; exact hc)) (fun u hut => by rw [hit]) ?_ hvpc ?_
  · intro u w r hu
    left
    refine ⟨by rw [← hA]; exact hu, ?_⟩
    intro c hc
    rcases hc with g | ⟨u', g⟩ | ⟨z, g1, g2, g3⟩
    · exact Or.inl ((hl c).2 (Or.inr g))
    · exact Or.inr (Or.inl ⟨u', by simp only [eview_vpc] at g ⊢; rw [hpe u']; exact g⟩)
    · exact Or.inr (Or.inr ⟨z, by simp only [eview_log, hlog]; exact g1, by simp only [eview_zn, hrec]; exact g2,
        by simp only [eview_log, hlog]; exact g3⟩)
  · intro u w r hu hu' c hc hcl hs
    left
    have hcn : c ≠ n := fun e => hcl ((hl c).2 (Or.inl e))
    have hco : c ∈ s.order := by rcases (ho c).1 hc with e | e; exact absurd e hcn; exact e
    have hcl' : c ∉ s.lst := fun e => hcl ((hl c).2 (Or.inr e))
    refine ⟨hco, hcl', ?_, hnx c hco hcl'⟩
    rcases hs with g | ⟨u', g⟩ | ⟨z, g1, g2, g3⟩
    · exact absurd g hcl
    · exact Or.inr (Or.inl ⟨u', by simp only [eview_vpc] at g ⊢; rw [← hpe u']; exact g⟩)
    · exact Or.inr (Or.inr ⟨z, by simp only [eview_log, hlog] at g1; exact g1, by simp only [eview_zn, hrec] at g2; exact g2,
        by simp only [eview_log, hlog] at g3; exact g3⟩)
  · intro w r x hu hx; simp [hvt, origOf] at hx
  · intro u c hu
    rw [hpe u, hnopend u] at hu; cases hu

/-- the unlink store of `erase`: `c` leaves `lst`, its erase is now in progress -/
theorem invE_unlink {s : St} {t : Tid} (hi : Inv s) (h : InvE s) {c z : Nat} {o p x : Option Nat}
    (hpc : s.pc t = .eUnl c o p x z) (nodes' : Nat → Node) (head' : Option Nat)
    (hup : match p with
      | some pp => nodes' = upd s.nodes pp { s.nodes pp with next := x }
      | none => nodes' = s.nodes) :
    InvE ({ s with nodes := nodes', head := head', lst := s.lst.erase c }.setPc t (.eFix c o p x z)) := by
  have hz : (s.recs z).znode = some c := (invD_held hi.d hpc : _ ∧ _).1
  obtain ⟨hcl, _, _, g4, g5⟩ : c ∈ s.lst ∧ _ ∧ _ ∧ NextIs s.lst p (some c) ∧ x = (Below s.lst c).head? := invC_wr hi.c hpc
  have hoth := others_eidle hi.a hpc rfl
  have hnd : s.lst.Nodup := hi.c.lstNd
  have hco : c ∈ s.order := hi.c.sub c hcl
  have hx : (s.nodes c).next = x := (hi.c.nx c hcl).trans g5.symm
  have hxl : ∀ y, x = some y → y ∈ s.lst ∧ y ≠ c := by
    intro y hy
    have hb : y ∈ Below s.lst c := head_mem_below (g5 ▸ hy)
    exact ⟨mem_of_mem_below hb, fun e => not_mem_below_self hnd (e ▸ hb)⟩
  have hnx : ∀ y, y ∉ s.lst ∨ y = c → (nodes' y).next = (s.nodes y).next := by
    intro y hy
    cases p with
    | none => rw [hup]
    | some pp =>
      have : y ≠ pp := by
        rcases hy with hy | hy
        · exact fun e => hy (e ▸ g4.1)
        · exact fun e => not_mem_below_self hnd (hy ▸ e ▸ head_mem_below g4.2)
      rw [hup, upd_other _ _ _ _ this]
  have hsubE : ∀ y, y ∈ s.lst.erase c → y ∈ s.lst ∧ y ≠ c := by
    intro y hy
    exact ⟨List.mem_of_mem_erase hy, fun e => by subst e; exact (List.Nodup.mem_erase_iff hnd).1 hy |>.1 rfl⟩
  have hpold : ∀ u, pendNode s.eview (EView (s.pc u)) = none := by
    intro u; by_cases hut : u = t
    · subst hut; simp [hpc, EView, pendNode]
    · rw [hoth u hut]; rfl
  have hpnew : ∀ u y, pendNode ({ s with nodes := nodes', head := head', lst := s.lst.erase c }.setPc t (.eFix c o p x z)).eview
      (EView (({ s with nodes := nodes', head := head', lst := s.lst.erase c }.setPc t (.eFix c o p x z)).pc u)) = some y →
      u = t ∧ y = c := by
    intro u y hy
    by_cases hut : u = t
    · subst hut; simp [EView, pendNode, St.eview, hz] at hy; exact ⟨rfl, hy.symm⟩
    · simp only [setPc_pc, upd_other _ _ _ _ hut] at hy
      have : EView (s.pc u) = .idle := hoth u hut
      rw [show (({ s with nodes := nodes', head := head', lst := s.lst.erase c } : St).pc u) = s.pc u from rfl, this] at hy
      simp [pendNode] at hy
  refine invE_gen (t := t) h ?_ ?_ (fun w r c' hu hc => Or.inl hc) (fun u hut => rfl) ?_ (fun u hut => by simp [hut]) ?_
  · intro u w r hu
    left
    refine ⟨hu, ?_⟩
    intro y hy
    rcases hy with g | ⟨u', g⟩ | ⟨z, g1, g2, g3⟩
    · by_cases e : y = c
      · subst e; exact Or.inr (Or.inl ⟨t, by simp [EView, pendNode, St.eview, hz]⟩)
      · exact Or.inl ((List.mem_erase_of_ne e).2 g)
    · simp only [eview_vpc] at g; rw [hpold u'] at g; cases g
    · exact Or.inr (Or.inr ⟨z, g1, g2, g3⟩)
  · intro u w r hu hu' y hy hyl hs
    by_cases e : y = c
    · subst e
      right
      intro x' hx'
      have : (nodes' y).next = some x' := hx'
      rw [hnx y (Or.inr rfl), hx] at this
      obtain ⟨k1, k2⟩ := hxl x' this
      exact Or.inl ((List.mem_erase_of_ne k2).2 k1)
    · left
      have hyl' : y ∉ s.lst := fun g => hyl ((List.mem_erase_of_ne e).2 g)
      refine ⟨hy, hyl', ?_, hnx y (Or.inl hyl')⟩
      rcases hs with g | ⟨u', g⟩ | ⟨z, g1, g2, g3⟩
      · exact absurd g hyl
      · simp only [eview_vpc] at g; exact absurd (hpnew u' y g).2 e
      · exact Or.inr (Or.inr ⟨z, g1, g2, g3⟩)
  · intro w r x' hu hx'
    left
    simp only [hpc, EView, origOf, setPc_pc, upd_same] at hx' ⊢
    exact List.mem_cons_of_mem _ hx'
  · intro u y hu
    obtain ⟨k1, k2⟩ := hpnew u y hu
    subst k2
    refine ⟨hco, ?_⟩
    intro x' hx'
    have : (nodes' y).next = some x' := hx'
    rw [hnx y (Or.inr rfl), hx] at this
    obtain ⟨j1, j2⟩ := hxl x' this
    exact (List.mem_erase_of_ne j2).2 j1

theorem eview_setRNext (s : St) (r : Nat) (v : Option Nat) : (s.setRNext r v).eview = s.eview :=
  congrArg (fun f => { s.eview with zn := f }) (zn_setRNext s r v)

theorem eview_setBack (s : St) (n : Nat) (v : Option Nat) : (s.setBack n v).eview = s.eview :=
  congrArg (fun f => { s.eview with nx := f }) (nx_setBack s n v)

theorem eview_setDel (s : St) (n : Nat) (v : Bool) : (s.setDel n v).eview = s.eview :=
  congrArg (fun f => { s.eview with nx := f }) (nx_setDel s n v)

theorem invE_move {s d : St} {t : Tid} {p p' : Pc} (h : InvE s) (hd : d.eview = s.eview) (hpc : s.pc t = p)
    (hp : EView p' = EView p) : InvE (d.setPc t p') := by
  subst hpc
  refine invE_of_view h ?_
  have hv : (fun u => EView (upd d.pc t p' u)) = fun u => EView (s.pc u) := by
    funext u
    by_cases hu : u = t
    · rw [hu, upd_same, hp]
    · rw [upd_other _ _ _ _ hu]; exact congrFun (congrArg ESt.vpc hd) u
  unfold St.eview at hd ⊢
  injection hd with h1 h2 h3 h4 h5 h6 h7
  simp only [setPc_lst, setPc_order, setPc_log, setPc_recs, setPc_nodes, setPc_hnd, setPc_it, setPc_pc,
    h1, h2, h3, h4, h5, h6, h7, hv]

theorem nopend_writer {s : St} {t : Tid} {p : Pc} (ha : InvA s) (hpc : s.pc t = p) (hw : holdsW p = true)
    (hp : pendNode s.eview (EView p) = none) : ∀ u, pendNode s.eview (EView (s.pc u)) = none := by
  intro u
  by_cases hut : u = t
  · rw [hut, hpc]; exact hp
  · rw [others_eidle ha hpc hw u hut]; rfl

theorem pendNode_congr {e e' : ESt} (hz : e'.zn = e.zn) (v : Pc) : pendNode e' v = pendNode e v := by
  cases v with
  | eZh _ z => exact congrFun hz z
  | _ => rfl

/-- `t` moves from `p` to `p'`; `d` is `s` with the data fields as they are afterwards.  Neither `lst` / `order` / `log` change,
nor a `zombie_node` on the log or an erase in progress, nor the `next` of a node that was ever linked, and no handle is registered -/
theorem invE_eqPc {s d : St} {t : Tid} {p p' : Pc} (h : InvE s) (hpc : s.pc t = p) (hpcs : d.pc = s.pc)
    (hA : ∀ u w r, d.hnd u = .reg w r → s.hnd u = .reg w r)
    (h1 : d.lst = s.lst) (h1' : d.order = s.order) (h2 : d.log = s.log)
    (h3 : ∀ z ∈ s.log, (d.recs z).znode = (s.recs z).znode)
    (h4 : ∀ u, u ≠ t → pendNode d.eview (EView (s.pc u)) = pendNode s.eview (EView (s.pc u)))
    (h4t : pendNode d.eview (EView p') = pendNode s.eview (EView p))
    (hnx : ∀ c ∈ s.order, (d.nodes c).next = (s.nodes c).next)
    (hcur : ∀ w r c, d.hnd t = .reg w r → d.it t = some (some c) → s.it t = some (some c) ∨ Safe s.eview r c)
    (hit : ∀ u, u ≠ t → d.it u = s.it u)
    (horg : ∀ w r x, d.hnd t = .reg w r → x ∈ origOf (EView p') → x ∈ origOf (EView p) ∨ Safe s.eview r x) :
    InvE (d.setPc t p') := by
  subst hpc
  have h4' : ∀ u, pendNode (d.setPc t p').eview (EView ((d.setPc t p').pc u)) = pendNode s.eview (EView (s.pc u)) := by
    intro u
    show pendNode d.eview (EView (upd d.pc t p' u)) = _
    by_cases hut : u = t
    · rw [hut, upd_same]; exact h4t
    · rw [upd_other _ _ _ _ hut, hpcs]; exact h4 u hut
  have hS : ∀ r c, Safe (d.setPc t p').eview r c ↔ Safe s.eview r c := fun r c => safe_iff_of_eq h1 h2 h3 h4'
  refine invE_gen (t := t) h (fun u w r hu => Or.inl ⟨hA u w r hu, fun c hc => (hS r c).2 hc⟩) ?_
    (fun w r c hu hc => (hcur w r c hu hc).imp_right (hS r c).2) hit ?_
    (fun u hut => by rw [setPc_pc, upd_other _ _ _ _ hut, hpcs]) ?_
  · intro u w r hu hu' c hc hcl hs
    exact Or.inl ⟨h1' ▸ hc, h1 ▸ hcl, (hS r c).1 hs, hnx c (h1' ▸ hc)⟩
  · intro w r x hu hx
    rw [setPc_pc, upd_same] at hx
    exact (horg w r x hu hx).imp_right (hS r x).2
  · intro u c hu
    rw [h4' u] at hu
    obtain ⟨k1, k2⟩ := h.pend u c hu
    exact ⟨h1' ▸ k1, fun x hx => h1 ▸ k2 x ((hnx c k1).symm.trans hx)⟩

theorem invE_it {s d : St} {t : Tid} {p p' : Pc} (h : InvE s) (v : Option (Option Nat))
    (hd : d.eview = { s.eview with it := upd s.it t v }) (hpcs : d.pc = s.pc)
    (hpc : s.pc t = p) (h4t : pendNode s.eview (EView p') = pendNode s.eview (EView p))
    (hcur : ∀ w r c, s.hnd t = .reg w r → v = some (some c) → s.it t = some (some c) ∨ Safe s.eview r c)
    (horg : ∀ w r x, s.hnd t = .reg w r → x ∈ origOf (EView p') → x ∈ origOf (EView p) ∨ Safe s.eview r x) :
    InvE (d.setPc t p') := by
  have ez : d.eview.zn = s.eview.zn := (congrArg ESt.zn hd :)
  have eh : d.hnd = s.hnd := (congrArg ESt.hnd hd :)
  have ei : d.it = upd s.it t v := (congrArg ESt.it hd :)
  exact invE_eqPc h hpc hpcs (fun u w r hu => eh ▸ hu) (congrArg ESt.lst hd) (congrArg ESt.order hd) (congrArg ESt.log hd)
    (fun z _ => congrFun ez z) (fun u _ => pendNode_congr ez _) ((pendNode_congr ez _).trans h4t)
    (fun c _ => congrFun (congrArg ESt.nx hd) c)
    (fun w r c hu hc => hcur w r c (eh ▸ hu) (by rw [ei, upd_same] at hc; exact hc))
    (fun u hut => by rw [ei, upd_other _ _ _ _ hut]) (fun w r x hu hx => horg w r x (eh ▸ hu) hx)

theorem invE_pc {s d : St} {t : Tid} {p p' : Pc} (h : InvE s) (hd : d.eview = s.eview) (hpcs : d.pc = s.pc)
    (hpc : s.pc t = p) (h4t : pendNode s.eview (EView p') = pendNode s.eview (EView p))
    (horg : ∀ w r x, s.hnd t = .reg w r → x ∈ origOf (EView p') → x ∈ origOf (EView p) ∨ Safe s.eview r x) :
    InvE (d.setPc t p') :=
  invE_it h (s.it t) (by rw [upd_self]; exact hd) hpcs hpc h4t (fun _ _ _ _ hc => Or.inl hc) horg

/-- the handle of `t` becomes `x`, which is not registered (taken fresh, or dropped) -/
theorem invE_unreg {s d : St} {t : Tid} {p p' : Pc} (h : InvE s) (x : Hnd) (it' : Tid → Option (Option Nat))
    (hx : ∀ w r, x ≠ .reg w r) (hd : d.eview = { s.eview with hnd := upd s.hnd t x, it := it' }) (hpcs : d.pc = s.pc)
    (hpc : s.pc t = p) (hit : ∀ u, u ≠ t → it' u = s.it u)
    (h4t : pendNode s.eview (EView p') = pendNode s.eview (EView p)) : InvE (d.setPc t p') := by
  have ez : d.eview.zn = s.eview.zn := (congrArg ESt.zn hd :)
  have eh : d.hnd = upd s.hnd t x := (congrArg ESt.hnd hd :)
  have ei : d.it = it' := (congrArg ESt.it hd :)
  have hnt : ∀ w r, d.hnd t ≠ .reg w r := fun w r hu => hx w r (by rw [eh, upd_same] at hu; exact hu)
  refine invE_eqPc h hpc hpcs ?_ (congrArg ESt.lst hd) (congrArg ESt.order hd) (congrArg ESt.log hd)
    (fun z _ => congrFun ez z) (fun u _ => pendNode_congr ez _) ((pendNode_congr ez _).trans h4t)
    (fun c _ => congrFun (congrArg ESt.nx hd) c) (fun w r c hu => absurd hu (hnt w r))
    (fun u hut => by rw [ei]; exact hit u hut) (fun w r y hu => absurd hu (hnt w r))
  intro u w r hu
  by_cases hut : u = t
  · subst hut; exact absurd hu (hnt w r)
  · rw [eh, upd_other _ _ _ _ hut] at hu; exact hu

theorem invE_step {s s' : St} {t : Tid} {e : Ev} (hi : Inv s) (he' : InvE s) (hs : Step s t e s') : InvE s' := by
  have h := he'
  have hnx0 : ∀ a ∈ s.lst, (s.nodes a).next = (Below s.lst a).head? := hi.c.nx
  cases hs with
  | regPst | pPstDel | pPstData | ePst | dDesZNpld | dFreZNpld => exact h
  -- the view of `t` and the fields of the view stay as they are
  | callLock | callRel | callBeg | callNxt | callDer | callPush | callErase | callDtor | relSome | relNone
  | regAlo | regFail | rExc | der | pushLock | ret | regZh | uOwnerActive | uOwnerInactive | uNextSome | rZnNode
  | rZnNull | rDesN | rFreN | rNext | rDesZ | pAlo | pAloFail | pThrow | pThrownMul | pExc | pLoadFrontNone
  | pLoadFrontSome | pLoadBackNone | pLoadBackSome | pE2 | pB3 | pUnlock | eDelFresh | eAlo | eBack | eNext
  | eFixTail | eZh | dNext | dDesN | dOwner | dRNext | dZnNode | dZnNull | dDesZN | dFreZN | dDesZ =>
    exact invE_move h rfl ‹s.pc t = _› (by rfl)
  | casFail c _ _ _ hpc => cases c <;> exact invE_move h rfl hpc rfl
  | dtorHead _ hpc => cases hh : s.head <;> exact invE_move h rfl hpc rfl
  | uTrunc => exact invE_move h (eview_setRNext ..) ‹s.pc t = _› (by rfl)
  | pushStore c _ _ _ hpc => cases c <;> exact invE_move h (eview_setRNext ..) hpc rfl
  | pF2 | pB1 | eFixNext => exact invE_move h (eview_setBack ..) ‹s.pc t = _› (by rfl)
  | eMark => exact invE_move h (eview_setDel ..) ‹s.pc t = _› (by rfl)
  -- the handle of `t` becomes one that is not registered
  | retLock w hpc => exact invE_unreg h (.fresh w) s.it nofun rfl rfl hpc (fun _ _ => rfl) rfl
  | relFresh _ hpc => exact invE_unreg h .none _ nofun rfl rfl hpc (fun u hut => upd_other _ _ _ _ hut) rfl
  | uClear r _ hpc =>
    exact invE_unreg h .none _ nofun
      (congrArg (fun f => { s.eview with zn := f, hnd := upd s.hnd t .none, it := upd s.it t none }) (zn_setOwner s r none))
      rfl hpc (fun u hut => upd_other _ _ _ _ hut) rfl
  -- pc moves that change what `erase` still needs, and iterator assignments
  | eraseLock _ r c hpc hh hi' =>
    refine invE_pc h rfl rfl hpc rfl fun w r' x hu hx => ?_
    rw [hh] at hu; cases hu
    rw [List.mem_singleton.1 hx]; exact Or.inr (h.cur t true r c hh hi')
  | eAloFail _ _ hpc => exact invE_pc h rfl rfl hpc rfl (fun _ _ _ _ hx => absurd hx List.not_mem_nil)
  | eDelDeleted _ _ hpc => exact invE_pc h rfl rfl hpc rfl (fun _ _ _ _ hx => Or.inl (List.mem_cons_of_mem _ hx))
  | eOrig c adv _ hpc =>
    have hw : c ∈ s.order := invC_wr hi.c hpc
    refine invE_pc h rfl rfl hpc rfl fun w r x hu hx => Or.inr ?_
    have hsc : Safe s.eview r c := h.org t w r c hu (by rw [eview_vpc, hpc]; exact List.mem_singleton.2 rfl)
    have hxc : x = c ∨ (s.nodes c).next = some x := by
      cases adv with
      | false => exact Or.inl ((List.mem_cons.1 hx).elim id fun e => List.mem_singleton.1 e)
      | true => exact (List.mem_cons.1 hx).imp_right fun e => (Option.mem_toList.1 e)
    rcases hxc with e | e
    · exact e ▸ hsc
    · by_cases hl : c ∈ s.lst
      · left
        rw [hnx0 c hl] at e
        exact mem_of_mem_below (head_mem_below e)
      · exact h.edge t w r hu c hw hl x e hsc
  | eUnlock orig hpc =>
    refine invE_it h (some orig) rfl rfl hpc rfl (fun w r c hu hc => Or.inr ?_) (fun _ _ _ _ hx => absurd hx List.not_mem_nil)
    cases hc
    exact h.org t w r c hu (by rw [eview_vpc, hpc]; exact List.mem_singleton.2 rfl)
  | beg _ _ _ hpc hh =>
    have hhd : s.head = s.lst.head? := hi.c.hd (dt_false_of_hnd hi.a (t := t) (by rw [hh]; nofun))
    exact invE_it h (some s.head) rfl rfl hpc rfl
      (fun w r c _ hc => Or.inr (Or.inl (mem_of_head? (hhd ▸ Option.some.inj hc))))
      (fun _ _ _ _ hx => absurd hx List.not_mem_nil)
  | nxt w r n _ hpc hh hi' =>
    refine invE_it h (some (s.nodes n).next) rfl rfl hpc rfl (fun w' r' c hu hc => Or.inr ?_)
      (fun _ _ _ _ hx => absurd hx List.not_mem_nil)
    rw [hh] at hu; cases hu
    have hc : (s.nodes n).next = some c := Option.some.inj hc
    by_cases hl : n ∈ s.lst
    · left
      rw [hnx0 n hl] at hc
      exact mem_of_mem_below (head_mem_below hc)
    · exact h.edge t w r hh n (hi.c.itv t n hi') hl c hc (h.cur t w r n hh hi')
  -- a private record is constructed, a private node is written
  | regCon k r hpc =>
    have hp : r ∉ s.log ∧ _ := invB_priv hi.b hpc rfl
    refine invE_eqPc h hpc rfl (fun _ _ _ hu => hu) rfl rfl rfl ?_ ?_ rfl (fun _ _ => rfl) (fun _ _ _ _ hc => Or.inl hc)
      (fun _ _ => rfl) (fun _ _ _ _ hx => absurd hx List.not_mem_nil)
    · intro z hz
      exact congrArg Rec.znode (upd_other _ _ _ _ (fun e : z = r => hp.1 (e ▸ hz)))
    · intro u hut
      have hv0 : ∀ o z, EView (s.pc u) = .eZh o z → z ≠ r := by
        intro o z hv e; subst e
        exact hut (hi.b.privUq u t z (eview_eZh_priv hv) (by rw [bview_vpc, hpc]; rfl))
      generalize EView (s.pc u) = v at hv0
      cases v with
      | eZh o z => exact congrArg Rec.znode (upd_other _ _ _ _ (hv0 o z rfl))
      | _ => rfl
  | eCon c orig z hpc =>
    have hp : z ∉ s.log ∧ _ := invB_priv hi.b hpc rfl
    have hidle := others_eidle hi.a hpc rfl
    refine invE_eqPc h hpc rfl (fun _ _ _ hu => hu) rfl rfl rfl ?_ ?_ rfl (fun _ _ => rfl) (fun _ _ _ _ hc => Or.inl hc)
      (fun _ _ => rfl) (fun _ _ _ _ hx => Or.inl hx)
    · intro z' hz
      exact congrArg Rec.znode (upd_other _ _ _ _ (fun e : z' = z => hp.1 (e ▸ hz)))
    · intro u hut; rw [hidle u hut]; rfl
  | pCon _ _ _ n hpc =>
    have hw : n ∉ s.order ∧ _ := invC_wr hi.c hpc
    exact invE_eqPc h hpc rfl (fun _ _ _ hu => hu) rfl rfl rfl (fun _ _ => rfl) (fun _ _ => rfl) rfl
      (fun c hc => congrArg Node.next (upd_other _ _ _ _ (fun e : c = n => hw.1 (e ▸ hc)))) (fun _ _ _ _ hc => Or.inl hc)
      (fun _ _ => rfl) (fun _ _ _ _ hx => absurd hx List.not_mem_nil)
  | pF1 _ n _ _ hpc =>
    have hw : FreshN s.cview n none none ∧ _ := invC_wr hi.c hpc
    exact invE_eqPc h hpc rfl (fun _ _ _ hu => hu) rfl rfl rfl (fun _ _ => rfl) (fun _ _ => rfl) rfl
      (fun c hc => congrArg Node.next (upd_other _ _ _ _ (fun e : c = n => hw.1.1 (e ▸ hc)))) (fun _ _ _ _ hc => Or.inl hc)
      (fun _ _ => rfl) (fun _ _ _ _ hx => absurd hx List.not_mem_nil)
  -- a record is taken off the log
  | rFreZ r m nx hpc =>
    cases nx with
    | none => exact invE_move h rfl hpc rfl
    | some m' =>
      obtain ⟨_, h1, h2⟩ : _ ∧ (∀ x ∈ Below s.log r, (s.recs x).owner = none) ∧ some m' = (Below s.log r).head? :=
        (hi.b.thr_at hpc).reap
      have hb2 : s.log.Nodup := hi.b.logNd
      have hcb : m' ∈ Below s.log r := head_mem_below h2.symm
      refine invE_pop (t := t) h hb2 m' _ (.rZn r m') rfl hpc rfl ?_
      intro u w r' hu
      have ho : (s.recs r').owner = some u := (hi.b.own1 u w r' hu).2
      constructor
      · intro e; subst e; rw [h1 _ hcb] at ho; cases ho
      · intro hc
        rw [h1 r' (below_trans hb2 hcb hc)] at ho; cases ho
  | dFreZ m nx hpc =>
    have hdt := hi.a.dtd t (hpc ▸ rfl)
    cases nx with
    | none => exact invE_move h rfl hpc rfl
    | some m' =>
      refine invE_pop (t := t) h hi.b.logNd m' _ (.dOwner m') rfl hpc rfl ?_
      intro u w r hu
      have := no_hnd_in_dt hi.a hdt u; rw [hu] at this; cases this
  | dZhead _ hpc =>
    have hdt := hi.a.dtd t (hpc ▸ rfl)
    cases hz : s.zhead with
    | none => exact invE_move h rfl hpc rfl
    | some m =>
      refine invE_pop (t := t) h hi.b.logNd m s.rled (.dOwner m) rfl hpc rfl ?_
      intro u w r hu
      have := no_hnd_in_dt hi.a hdt u; rw [hu] at this; cases this
  | uNextNone r cached m _ hpc _ hv =>
    cases cached with
    | none => exact invE_move h rfl hpc rfl
    | some c =>
      obtain ⟨h1, h2, h3, h4⟩ : m ∈ Below s.log r ∧ some c = (Below s.log r).head? ∧ (s.recs m).owner = none ∧
          ∀ x ∈ Below s.log r, m ∈ Below s.log x → (s.recs x).owner = none := (hi.b.thr_at hpc).scan
      have hb2 : s.log.Nodup := hi.b.logNd
      have hmlog := mem_of_mem_below h1
      have hnx := next_of_inactive hi.a hi.b hmlog h3
      rw [hv] at hnx
      have hbm : Below s.log m = [] := head?_eq_none hnx.symm
      have hin : ∀ x ∈ Below s.log r, (s.recs x).owner = none := by
        intro x hx
        by_cases hxm : x = m
        · subst hxm; exact h3
        · rcases below_total (mem_of_mem_below hx) hmlog hxm with e | e
          · rw [hbm] at e; cases e
          · exact h4 x hx e
      have hcb : c ∈ Below s.log r := head_mem_below h2.symm
      refine invE_pop (t := t) h hb2 c s.rled (.rZn r c) rfl hpc rfl ?_
      intro u w r' hu
      have ho : (s.recs r').owner = some u := (hi.b.own1 u w r' hu).2
      constructor
      · intro e; subst e; rw [hin _ hcb] at ho; cases ho
      · intro hc
        rw [hin r' (below_trans hb2 hcb hc)] at ho; cases ho
  -- the destructor frees a node: no handle is left
  | dFreN m nx hpc =>
    have hdt := hi.a.dtd t (hpc ▸ rfl)
    have hnoh := no_hnd_in_dt hi.a hdt
    have hidle : ∀ u, EView (s.pc u) = .idle := by
      intro u
      apply Classical.byContradiction
      intro hc
      obtain ⟨r, hr⟩ := hi.a.wrW u (eview_nonidle hc)
      rw [hnoh u] at hr; cases hr
    have hpcs : ∀ u, EView (({ (s.setNled m .freed) with lst := s.lst.erase m }.dNodeAt t nx).pc u) = .idle := by
      intro u
      by_cases hut : u = t
      · subst hut; cases nx <;> exact congrArg EView (upd_same ..)
      · cases nx <;> exact (congrArg EView (upd_other _ _ _ _ hut)).trans (hidle u)
    have hh : ({ (s.setNled m .freed) with lst := s.lst.erase m }.dNodeAt t nx).hnd = s.hnd := by cases nx <;> rfl
    refine ⟨?_, ?_, ?_, ?_⟩
    · intro u w r c hu; rw [eview_hnd, hh, hnoh u] at hu; cases hu
    · intro u w r x hu; rw [eview_hnd, hh, hnoh u] at hu; cases hu
    · intro u w r hu; rw [eview_hnd, hh, hnoh u] at hu; cases hu
    · intro u c hu; rw [eview_vpc, hpcs u] at hu; cases hu
  -- a node is linked
  | pE1 _ n _ hpc | pF3 _ n _ hpc =>
    exact invE_link (t := t) h n rfl (fun x => List.mem_cons) (fun x => List.mem_cons) rfl rfl
      (fun _ _ _ => rfl) rfl (congrArg EView (upd_same ..)) (congrArg EView hpc) (fun u hut => upd_other _ _ _ _ hut)
      (nopend_writer hi.a hpc rfl rfl)
  | pB2 _ n h0 _ hpc =>
    have hw : _ ∧ NextIs s.lst (some h0) none ∧ _ := invC_wr hi.c hpc
    refine invE_link (t := t) h n rfl (fun x => List.mem_append.trans (or_comm.trans (or_congr_left List.mem_singleton)))
      (fun x => List.mem_append.trans (or_comm.trans (or_congr_left List.mem_singleton))) rfl rfl ?_ rfl
      (congrArg EView (upd_same ..)) (congrArg EView hpc) (fun u hut => upd_other _ _ _ _ hut)
      (nopend_writer hi.a hpc rfl rfl)
    intro c hc hcl
    exact congrArg Node.next (upd_other _ _ _ _ (fun e : c = h0 => hcl (e ▸ hw.2.1.1)))
  -- the unlink store of `erase`
  | eUnlPrev _ _ pp x _ _ hpc =>
    exact invE_of_view (invE_unlink hi h hpc (upd s.nodes pp { s.nodes pp with next := x }) s.head rfl) rfl
  | eUnlHead _ _ x _ _ hpc => exact invE_of_view (invE_unlink hi h hpc s.nodes x rfl) rfl
  -- the record is published by the CAS
  | casRegOk k r o hpc ho =>
    have hf : (s.hnd t).isFresh = true := by have := hi.a.hok t; rw [hpc] at this; exact this
    have hitn : s.it t = none := Classical.byContradiction fun hc => by
      obtain ⟨w, r', hr'⟩ := hi.a.itr t hc
      rw [hr'] at hf; cases hf
    have hrl : r ∉ s.log := (invB_priv hi.b hpc rfl).1
    have hzn : (s.recs r).znode = none := invD_held hi.d hpc
    have hbl : ∀ z ∈ s.log, Below (r :: s.log) z = Below s.log z :=
      fun z hz => below_cons_ne _ (fun e => hrl (e ▸ hz))
    have hvk : EView (.called k) = .idle := rfl
    have hv : ∀ u, EView (upd s.pc t (.called k) u) = EView (s.pc u) :=
      upd_proj EView s.pc t _ (by rw [hpc]; rfl)
    refine invE_gen (t := t) h ?_ ?_ ?_ (fun u hut => rfl) ?_ (fun u hut => by simp [hut]) ?_
    · intro u w r' hu
      by_cases hut : u = t
      · subst hut
        right
        refine ⟨rfl, hitn, congrArg origOf ((congrArg EView (upd_same ..)).trans hvk), ?_⟩
        simp at hu
        obtain ⟨_, hr⟩ := hu; subst hr
        intro c hc hcl x hx hs
        rcases hs with g | ⟨u', g⟩ | ⟨z, g1, g2, g3⟩
        · exact absurd g hcl
        · simp only [eview_vpc, setPc_pc, hv u'] at g
          have := (h.pend u' c g).2 x hx
          exact Or.inl this
        · exfalso
          simp only [eview_log, setPc_log] at g1 g3
          rcases List.mem_cons.1 g1 with e | e
          · subst e; rw [below_cons_self] at g3; exact hrl g3
          · rw [hbl z e] at g3; exact hrl (mem_of_mem_below g3)
      · left
        simp [hut] at hu
        refine ⟨hu, ?_⟩
        intro c hc
        rcases hc with g | ⟨u', g⟩ | ⟨z, g1, g2, g3⟩
        · exact Or.inl g
        · exact Or.inr (Or.inl ⟨u', by simp only [eview_vpc, setPc_pc, hv u']; exact g⟩)
        · exact Or.inr (Or.inr ⟨z, List.mem_cons_of_mem _ g1, g2, by
            simp only [eview_log, setPc_log]; rw [hbl z g1]; exact g3⟩)
    · intro u w r' hu hu' c hc hcl hs
      left
      refine ⟨hc, hcl, ?_, rfl⟩
      rcases hs with g | ⟨u', g⟩ | ⟨z, g1, g2, g3⟩
      · exact Or.inl g
      · exact Or.inr (Or.inl ⟨u', by simp only [eview_vpc, setPc_pc, hv u'] at g; exact g⟩)
      · simp only [eview_log, setPc_log, eview_zn, setPc_recs] at g1 g2 g3
        rcases List.mem_cons.1 g1 with e | e
        · subst e; rw [hzn] at g2; cases g2
        · exact Or.inr (Or.inr ⟨z, e, g2, by simp only [eview_log]; rw [← hbl z e]; exact g3⟩)
    · intro w r' c hu hc; left; exact hc
    · intro w r' x hu hx; simp [hvk, origOf] at hx
    · intro u c hu
      simp only [setPc_pc, hv u] at hu
      exact h.pend u c hu
  | casEraseOk orig r o hpc ho =>
    have hidle := others_eidle hi.a hpc rfl
    have hrl : r ∉ s.log := (invB_priv hi.b hpc rfl).1
    have hbl : ∀ z ∈ s.log, Below (r :: s.log) z = Below s.log z :=
      fun z hz => below_cons_ne _ (fun e => hrl (e ▸ hz))
    have hpt : ∀ c, pendNode s.eview (EView (s.pc t)) = some c ↔ (s.recs r).znode = some c := by
      intro c; simp [hpc, EView, pendNode]
    have hpn : ∀ u c, ¬ pendNode ({ s with zhead := some r, log := r :: s.log }.setPc t (.eUnlock orig)).eview
        (EView (({ s with zhead := some r, log := r :: s.log }.setPc t (.eUnlock orig)).pc u)) = some c := by
      intro u c
      by_cases hut : u = t
      · subst hut; simp [EView, pendNode]
      · simp only [setPc_pc, upd_other _ _ _ _ hut]
        rw [show (({ s with zhead := some r, log := r :: s.log } : St).pc u) = s.pc u from rfl, hidle u hut]
        simp [pendNode]
    refine invE_gen (t := t) h ?_ ?_ (fun w r' c hu hc => Or.inl hc) (fun u hut => rfl) ?_ (fun u hut => by simp [hut]) ?_
    · intro u w r' hu
      left
      refine ⟨hu, ?_⟩
      have hr'log : r' ∈ s.log := (hi.b.own1 u w r' hu).1
      intro c hc
      rcases hc with g | ⟨u', g⟩ | ⟨z, g1, g2, g3⟩
      · exact Or.inl g
      · simp only [eview_vpc] at g
        by_cases hut : u' = t
        · subst hut
          exact Or.inr (Or.inr ⟨r, List.mem_cons_self, (hpt c).1 g, by
            simp only [eview_log, setPc_log]; rw [below_cons_self]; exact hr'log⟩)
        · rw [hidle u' hut] at g; simp [pendNode] at g
      · exact Or.inr (Or.inr ⟨z, List.mem_cons_of_mem _ g1, g2, by
          simp only [eview_log, setPc_log]; rw [hbl z g1]; exact g3⟩)
    · intro u w r' hu hu' c hc hcl hs
      rcases hs with g | ⟨u', g⟩ | ⟨z, g1, g2, g3⟩
      · exact absurd g hcl
      · simp only [eview_vpc] at g; exact absurd g (hpn u' c)
      · simp only [eview_log, setPc_log, eview_zn, setPc_recs] at g1 g2 g3
        rcases List.mem_cons.1 g1 with e | e
        · subst e
          right
          intro x hx
          have := (h.pend t c ((hpt c).2 g2)).2 x hx
          exact Or.inl this
        · left
          exact ⟨hc, hcl, Or.inr (Or.inr ⟨z, e, g2, by simp only [eview_log]; rw [← hbl z e]; exact g3⟩), rfl⟩
    · intro w r' x hu hx
      left; simpa [hpc, EView, origOf] using hx
    · intro u c hu; exact absurd hu (hpn u c)

end ConcVerif.Rcu
