import ConcVerif.Proof.HBRcuReclaim
/-! rcu_list and happens-before, part 6: reclamation of log records.  The invariant `TR`: every access to a
record that is not yet freed is *covered*:

* `build`  — the thread constructing the record knows it; or
* `pushed` — it is ordered before the CAS that published the record; or
* `open_`  — a registered thread knows it and has the record in view (`SafeR`: its own record, or a record it has
             scanned down to); or
* `closed` — it is ordered before the store that cleared `owner` of a record still on the log that had it in view; or
* `reaped` — the thread in the reclaim phase knows it, and the record lies below the reclaimer's or is the one it
             has just taken off the log.

`hinvR_run`: all happens-before invariants hold along every accepted trace that has not entered the list destructor;
hence the four theorems at the end: every access to a node / a log record happens-after its initialisation
(`node_pub`, `rec_pub`), its destruction and deallocation happen-after every access to it (`node_reclaim`, `rec_reclaim`). -/
namespace ConcVerif.Rcu
open HB (HBeq Kn)

variable {w : Ords} {sel : Bool} {es : List (Tid × Ev)} {s s' : St} {t : Tid} {e : Ev} {i m : Nat}

inductive RCover (w : Ords) (sel : Bool) (es : List (Tid × Ev)) (s : St) (i m : Nat) : Prop
  | build (u : Tid) (h1 : buildRec (s.pc u) = some m) (h2 : Kn (hbTrace w sel es) u i)
  | pushed (p : Nat) (u : Tid) (o : Ord) (a c : Option Nat) (h1 : es[p]? = some (u, Ev.cas o a (some m) true c))
      (h2 : HBeq (hbTrace w sel es) i p)
  | open_ (v : Tid) (b : Bool) (x : Nat) (h1 : s.hnd v = .reg b x) (h2 : SafeR s x m) (h3 : Kn (hbTrace w sel es) v i)
  | closed (x q : Nat) (y : Tid) (o : Ord) (v : Option Nat) (h1 : es[q]? = some (y, Ev.ast (.rowner x) o v))
      (h2 : HBeq (hbTrace w sel es) i q) (h3 : x ∈ s.log) (h4 : SafeR s x m)
  | reaped (t : Tid) (a : Nat) (h1 : reaper (BView (s.pc t)) = some a) (h2 : Kn (hbTrace w sel es) t i)
      (h3 : m ∈ Below s.log a ∨ privRec (BView (s.pc t)) = some m)

def TR (w : Ords) (sel : Bool) (es : List (Tid × Ev)) (s : St) : Prop :=
  ∀ (i : Nat) (u : Tid) (e : Ev) (m : Nat), es[i]? = some (u, e) → e.recAcc = some m → s.rled m ≠ .freed →
    RCover w sel es s i m


theorem rcover_build (hnd : inDtor (s.pc t) = false) (hS : Step s t e s') {u : Tid} (h1 : buildRec (s.pc u) = some m)
    (h2 : Kn (hbTrace w sel es) u i) : RCover w sel (es ++ [(t, e)]) s' i m := by
  have h2' := kn_app [(t, e)] h2
  by_cases hu : u = t
  · subst hu
    rcases build_step hS h1 with g | ⟨o, a, c, g, _⟩
    · exact .build u g h2'
    · subst g
      exact .pushed es.length u o a c (HB.lq_last _ _) (hbeq_own _ h2)
  · exact .build u (by rw [hS.pc_other hu]; exact h1) h2'

theorem rcover_open (hi : Inv s) (hi' : Inv s') (hnd : inDtor (s.pc t) = false) (hS : Step s t e s') {v : Tid} {b : Bool}
    {x : Nat} (h1 : s.hnd v = .reg b x) (h2 : SafeR s x m) (h3 : Kn (hbTrace w sel es) v i) :
    RCover w sel (es ++ [(t, e)]) s' i m := by
  have h3' := kn_app [(t, e)] h3
  have ox := hi.b.own1 v b x h1
  by_cases hreg : s'.hnd v = .reg b x
  · have ox' := (hi'.b.own1 v b x hreg).1
    by_cases hm' : x = m ∨ m ∈ s'.log
    · exact .open_ v b x hreg (saferec_step hi hS hnd ox.1 ox' hm' h2) h3'
    · obtain ⟨a, k, rfl, g4⟩ := saferec_lost hi hS hnd ox.1 h2 (fun hc => hm' (.inl hc)) (fun hc => hm' (.inr hc))
      obtain rfl : v = t := Option.some.inj (ox.2.symm.trans g4)
      exact .reaped v x k.reaps h3' (.inr k.holds)
  · obtain ⟨g1, ⟨o, g2⟩, g3, _⟩ := unreg_cases hi hS h1 hreg
    subst g1; subst g2
    have ox' : x ∈ s'.log := by rw [g3]; exact ox.1
    refine .closed x es.length v o none (HB.lq_last _ _) (hbeq_own _ h3) ox' (saferec_step hi hS hnd ox.1 ox' ?_ h2)
    rcases h2 with g | ⟨g, _⟩
    · exact .inl g
    · right; rw [g3]; exact mem_of_mem_below g

theorem rcover_closed (hi : Inv s) (hnd : inDtor (s.pc t) = false) (hS : Step s t e s') (hST : ST es s)
    (hSK : SK w sel es s) {x q : Nat} {y : Tid} {o : Ord} {v : Option Nat}
    (h1 : es[q]? = some (y, Ev.ast (.rowner x) o v)) (h2 : HBeq (hbTrace w sel es) i q) (h3 : x ∈ s.log)
    (h4 : SafeR s x m) : RCover w sel (es ++ [(t, e)]) s' i m := by
  have h1' := HB.lq_mono [(t, e)] h1
  have h2' := hbeq_app [(t, e)] h2
  by_cases hx' : x ∈ s'.log
  · by_cases hm' : x = m ∨ m ∈ s'.log
    · exact .closed x q y o v h1' h2' hx' (saferec_step hi hS hnd h3 hx' hm' h4)
    · obtain ⟨a, k, rfl, g4⟩ := saferec_lost hi hS hnd h3 h4 (fun hc => hm' (.inl hc)) (fun hc => hm' (.inr hc))
      have := (hST q y x o v h1).1
      rw [g4] at this; cases this
  · obtain ⟨a, k⟩ := taken_facts hi hS hnd h3 hx'
    have hk : Kn (hbTrace w sel (es ++ [(t, e)])) t i := by
      refine Kn.of_hbeq h2' ?_
      exact kn_app _ (hSK t x k.scanned q y o v h1)
    refine .reaped t a k.reaps hk ?_
    rcases h4 with g | ⟨g, _⟩
    · subst g; exact .inr k.holds
    · exact .inl (k.below hi g).2

theorem rcover_reaped (hi : Inv s) (hi' : Inv s') (hnd : inDtor (s.pc t) = false) (hS : Step s t e s')
    (hd' : s'.rled m ≠ .freed) {t0 : Tid} {a : Nat} (h1 : reaper (BView (s.pc t0)) = some a)
    (h2 : Kn (hbTrace w sel es) t0 i) (h3 : m ∈ Below s.log a ∨ privRec (BView (s.pc t0)) = some m) :
    RCover w sel (es ++ [(t, e)]) s' i m := by
  have h2' := kn_app [(t, e)] h2
  have ha := (reaper_facts hi h1).1
  rcases reaper_step hS hnd h1 with hr | ⟨g1, g2, _, _, _⟩
  · have ha' := (reaper_facts hi' hr).1
    refine .reaped t0 a hr h2' ?_
    rcases h3 with h3 | h3
    · by_cases hm' : m ∈ s'.log
      · exact .inl (below_keep hi hS hnd ha ha' h3 hm')
      · obtain ⟨a1, k⟩ := taken_facts hi hS hnd (mem_of_mem_below h3) hm'
        have := reaper_unique hi' k.reaps hr
        subst this
        exact .inr k.holds
    · by_cases htt : t = t0
      · subst htt
        rcases priv_reaper_step hS h1 h3 with g | ⟨_, g, _⟩
        · exact .inr g
        · exact absurd g hd'
      · right; rw [hS.pc_other (Ne.symm htt)]; exact h3
  · exfalso
    subst g1
    have hre := hi.b.reap t0
    simp only [bview_vpc, g2, BView, ReapP, bview_log] at hre
    rcases h3 with h3 | h3
    · rw [hre.2] at h3; simp at h3
    · simp [g2, BView, privRec] at h3

theorem rcover_new (hi : Inv s) (hi' : Inv s') (hnd : inDtor (s.pc t) = false) (hS : Step s t e s') (hacc : e.recAcc = some m) :
    RCover w sel (es ++ [(t, e)]) s' es.length m := by
  have hnodup : s.log.Nodup := hi.b.logNd
  have self : Kn (hbTrace w sel (es ++ [(t, e)])) t es.length := .self (hbTrace_get (HB.lq_last _ _))
  rcases recAcc_cases hi hS hnd hacc with hP | ⟨b, hO⟩ | ⟨b, a, hO, hsafe, hbel⟩
  · rcases priv_kind hP with g | ⟨a, g⟩ | g
    · rcases build_step hS g with g1 | ⟨o, x, c, g1, _⟩
      · exact .build t g1 self
      · subst g1; simp [Ev.recAcc] at hacc
    · rcases reaper_step hS hnd g with hr | ⟨_, g2, _⟩
      · rcases priv_reaper_step hS g hP with g1 | ⟨_, _, g1⟩
        · exact .reaped t a hr self (.inr g1)
        · subst g1; cases hacc
      · simp [g2, BView, privRec] at hP
    · rw [hnd] at g; cases g
  · have om := hi.b.own1 t b m hO
    by_cases hreg : s'.hnd t = .reg b m
    · exact .open_ t b m hreg (.inl rfl) self
    · obtain ⟨_, ⟨o, g2⟩, g3, _⟩ := unreg_cases hi hS hO hreg
      subst g2
      exact .closed m es.length t o none (HB.lq_last _ _) (.inl rfl) (by rw [g3]; exact om.1) (.inl rfl)
  · have oa := hi.b.own1 t b a hO
    by_cases hreg : s'.hnd t = .reg b a
    · by_cases hm' : m ∈ s'.log
      · have oa' := (hi'.b.own1 t b a hreg).1
        exact .open_ t b a hreg (saferec_step hi hS hnd oa.1 oa' (.inr hm') hsafe) self
      · obtain ⟨a1, k⟩ := taken_facts hi hS hnd (mem_of_mem_below hbel) hm'
        exact .reaped t a1 k.reaps self (.inr k.holds)
    · exfalso
      obtain ⟨_, ⟨o, g2⟩, _, _⟩ := unreg_cases hi hS hO hreg
      subst g2
      simp only [Ev.recAcc] at hacc
      injection hacc with hacc; subst hacc
      exact not_mem_below_self hnodup hbel

theorem TR_step {t : Tid} {e : Ev}
    (hi : Inv s) (hi' : Inv s') (hnd : inDtor (s.pc t) = false)
    (hled : ∀ z b, s'.led z b = s.led z b ∨ LedNext (s.led z b) (s'.led z b)) (hST : ST es s) (hSK : SK w sel es s)
    (h : TR w sel es s) (hS : Step s t e s') : TR w sel (es ++ [(t, e)]) s' := by
  intro j u e' m hj hacc hd'
  rcases HB.lq_snoc hj with ⟨_, hj'⟩ | ⟨hl, hp⟩
  · have hd : s.rled m ≠ .freed := fun hc => hd' ((LedNext.keep (hled true m)).1 hc)
    cases h j u e' m hj' hacc hd with
    | build v h1 h2 => exact rcover_build hnd hS h1 h2
    | pushed p v o a c h1 h2 => exact .pushed p v o a c (HB.lq_mono _ h1) (hbeq_app _ h2)
    | open_ v b x h1 h2 h3 => exact rcover_open hi hi' hnd hS h1 h2 h3
    | closed x q y o v h1 h2 h3 h4 => exact rcover_closed hi hnd hS hST hSK h1 h2 h3 h4
    | reaped t0 a h1 h2 h3 => exact rcover_reaped hi hi' hnd hS hd' h1 h2 h3
  · injection hp with g1 g2; subst g1; subst g2; subst hl
    exact rcover_new hi hi' hnd hS hacc

theorem rec_end_last {i m : Nat}
    (hi : Inv s) (hdt : s.dt = false) (hRP : RP w sel es s) (h : TR w sel es s) (hS : Step s t e s')
    (hend : e.recEnd = some m) {u : Tid} {ei : Ev} (hq : es[i]? = some (u, ei)) (hacc : ei.recAcc = some m) :
    HB.HB (hbTrace w sel (es ++ [(t, e)])) i es.length := by
  have hnd := hi.a.not_inDtor hdt t
  have hil := HB.lq_lt hq
  have fin : Kn (hbTrace w sel es) t i → HB.HB (hbTrace w sel (es ++ [(t, e)])) i es.length := fun hk => hb_last e hk hil
  have reap : ∀ a, reaper (BView (s.pc t)) = some a → privRec (BView (s.pc t)) = some m → buildRec (s.pc t) = none →
      s.rled m ≠ .freed → HB.HB (hbTrace w sel (es ++ [(t, e)])) i es.length := by
    intro a hr hp hb hd
    have hpo := (hi.b.privOk t m hp).1
    have nolog : ∀ x, x ∈ s.log → SafeR s x m → False := by
      intro x hx hs
      rcases hs with g | ⟨g, _⟩
      · subst g; exact hpo hx
      · exact hpo (mem_of_mem_below g)
    cases h i u ei m hq hacc hd with
    | build v h1 _ =>
      exfalso
      have := hi.b.privUq v t m
      simp only [bview_vpc] at this
      have := this (buildRec_priv h1) hp
      subst this; rw [hb] at h1; cases h1
    | pushed p v o x c h1 h2 => exact fin (Kn.of_hbeq h2 (hRP t m hp p v _ h1 rfl))
    | open_ v b x h1 h2 _ =>
      have ox := (hi.b.own1 v b x h1).1
      exact (nolog x ox h2).elim
    | closed x q y o v _ _ h3 h4 => exact (nolog x h3 h4).elim
    | reaped t0 a0 h1 h2 _ =>
      have := reaper_unique hi h1 hr
      subst this; exact fin h2
  have hp := hi.b.privOk t
  simp only [bview_vpc, bview_rled] at hp
  induction hS with
  | rDesZ r m' _ hpc | rFreZ r m' _ hpc =>
    obtain rfl : m' = m := Option.some.inj hend
    refine reap r (by rw [hpc]; rfl) (by rw [hpc]; rfl) (by rw [hpc]; rfl) ?_
    rw [(hp m' (by rw [hpc]; rfl)).2, hpc]; exact Led.noConfusion
  | _ => cases hend <;> exact dtor_edge hnd ‹_› rfl

structure HInvR (w : Ords) (sel : Bool) (es : List (Tid × Ev)) (s : St) : Prop where
  c : HInvC w sel es s
  tr : TR w sel es s

theorem hinvR_run (hw : w.OK) {s : St} (h : run es = some s) (hdt : s.dt = false) : HInvR w sel es s := by
  refine runFrom_trace_inv (P := fun es s => s.dt = false → HInvR w sel es s) (fun _ => ⟨hinvC_init w sel, ?_⟩) ?_ h hdt
  · intro i u e d hi; simp at hi
  · intro es s1 t e s hr ih hs hdt
    have hx : InvX s1 := invX_reachable ⟨es, hr⟩
    have hi' := inv_step hx.i hs
    have hS := step_sound hs
    have hdt1 := dt_mono hS hdt
    have ih' := ih hdt1
    have hled := ledger_step ⟨es, hr⟩ hs
    exact ⟨hinvC_step hw hx hi' (zo_reachable ⟨es, hr⟩) hdt1 hled ih'.c hS,
      TR_step hx.i hi' (hx.i.a.not_inDtor hdt1 t) hled ih'.c.st ih'.c.sk ih'.tr hS⟩

theorem at_last (hw : w.OK) {P : Ev → Ev → Prop}
    (hlast : ∀ {es : List (Tid × Ev)} {s s' : St} {t u : Tid} {e ei : Ev} {i : Nat}, InvX s → s.dt = false → HInvR w sel es s →
      Step s t e s' → es[i]? = some (u, ei) → P ei e → HB.HB (hbTrace w sel (es ++ [(t, e)])) i es.length)
    {es : List (Tid × Ev)} {s : St} (h : run es = some s) (hdt : s.dt = false) {i j : Nat} {u t : Tid} {ei ej : Ev}
    (hij : i < j) (hi : es[i]? = some (u, ei)) (hj : es[j]? = some (t, ej)) (hp : P ei ej) :
    HB.HB (hbTrace w sel es) i j := by
  obtain ⟨s1, s2, h1, h2, h3⟩ := runFrom_split_at h hj
  have hdt2 : s2.dt = false :=
    runFrom_rel (R := fun (a b : St) => b.dt = false → a.dt = false) (fun _ h => h) (fun _ _ _ f g h => f (g h))
      (fun _ _ _ _ hs => dt_mono (step_sound hs)) h3 hdt
  have hdt1 := dt_mono (step_sound h2) hdt2
  have hi' : (es.take j)[i]? = some (u, ei) := by rw [List.getElem?_take_of_lt hij]; exact hi
  have := hlast (invX_reachable ⟨_, h1⟩) hdt1 (hinvR_run hw h1 hdt1) (step_sound h2) hi' hp
  rw [← HB.take_succ_get hj, List.length_take_of_le (Nat.le_of_lt (HB.lq_lt hj))] at this
  rw [← List.take_append_drop (j + 1) es, hbTrace_append]
  exact this.mono _

variable {w : Ords} (hw : w.OK) {sel : Bool} {es : List (Tid × Ev)} {s : St} (h : run es = some s) (hdt : s.dt = false)
  {i j : Nat} {u t : Tid} {ei ej : Ev} {n : Nat} (hij : i < j) (hi : es[i]? = some (u, ei)) (hj : es[j]? = some (t, ej))
include hw h hdt hij hi hj

/-- **publication of nodes**: every access to a node happens-after every event of its initialisation -/
theorem node_pub (hinit : ei.initN = some n) (hacc : ej.nodeAcc = some n) : HB.HB (hbTrace w sel es) i j :=
  at_last hw (P := fun a b => a.initN = some n ∧ b.nodeAcc = some n)
    (fun hx hd hv hS hq hp => node_last hx.i hd hv.c.base hS hp.2 hq hp.1) h hdt hij hi hj ⟨hinit, hacc⟩

/-- **publication of records**: every access to a log record happens-after every event of its initialisation -/
theorem rec_pub (hinit : ei.initR = some n) (hacc : ej.recAcc = some n) : HB.HB (hbTrace w sel es) i j :=
  at_last hw (P := fun a b => a.initR = some n ∧ b.recAcc = some n)
    (fun hx hd hv hS hq hp => rec_last hx.i hd hv.c.base hS hp.2 hq hp.1) h hdt hij hi hj ⟨hinit, hacc⟩

/-- **reclamation of nodes**: the destruction and the deallocation of a node happen-after every access to it -/
theorem node_reclaim (hacc : ei.nodeAcc = some n) (hend : ej.nodeEnd = some n) : HB.HB (hbTrace w sel es) i j :=
  at_last hw (P := fun a b => a.nodeAcc = some n ∧ b.nodeEnd = some n)
    (fun hx hd hv hS hq hp => node_end_last hx hd hv.c.tn hS hp.2 hq hp.1) h hdt hij hi hj ⟨hacc, hend⟩

/-- **reclamation of records**: the destruction and the deallocation of a log record happen-after every access to it -/
theorem rec_reclaim (hacc : ei.recAcc = some n) (hend : ej.recEnd = some n) : HB.HB (hbTrace w sel es) i j :=
  at_last hw (P := fun a b => a.recAcc = some n ∧ b.recEnd = some n)
    (fun hx hd hv hS hq hp => rec_end_last hx.i hd hv.c.base.rp hv.tr hS hp.2 hq hp.1) h hdt hij hi hj ⟨hacc, hend⟩

end ConcVerif.Rcu
