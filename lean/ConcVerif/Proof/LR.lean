import ConcVerif.Proof.LRRel
/-! Inductive invariant of the left-right protocol model (`Model/LR.lean`), part 1: the control invariant `Inv`
(registration lists = reader pcs, mutex holder = writer pcs past the lock, and the *phase promise* of the holder:
which sides the registered readers can be holding).  The promise while waiting (`PK.wait l zL zR`) is phrased over the
`zeroSeen` flags — a reader registered in a counter that has been observed at zero since the flip holds the new side —
so the proof does not depend on the order in which the counters are inspected, nor on `m_countingLeft` at all.
One frame lemma per role (`inv_reader`, `inv_writer`, `inv_lock`, `inv_unlock`), then `inv_step` by rule induction on
the step relation, the edges grouped by the frame lemma they need. -/
namespace ConcVerif.LR

/-- reader move that changes no registration -/
macro "rd_move" h:ident hpc:ident : tactic =>
  `(tactic| exact inv_reader_noreg $h (by simp [$hpc:ident, Pc.post]) (by simp [Pc.post]) (by simp [$hpc:ident, Pc.regIn])
      (by simp [$hpc:ident, Pc.held]))

/-- holder move inside one protocol phase -/
macro "w_same" h:ident hpc:ident : tactic =>
  `(tactic| exact inv_writer_same $h (by simp [$hpc:ident, Pc.post]) (by simp [Pc.post]) (by simp [$hpc:ident, Pc.pk]))

/-- reader move that changes no registration -/
macro "rd_move" h:ident hpc:ident : tactic =>
  `(tactic| exact inv_reader_noreg $h (by simp [$hpc:ident, Pc.post]) (by simp [Pc.post]) (by simp [$hpc:ident, Pc.regIn])
      (by simp [$hpc:ident, Pc.held]))

/-- holder move inside one protocol phase -/
macro "w_same" h:ident hpc:ident : tactic =>
  `(tactic| exact inv_writer_same $h (by simp [$hpc:ident, Pc.post]) (by simp [Pc.post]) (by simp [$hpc:ident, Pc.pk]))

variable {s s' : St} {t u r w : Tid} {p p' q' : Pc} {c x l rl : Side} {op : OpId} {zL zR : Bool}
  {pc pc' : Tid → Pc}

/-- the counter a reader pc is registered in -/
def Pc.regIn : Pc → Option Side
  | .rdInc c | .rdGot c _ | .rdHold c _ | .rdRel c _ => some c
  | _ => none

/-- the side a reader pc holds (its handle points to) -/
def Pc.held : Pc → Option Side
  | .rdGot _ x | .rdHold _ x | .rdRel _ x => some x
  | _ => none

theorem post_regIn (h : p.post = true) : p.regIn = none := by
  cases p <;> first | rfl | cases h

theorem post_held (h : p.post = true) : p.held = none := by
  cases p <;> first | rfl | cases h

theorem held_regIn (h : p.held = some x) : ∃ c, p.regIn = some c := by
  cases p <;> simp_all [Pc.held, Pc.regIn]

/-- what the mutex holder's pc promises about readers, by protocol phase -/
inductive PK
  | quiet
  | pre (l : Side)                 -- rl = l: nothing flipped yet
  | wait (l : Side) (zL zR : Bool) -- rl flipped to ¬l; counters seen at zero since then
  | post2 (l : Side)               -- both counters seen at zero

def Pc.pk : Pc → PK
  | .wA _ l | .wF1 _ l | .wF1d _ l | .wRb _ l | .wRbC _ l | .wRbD _ l => .pre l
  | .wWait _ l zL zR => .wait l zL zR
  | .wF2 _ l | .wF2d _ l | .wRf _ l | .wRfC _ l | .wRfD _ l => .post2 l
  | _ => .quiet

/-- registered in a counter that has been observed at zero since the flip -/
def zReg (zL zR : Bool) (o : Option Side) : Prop := ∃ c, o = some c ∧ zOf c zL zR = true

/-- `Phase` with the flag and the pcs as separate arguments (the frame lemmas change one of them at a time).  `post2`
(both counters seen at zero) has nothing to do with `Pc.post` (between `mlk` and `mul`). -/
def PhaseX (rl : Side) (pc : Tid → Pc) : PK → Prop
  | .quiet => ∀ r x, (pc r).held = some x → x = rl
  | .pre l => rl = l ∧ ∀ r x, (pc r).held = some x → x = l
  | .wait l zL zR => rl = l.flip ∧ ∀ r x, zReg zL zR (pc r).regIn → (pc r).held = some x → x = l.flip
  | .post2 l => rl = l.flip ∧ ∀ r x, (pc r).held = some x → x = l.flip

def Phase (s : St) (k : PK) : Prop := PhaseX s.rl s.pc k

structure Inv (s : St) : Prop where
  nodupL : s.regL.Nodup
  nodupR : s.regR.Nodup
  mem : ∀ t c, t ∈ s.reg c ↔ (s.pc t).regIn = some c
  holder : ∀ t, (s.pc t).post = true ↔ s.mtx = some t
  phase : ∀ t, (s.pc t).post = true → Phase s (s.pc t).pk
  quiet : s.mtx = none → Phase s .quiet

theorem inv_init (b : Bool) : Inv (init b) :=
  ⟨List.nodup_nil, List.nodup_nil, fun _ c => by cases c <;> exact ⟨nofun, nofun⟩, fun _ => ⟨nofun, nofun⟩, nofun,
    fun _ _ _ h => nomatch h⟩

theorem Inv.reg_nodup (h : Inv s) (c : Side) : (s.reg c).Nodup := by
  cases c
  · exact h.nodupL
  · exact h.nodupR

/-- a counter reads zero exactly when no thread is between its increment and its decrement of it -/
theorem Inv.reg_empty (h : Inv s) (c : Side) : (s.reg c).length = 0 ↔ ∀ r, (s.pc r).regIn ≠ some c := by
  rw [List.length_eq_zero_iff, List.eq_nil_iff_forall_not_mem]
  exact forall_congr' fun r => not_congr (h.mem r c)

theorem Inv.phase_at (h : Inv s) (hpc : s.pc t = p) (hp : p.post = true) :
    PhaseX s.rl s.pc p.pk :=
  hpc ▸ h.phase t (hpc ▸ hp)

theorem Inv.post_unique (h : Inv s) (hm : s.mtx = some t) (hu : (s.pc u).post = true) : u = t :=
  Option.some.inj (((h.holder u).1 hu).symm.trans hm)

theorem Inv.no_post (h : Inv s) (hm : s.mtx = none) (u : Tid) : (s.pc u).post = false := by
  cases hp : (s.pc u).post with
  | false => rfl
  | true => exact nomatch ((h.holder u).1 hp).symm.trans hm

/-- used to absorb the update of a field `Inv` does not mention (`snap`, `lastSeen`, `base`, `committed`, `cl`, a copy) -/
theorem Inv.congr (h : Inv s) (h1 : s'.regL = s.regL) (h2 : s'.regR = s.regR) (h3 : s'.pc = s.pc)
    (h4 : s'.mtx = s.mtx) (h5 : s'.rl = s.rl) : Inv s' := by
  obtain ⟨a, b, c, d, e, f⟩ := h
  have hreg : ∀ c, s'.reg c = s.reg c := by intro c; cases c <;> simp [St.reg, h1, h2]
  have hph : ∀ k, Phase s' k = Phase s k := by intro k; simp only [Phase, h3, h5]
  refine ⟨by rw [h1]; exact a, by rw [h2]; exact b, ?_, ?_, ?_, ?_⟩
  · intro t c'; rw [hreg, h3]; exact c t c'
  · intro t; rw [h3, h4]; exact d t
  · intro t; rw [h3, hph]; exact e t
  · rw [h4, hph]; exact f

/-- a reader-side pc change of thread `t` keeps any phase promise, provided a new hold is on the current side -/
theorem PhaseX.setPc_reader {k : PK}
    (hk : PhaseX rl pc k)
    (hnew : ∀ x, p'.held = some x → x = rl ∨ ((pc t).held = some x ∧ (pc t).regIn = p'.regIn)) :
    PhaseX rl (upd pc t p') k := by
  have key : ∀ (P : Side → Prop) (Q : Option Side → Prop),
      (∀ r x, Q (pc r).regIn → (pc r).held = some x → P x) → (Q p'.regIn → P rl) →
      ∀ r x, Q (upd pc t p' r).regIn → (upd pc t p' r).held = some x → P x := by
    intro P Q hold hrl r x
    by_cases hr : r = t
    · subst hr; simp only [upd_same]
      intro hQ hx
      rcases hnew x hx with h | ⟨h1, h2⟩
      · subst h; exact hrl hQ
      · exact hold r x (by rw [h2]; exact hQ) h1
    · simp only [upd_other _ _ _ _ hr]; exact hold r x
  cases k with
  | quiet =>
    intro r x; exact key (fun x => x = rl) (fun _ => True) (fun r x _ h => hk r x h) (fun _ => rfl) r x trivial
  | pre l =>
    obtain ⟨h1, h2⟩ := hk
    refine ⟨h1, fun r x => key (fun x => x = l) (fun _ => True) (fun r x _ h => h2 r x h) (fun _ => h1) r x trivial⟩
  | wait l zL zR =>
    obtain ⟨h1, h2⟩ := hk
    exact ⟨h1, key (fun x => x = l.flip) (zReg zL zR) h2 (fun _ => h1)⟩
  | post2 l =>
    obtain ⟨h1, h2⟩ := hk
    refine ⟨h1, fun r x => key (fun x => x = l.flip) (fun _ => True) (fun r x _ h => h2 r x h) (fun _ => h1) r x trivial⟩

theorem reg_setReg_setPc (s : St) (c c' : Side) (l : List Tid) (t : Tid) (p : Pc) :
    ((s.setReg c l).setPc t p).reg c' = if c' = c then l else s.reg c' := by
  simp [setReg_reg]

/-- generic reader step: thread `t` (not past the writer lock) moves to a reader pc `p'`,
    the registration list of counter `c` becomes `l'` -/
theorem inv_reader {s : St} {t : Tid} {c : Side} {l' : List Tid} {p' : Pc}
    (h : Inv s) (hpost : (s.pc t).post = false) (hpost' : p'.post = false)
    (hnd : l'.Nodup)
    (hmem : ∀ u, u ∈ l' ↔ (if u = t then p'.regIn = some c else u ∈ s.reg c))
    (hoth : p'.regIn = some c.flip ↔ (s.pc t).regIn = some c.flip)
    (hnew : ∀ x, p'.held = some x → x = s.rl ∨ ((s.pc t).held = some x ∧ (s.pc t).regIn = p'.regIn)) :
    Inv ((s.setReg c l').setPc t p') := by
  have hph : ∀ k, Phase s k → Phase ((s.setReg c l').setPc t p') k := fun k hk => by
    have := PhaseX.setPc_reader (t := t) (p' := p') hk hnew
    rwa [Phase, setPc_rl, setReg_rl, setReg_setPc_pc]
  refine ⟨?_, ?_, fun u c' => ?_, fun u => ?_, fun u hu => ?_,
    fun hm => hph _ (h.quiet (by rwa [setPc_mtx, setReg_mtx] at hm))⟩
  · cases c
    · exact hnd
    · exact h.nodupL
  · cases c
    · exact h.nodupR
    · exact hnd
  · rw [reg_setReg_setPc, setReg_setPc_pc]
    by_cases hu : u = t
    · subst hu; rw [upd_same]
      rcases side_cases c' c with rfl | rfl
      · rw [if_pos rfl, hmem, if_pos rfl]
      · rw [if_neg (Side.flip_ne c), h.mem, hoth]
    · rw [upd_other _ _ _ _ hu]
      by_cases hc : c' = c
      · subst hc; rw [if_pos rfl, hmem, if_neg hu]; exact h.mem u c'
      · rw [if_neg hc]; exact h.mem u c'
  · rw [setReg_setPc_pc, setPc_mtx, setReg_mtx]
    by_cases hu : u = t
    · subst hu; rw [upd_same, hpost', ← h.holder, hpost]
    · rw [upd_other _ _ _ _ hu]; exact h.holder u
  · rw [setReg_setPc_pc] at hu ⊢
    by_cases hut : u = t
    · subst hut; rw [upd_same, hpost'] at hu; cases hu
    · rw [upd_other _ _ _ _ hut] at hu ⊢; exact hph _ (h.phase u hu)

theorem inv_reader_noreg (h : Inv s) (hpost : (s.pc t).post = false) (hpost' : p'.post = false)
    (hreg : p'.regIn = (s.pc t).regIn)
    (hnew : ∀ x, p'.held = some x → x = s.rl ∨ (s.pc t).held = some x) : Inv (s.setPc t p') := by
  have := inv_reader (s := s) (t := t) (c := .L) (l' := s.reg .L) (p' := p') h hpost hpost' h.nodupL
    (by intro u; by_cases hu : u = t
        · subst hu; simp [h.mem, hreg]
        · simp [hu])
    (by rw [hreg])
    (by intro x hx; rcases hnew x hx with h | h
        · exact Or.inl h
        · exact Or.inr ⟨h, hreg.symm⟩)
  rwa [setReg_self] at this

theorem PhaseX.congr_pc (hh : ∀ r, (pc' r).held = (pc r).held)
    (hr : ∀ r, (pc' r).regIn = (pc r).regIn) (k : PK) : PhaseX rl pc' k = PhaseX rl pc k := by
  cases k <;> simp only [PhaseX, hh, hr]

theorem held_upd_post (hq : (pc t).post = true) (hq' : q'.post = true) (r : Tid) :
    (upd pc t q' r).held = (pc r).held := by
  by_cases hr : r = t
  · subst hr; simp [post_held hq, post_held hq']
  · simp [hr]

theorem regIn_upd_post (hq : (pc t).post = true) (hq' : q'.post = true) (r : Tid) :
    (upd pc t q' r).regIn = (pc r).regIn := by
  by_cases hr : r = t
  · subst hr; simp [post_regIn hq, post_regIn hq']
  · simp [hr]

/-- generic step of the thread that holds the writer mutex: it re-establishes its own phase promise -/
theorem inv_writer {s : St} {t : Tid} {q' : Pc} {rl' cl' : Side}
    (h : Inv s) (hq : (s.pc t).post = true) (hq' : q'.post = true)
    (hph : PhaseX rl' s.pc q'.pk) :
    Inv ({ s with rl := rl', cl := cl' }.setPc t q') := by
  have hm : s.mtx = some t := (h.holder t).1 hq
  refine ⟨h.nodupL, h.nodupR, fun u c => ?_, fun u => ?_, fun u hu => ?_, fun hn => nomatch hm.symm.trans hn⟩
  · show u ∈ s.reg c ↔ (upd s.pc t q' u).regIn = some c
    rw [regIn_upd_post hq hq']; exact h.mem u c
  · show (upd s.pc t q' u).post = true ↔ s.mtx = some u
    by_cases hu : u = t
    · subst hu; rw [upd_same]; exact ⟨fun _ => hm, fun _ => hq'⟩
    · rw [upd_other _ _ _ _ hu]; exact h.holder u
  · have hu' : (upd s.pc t q' u).post = true := hu
    by_cases hut : u = t
    · subst hut
      show PhaseX rl' (upd s.pc u q') (upd s.pc u q' u).pk
      rw [upd_same, PhaseX.congr_pc (held_upd_post hq hq') (regIn_upd_post hq hq')]; exact hph
    · rw [upd_other _ _ _ _ hut] at hu'; exact absurd (h.post_unique hm hu') hut

theorem inv_writer_same (h : Inv s) (hq : (s.pc t).post = true) (hq' : q'.post = true) (hk : q'.pk = (s.pc t).pk) :
    Inv (s.setPc t q') := by
  have := inv_writer (rl' := s.rl) (cl' := s.cl) (q' := q') h hq hq' (by rw [hk]; exact h.phase t hq)
  exact this

theorem inv_lock {s : St} {t : Tid} {op : OpId} (h : Inv s) (hpc : (s.pc t).post = false) (hr : (s.pc t).regIn = none)
    (hm : s.mtx = none) :
    Inv ({ s with mtx := some t }.setPc t (.wA op s.rl)) := by
  have hno := h.no_post hm
  have hq' : PhaseX s.rl (upd s.pc t (.wA op s.rl)) (.pre s.rl) := by
    refine ⟨rfl, fun r x => ?_⟩
    by_cases hrt : r = t
    · subst hrt; rw [upd_same]; nofun
    · rw [upd_other _ _ _ _ hrt]; exact h.quiet hm r x
  refine ⟨h.nodupL, h.nodupR, fun u c => ?_, fun u => ?_, fun u hu => ?_, nofun⟩
  · show u ∈ s.reg c ↔ (upd s.pc t (.wA op s.rl) u).regIn = some c
    by_cases hu : u = t
    · subst hu; rw [upd_same, h.mem, hr]; exact Iff.rfl
    · rw [upd_other _ _ _ _ hu]; exact h.mem u c
  · show (upd s.pc t (.wA op s.rl) u).post = true ↔ some t = some u
    by_cases hu : u = t
    · subst hu; rw [upd_same]; exact ⟨fun _ => rfl, fun _ => rfl⟩
    · rw [upd_other _ _ _ _ hu, hno u]; exact ⟨nofun, fun e => absurd (Option.some.inj e).symm hu⟩
  · have hu' : (upd s.pc t (.wA op s.rl) u).post = true := hu
    by_cases hut : u = t
    · subst hut
      show PhaseX s.rl (upd s.pc u (.wA op s.rl)) (upd s.pc u (.wA op s.rl) u).pk
      rw [upd_same]; exact hq'
    · rw [upd_other _ _ _ _ hut, hno u] at hu'; cases hu'

theorem inv_unlock {s : St} {t : Tid} {q' : Pc} (h : Inv s) (hq : (s.pc t).post = true) (hq' : q'.post = false)
    (hr' : q'.regIn = none)
    (hk : (∃ l, (s.pc t).pk = .pre l) ∨ (∃ l, (s.pc t).pk = .post2 l)) :
    Inv ({ s with mtx := none }.setPc t q') := by
  have hm : s.mtx = some t := (h.holder t).1 hq
  have hph := h.phase t hq
  have hheld' : q'.held = none := by
    cases hh : q'.held with
    | none => rfl
    | some x => obtain ⟨c, hc⟩ := held_regIn hh; rw [hr'] at hc; cases hc
  have hquiet : ∀ r x, (s.pc r).held = some x → x = s.rl := by
    rcases hk with ⟨l, hl⟩ | ⟨l, hl⟩ <;> rw [hl] at hph <;> exact fun r x hx => hph.1 ▸ hph.2 r x hx
  refine ⟨h.nodupL, h.nodupR, fun u c => ?_, fun u => ?_, fun u hu => ?_, fun _ r x => ?_⟩
  · show u ∈ s.reg c ↔ (upd s.pc t q' u).regIn = some c
    by_cases hu : u = t
    · subst hu; rw [upd_same, h.mem, post_regIn hq, hr']
    · rw [upd_other _ _ _ _ hu]; exact h.mem u c
  · show (upd s.pc t q' u).post = true ↔ none = some u
    by_cases hu : u = t
    · subst hu; rw [upd_same, hq']; exact ⟨nofun, nofun⟩
    · rw [upd_other _ _ _ _ hu]
      exact ⟨fun hp => absurd (h.post_unique hm hp) hu, nofun⟩
  · have hu' : (upd s.pc t q' u).post = true := hu
    by_cases hut : u = t
    · subst hut; rw [upd_same, hq'] at hu'; cases hu'
    · rw [upd_other _ _ _ _ hut] at hu'; exact absurd (h.post_unique hm hu') hut
  · show (upd s.pc t q' r).held = some x → x = s.rl
    by_cases hrt : r = t
    · subst hrt; rw [upd_same, hheld']; nofun
    · rw [upd_other _ _ _ _ hrt]; exact hquiet r x

theorem inv_setVal (x : Side) (v : List OpId) (h : Inv (s.setPc t q')) :
    Inv ((s.setVal x v).setPc t q') := by
  cases x <;> exact h.congr rfl rfl rfl rfl rfl

/-- a counter observed at zero: nobody is registered in it, so marking it `zeroSeen` keeps the promise -/
theorem phase_waitSeen (h : PhaseX rl pc (.wait l zL zR)) (hno : ∀ r, (pc r).regIn ≠ some c) :
    PhaseX rl pc (waitSeen op l zL zR c).pk := by
  obtain ⟨h1, h2⟩ := h
  cases c
  · refine ⟨h1, ?_⟩
    intro r x ⟨c', e1, e2⟩ hx
    cases c'
    · exact absurd e1 (hno r)
    · exact h2 r x ⟨.R, e1, e2⟩ hx
  · refine ⟨h1, ?_⟩
    intro r x ⟨c', e1, e2⟩ hx
    cases c'
    · exact h2 r x ⟨.L, e1, e2⟩ hx
    · exact absurd e1 (hno r)

/-- both counters observed at zero since the flip: every handle points to the new side -/
theorem phase_wait_done (h : PhaseX rl pc (.wait l true true)) :
    PhaseX rl pc (.post2 l) := by
  obtain ⟨h1, h2⟩ := h
  refine ⟨h1, ?_⟩
  intro r x hx
  obtain ⟨c, hc⟩ := held_regIn hx
  exact h2 r x ⟨c, hc, by cases c <;> rfl⟩ hx

theorem inv_step {s s' : St} {t : Tid} {e : Ev} (h : Inv s) (hs : step s t e = some s') : Inv s' := by
  induction Step.of_step hs with
  -- pc moves outside the mutex that change no registration: no handle afterwards, the handle kept, or a new one on `rl`
  | callLs hpc => exact (inv_reader_noreg (p' := .rdCalled) h (hpc ▸ rfl) rfl (hpc ▸ rfl) nofun).congr rfl rfl rfl rfl rfl
  | ldCL hpc | retRel hpc | callMod hpc | retMod hpc | excMod hpc =>
    exact inv_reader_noreg h (hpc ▸ rfl) rfl (hpc ▸ rfl) nofun
  | retLs hpc | callRel hpc => exact inv_reader_noreg h (hpc ▸ rfl) rfl (hpc ▸ rfl) (hpc ▸ fun _ hx => .inr hx)
  | rd hpc =>
    exact (inv_reader_noreg h (hpc ▸ rfl) rfl (hpc ▸ rfl) (hpc ▸ fun _ hx => .inr hx)).congr rfl rfl rfl rfl rfl
  | ldRL hpc => exact inv_reader_noreg h (hpc ▸ rfl) rfl (hpc ▸ rfl) fun _ hx => .inl (Option.some.inj hx).symm
  -- a counter incremented / decremented; the mutex taken
  | @inc c hpc =>
    have hnot : t ∉ s.reg c := by rw [h.mem, hpc]; nofun
    refine inv_reader h (hpc ▸ rfl) rfl (List.nodup_cons.2 ⟨hnot, h.reg_nodup c⟩) ?_ (by simp [hpc, Pc.regIn]) nofun
    intro u; by_cases hu : u = t
    · subst hu; simp [Pc.regIn]
    · simp [hu]
  | @dec c x hpc =>
    have hnd := h.reg_nodup c
    refine inv_reader h (hpc ▸ rfl) rfl (hnd.erase t) ?_ (by simp [hpc, Pc.regIn]) nofun
    intro u; by_cases hu : u = t
    · subst hu; simp [Pc.regIn, hnd.mem_erase_iff]
    · simp [hu, hnd.mem_erase_iff]
  | lock hpc hm => exact (inv_lock h (hpc ▸ rfl) (hpc ▸ rfl) hm).congr rfl rfl rfl rfl rfl
  -- the holder: a write, like the moves of the default arm, stays inside one phase; the flip, a counter seen at zero, the
  -- end of the wait and the unlocks re-establish the promise of the new phase
  | fEnd1 hpc | cpEndRb hpc | fEnd2 hpc | cpEndRf hpc =>
    exact inv_setVal _ _ (inv_writer_same h (hpc ▸ rfl) rfl (hpc ▸ rfl))
  | stRL hpc =>
    exact (inv_writer (q' := .wWait _ _ false false) (cl' := s.cl) h (hpc ▸ rfl) rfl
      ⟨rfl, fun r x ⟨c, _, hc⟩ => by cases c <;> cases hc⟩).congr rfl rfl rfl rfl rfl
  | @cntZero op l zL zR c hpc hz =>
    exact inv_writer (rl' := s.rl) (cl' := s.cl) h (hpc ▸ rfl) (by cases c <;> rfl)
      (phase_waitSeen (h.phase_at hpc rfl) ((h.reg_empty c).1 hz))
  | fBegin2 hpc | uthWait hpc =>
    exact inv_writer (rl' := s.rl) (cl' := s.cl) h (hpc ▸ rfl) rfl (phase_wait_done (h.phase_at hpc rfl))
  | unlockRb hpc => exact inv_unlock h (hpc ▸ rfl) rfl rfl (.inl ⟨_, by rw [hpc]; rfl⟩)
  | unlockF2 hpc | unlockRf hpc => exact inv_unlock h (hpc ▸ rfl) rfl rfl (.inr ⟨_, by rw [hpc]; rfl⟩)
  | stCL => exact h.congr rfl rfl rfl rfl rfl
  | cntWait | yld | fin | reRL | reCL | reCnt => exact h
  | _ => rename_i hpc; exact inv_writer_same h (hpc ▸ rfl) rfl (hpc ▸ rfl)

theorem Pc.pk_wait (h : p.pk = .wait l zL zR) : ∃ op, p = .wWait op l zL zR := by
  cases p <;> cases h
  exact ⟨_, rfl⟩

/-- a handle on the side `rl` points away from exists only while the mutex holder waits for the readers of that
side, and its owner is registered in a counter that has not been observed at zero since the flip -/
theorem Inv.held_off (h : Inv s) (hx : (s.pc r).held = some x) (hne : x ≠ s.rl) :
    ∃ w op zL zR, s.mtx = some w ∧ s.pc w = .wWait op x zL zR ∧ s.rl = x.flip ∧
      ∀ c, (s.pc r).regIn = some c → zOf c zL zR = false := by
  cases hm : s.mtx with
  | none => exact absurd (h.quiet hm r x hx) hne
  | some w =>
    have ph := h.phase w ((h.holder w).2 hm)
    cases hk : (s.pc w).pk with
    | quiet => rw [hk] at ph; exact absurd (ph r x hx) hne
    | pre l | post2 l => rw [hk] at ph; exact absurd ((ph.2 r x hx).trans ph.1.symm) hne
    | wait l zL zR =>
      rw [hk] at ph
      obtain ⟨op, hp⟩ := Pc.pk_wait hk
      have hxl : x = l := by
        have := side_ne_iff.1 (ph.1 ▸ hne); rwa [Side.flip_flip] at this
      subst hxl
      refine ⟨w, op, zL, zR, rfl, hp, ph.1, fun c hc => ?_⟩
      cases hz : zOf c zL zR with
      | false => rfl
      | true => exact absurd (ph.2 r x ⟨c, hc, hz⟩ hx) (Side.ne_flip x)

/-- the side whose content the mutex holder may currently be changing (or has left torn) -/
def Pc.writing : Pc → Option Side
  | .wF1 _ l | .wRb _ l | .wRbC _ l => some l.flip
  | .wF2 _ l | .wRf _ l | .wRfC _ l => some l
  | _ => none

/-- while the mutex holder is writing a side (or has left it torn), no handle points to it -/
theorem Inv.no_touch (h : Inv s) (hw : (s.pc w).writing = some x) :
    (s.pc r).held ≠ some x := by
  intro hr
  cases hp : s.pc w with
  | wF1 _ l | wRb _ l | wRbC _ l => rw [hp] at hw; exact Side.flip_ne l ((Option.some.inj hw).trans ((h.phase_at hp rfl).2 r _ hr))
  | wF2 _ l | wRf _ l | wRfC _ l => rw [hp] at hw; exact Side.ne_flip l ((Option.some.inj hw).trans ((h.phase_at hp rfl).2 r _ hr))
  | _ => rw [hp] at hw; cases hw

theorem inv_reachable (h : Reachable s) : Inv s := by
  obtain ⟨b, es, hes⟩ := h
  exact runFrom_inv (fun _ _ _ _ hi hst => inv_step hi hst) (inv_init b) hes

end ConcVerif.LR
