import ConcVerif.Proof.DDStep
/-! Base layer of the DelayedDestructor proofs: list facts, what the silent loops leave untouched, what a step leaves
alone, and the lock discipline `InvL`. -/
namespace ConcVerif.DD

theorem count_split {α : Type} [BEq α] [LawfulBEq α] (vec : List α) (p : α → Bool) (k : α) :
    (vec.filter (fun j => !(vec.filter p).contains j)).count k + (vec.filter p).count k = vec.count k := by
  by_cases hp : p k = true
  · have h1 : (vec.filter p).count k = vec.count k := List.count_filter hp
    by_cases hk : k ∈ vec
    · have hs : k ∈ vec.filter p := List.mem_filter.mpr ⟨hk, hp⟩
      have h0 : (vec.filter (fun j => !(vec.filter p).contains j)).count k = 0 := by
        apply List.count_eq_zero.mpr
        intro hm
        have := (List.mem_filter.mp hm).2
        simp [hs] at this
      omega
    · have h0 : (vec.filter (fun j => !(vec.filter p).contains j)).count k = 0 :=
        List.count_eq_zero.mpr (fun hm => hk (List.mem_filter.mp hm).1)
      omega
  · have hs : k ∉ vec.filter p := fun hm => hp (List.mem_filter.mp hm).2
    have h1 : (vec.filter p).count k = 0 := List.count_eq_zero.mpr hs
    have h0 : (vec.filter (fun j => !(vec.filter p).contains j)).count k = vec.count k := by
      apply List.count_filter
      simp [hs]
    omega

theorem nodup_filter_of_count {α : Type} [BEq α] [LawfulBEq α] (vec : List α) (p : α → Bool)
    (h : ∀ k, p k = true → vec.count k ≤ 1) :
    (vec.filter p).Nodup := by
  induction vec with
  | nil => simp
  | cons a v ih =>
    have hv : ∀ k, p k = true → v.count k ≤ 1 := by
      intro k hk
      have := h k hk
      rw [List.count_cons] at this
      omega
    by_cases hp : p a = true
    · rw [List.filter_cons_of_pos hp]
      refine List.nodup_cons.mpr ⟨?_, ih hv⟩
      intro hm
      have h1 := h a hp
      rw [List.count_cons_self] at h1
      have : v.count a ≥ 1 := List.count_pos_iff.mpr (List.mem_filter.mp hm).1
      omega
    · rw [List.filter_cons_of_neg hp]; exact ih hv

theorem count_map_snd_erase (l : List (Nat × Nat)) (t k j : Nat) (h : (t, k) ∈ l) :
    ((l.erase (t, k)).map Prod.snd).count j = (l.map Prod.snd).count j - (if j = k then 1 else 0) := by
  induction l with
  | nil => cases h
  | cons a l ih =>
    by_cases ha : a = (t, k)
    · subst ha
      simp only [List.erase_cons_head, List.map_cons, List.count_cons]
      by_cases hj : j = k
      · subst hj; simp
      · have : ¬ (k == j) = true := by simpa using fun h => hj h.symm
        simp [hj, this]
    · have hm : (t, k) ∈ l := by
        cases h with
        | head => exact absurd rfl ha
        | tail _ h => exact h
      have hne : (a == (t, k)) = false := by simpa using ha
      rw [List.erase_cons_tail (by simp [hne])]
      simp only [List.map_cons, List.count_cons, ih hm]
      have : (l.map Prod.snd).count k ≥ 1 := by
        apply List.count_pos_iff.mpr
        exact List.mem_map.mpr ⟨(t, k), hm, rfl⟩
      by_cases hj : j = k
      · subst hj; simp; omega
      · simp [hj]

@[simp] theorem setStk_lock (s : St) (t fs) : (s.setStk t fs).lock = s.lock := rfl
@[simp] theorem setStk_hasCb (s : St) (t fs) : (s.setStk t fs).hasCb = s.hasCb := rfl
@[simp] theorem setStk_vec (s : St) (t fs) : (s.setStk t fs).vec = s.vec := rfl
@[simp] theorem setStk_ecs (s : St) (t fs) : (s.setStk t fs).ecs = s.ecs := rfl
@[simp] theorem setStk_ext (s : St) (t fs) : (s.setStk t fs).ext = s.ext := rfl
@[simp] theorem setStk_dead (s : St) (t fs) : (s.setStk t fs).dead = s.dead := rfl
@[simp] theorem setStk_vdead (s : St) (t fs) : (s.setStk t fs).vdead = s.vdead := rfl
@[simp] theorem setStk_created (s : St) (t fs) : (s.setStk t fs).created = s.created := rfl
@[simp] theorem setStk_pend (s : St) (t fs) : (s.setStk t fs).pend = s.pend := rfl
@[simp] theorem setStk_destroyed (s : St) (t fs) : (s.setStk t fs).destroyed = s.destroyed := rfl
@[simp] theorem setStk_added (s : St) (t fs) : (s.setStk t fs).added = s.added := rfl
@[simp] theorem setStk_reaped (s : St) (t fs) : (s.setStk t fs).reaped = s.reaped := rfl
@[simp] theorem setStk_vrel (s : St) (t fs) : (s.setStk t fs).vrel = s.vrel := rfl
@[simp] theorem setStk_stk_same (s : St) (t fs) : (s.setStk t fs).stk t = fs := by simp [St.setStk]
theorem setStk_stk_other (s : St) (t fs) (h : u ≠ t) : (s.setStk t fs).stk u = s.stk u := by
  simp [St.setStk, h]
theorem setStk_stk (s : St) (t fs) (u : Tid) : (s.setStk t fs).stk u = if u = t then fs else s.stk u := by
  simp [St.setStk, upd_apply]

@[simp] theorem refs_setStk (s : St) (t fs k) : refs (s.setStk t fs) k = refs s k := rfl

/-- the part of the state no silent loop touches -/
structure Same (s s' : St) (t : Tid) : Prop where
  lock : s'.lock = s.lock
  hasCb : s'.hasCb = s.hasCb
  ext : s'.ext = s.ext
  dead : s'.dead = s.dead
  created : s'.created = s.created
  destroyed : s'.destroyed = s.destroyed
  added : s'.added = s.added
  reaped : s'.reaped = s.reaped
  stk : ∀ u, u ≠ t → s'.stk u = s.stk u

theorem Same.refl (s : St) (t : Tid) : Same s s t := ⟨rfl, rfl, rfl, rfl, rfl, rfl, rfl, rfl, fun _ _ => rfl⟩

theorem Same.trans {a b c : St} (h1 : Same a b t) (h2 : Same b c t) : Same a c t :=
  ⟨h2.lock.trans h1.lock, h2.hasCb.trans h1.hasCb, h2.ext.trans h1.ext, h2.dead.trans h1.dead,
   h2.created.trans h1.created, h2.destroyed.trans h1.destroyed, h2.added.trans h1.added, h2.reaped.trans h1.reaped,
   fun u hu => (h2.stk u hu).trans (h1.stk u hu)⟩

theorem same_setStk (s : St) (t fs) : Same s (s.setStk t fs) t :=
  ⟨rfl, rfl, rfl, rfl, rfl, rfl, rfl, rfl, fun _ hu => setStk_stk_other s t fs hu⟩

/-- the fields the silent loops write are not among those `Same` speaks of -/
theorem same_fields (s : St) (t : Tid) (v e d p r) :
    Same s { s with vec := v, ecs := e, vdead := d, pend := p, vrel := r } t :=
  ⟨rfl, rfl, rfl, rfl, rfl, rfl, rfl, rfl, fun _ _ => rfl⟩

theorem same_vdrain (s : St) (t rest) (v : List ObjId) : Same s (vdrain s t rest v) t := by
  induction v generalizing s with
  | nil => exact (same_fields s t ..).trans (same_setStk ..)
  | cons k v ih =>
    simp only [vdrain]
    split
    · exact (same_fields s t ..).trans (same_setStk ..)
    · exact (same_fields s t ..).trans (ih _)

theorem same_xTop (s : St) (t ii rest) : Same s (xTop s t ii rest) t := by
  unfold xTop; split
  · exact (same_fields s t ..).trans (same_setStk ..)
  · exact same_setStk ..

theorem same_xAfter (s : St) (t ii rest) : Same s (xAfter s t ii rest) t := by
  unfold xAfter; split
  · exact (same_fields s t ..).trans (same_setStk ..)
  · split
    · exact same_setStk ..
    · split <;> exact same_setStk ..

theorem same_dDone (s : St) (t r rest) : Same s (dDone s t r rest) t := by
  unfold dDone; split
  · exact same_setStk ..
  · exact same_xAfter ..
  · exact same_vdrain ..
  · exact same_setStk ..

theorem same_drain (s : St) (t sz cbs thrown rest) (ec : List ObjId) : Same s (drain s t sz cbs thrown rest ec) t := by
  induction ec generalizing s with
  | nil => simp only [drain]; split; exact same_dDone ..; exact same_setStk ..
  | cons k ec ih =>
    simp only [drain]
    split
    · exact (same_fields s t ..).trans (same_setStk ..)
    · exact (same_fields s t ..).trans (ih _)

theorem same_resume (s : St) (t fs) : Same s (resume s t fs) t := by
  unfold resume; split
  · exact same_drain ..
  · exact same_vdrain ..
  · exact same_setStk ..

@[simp] theorem vdrain_lock (s : St) (t rest) (v : List ObjId) : (vdrain s t rest v).lock = s.lock := (same_vdrain s t rest v).lock
@[simp] theorem vdrain_hasCb (s : St) (t rest) (v : List ObjId) : (vdrain s t rest v).hasCb = s.hasCb := (same_vdrain s t rest v).hasCb
@[simp] theorem vdrain_ext (s : St) (t rest) (v : List ObjId) : (vdrain s t rest v).ext = s.ext := (same_vdrain s t rest v).ext
@[simp] theorem vdrain_dead (s : St) (t rest) (v : List ObjId) : (vdrain s t rest v).dead = s.dead := (same_vdrain s t rest v).dead
@[simp] theorem vdrain_created (s : St) (t rest) (v : List ObjId) : (vdrain s t rest v).created = s.created := (same_vdrain s t rest v).created
@[simp] theorem vdrain_destroyed (s : St) (t rest) (v : List ObjId) : (vdrain s t rest v).destroyed = s.destroyed := (same_vdrain s t rest v).destroyed
@[simp] theorem vdrain_added (s : St) (t rest) (v : List ObjId) : (vdrain s t rest v).added = s.added := (same_vdrain s t rest v).added
@[simp] theorem vdrain_reaped (s : St) (t rest) (v : List ObjId) : (vdrain s t rest v).reaped = s.reaped := (same_vdrain s t rest v).reaped
theorem vdrain_stk_other (s : St) (t rest) (v : List ObjId) {u : Tid} (h : u ≠ t) : (vdrain s t rest v).stk u = s.stk u := (same_vdrain s t rest v).stk u h
@[simp] theorem xTop_lock (s : St) (t ii rest) : (xTop s t ii rest).lock = s.lock := (same_xTop s t ii rest).lock
@[simp] theorem xTop_hasCb (s : St) (t ii rest) : (xTop s t ii rest).hasCb = s.hasCb := (same_xTop s t ii rest).hasCb
@[simp] theorem xTop_ext (s : St) (t ii rest) : (xTop s t ii rest).ext = s.ext := (same_xTop s t ii rest).ext
@[simp] theorem xTop_dead (s : St) (t ii rest) : (xTop s t ii rest).dead = s.dead := (same_xTop s t ii rest).dead
@[simp] theorem xTop_created (s : St) (t ii rest) : (xTop s t ii rest).created = s.created := (same_xTop s t ii rest).created
@[simp] theorem xTop_destroyed (s : St) (t ii rest) : (xTop s t ii rest).destroyed = s.destroyed := (same_xTop s t ii rest).destroyed
@[simp] theorem xTop_added (s : St) (t ii rest) : (xTop s t ii rest).added = s.added := (same_xTop s t ii rest).added
@[simp] theorem xTop_reaped (s : St) (t ii rest) : (xTop s t ii rest).reaped = s.reaped := (same_xTop s t ii rest).reaped
theorem xTop_stk_other (s : St) (t ii rest) (h : u ≠ t) : (xTop s t ii rest).stk u = s.stk u := (same_xTop s t ii rest).stk u h
@[simp] theorem xAfter_lock (s : St) (t ii rest) : (xAfter s t ii rest).lock = s.lock := (same_xAfter s t ii rest).lock
@[simp] theorem xAfter_hasCb (s : St) (t ii rest) : (xAfter s t ii rest).hasCb = s.hasCb := (same_xAfter s t ii rest).hasCb
@[simp] theorem xAfter_ext (s : St) (t ii rest) : (xAfter s t ii rest).ext = s.ext := (same_xAfter s t ii rest).ext
@[simp] theorem xAfter_dead (s : St) (t ii rest) : (xAfter s t ii rest).dead = s.dead := (same_xAfter s t ii rest).dead
@[simp] theorem xAfter_created (s : St) (t ii rest) : (xAfter s t ii rest).created = s.created := (same_xAfter s t ii rest).created
@[simp] theorem xAfter_destroyed (s : St) (t ii rest) : (xAfter s t ii rest).destroyed = s.destroyed := (same_xAfter s t ii rest).destroyed
@[simp] theorem xAfter_added (s : St) (t ii rest) : (xAfter s t ii rest).added = s.added := (same_xAfter s t ii rest).added
@[simp] theorem xAfter_reaped (s : St) (t ii rest) : (xAfter s t ii rest).reaped = s.reaped := (same_xAfter s t ii rest).reaped
theorem xAfter_stk_other (s : St) (t ii rest) {u : Tid} (h : u ≠ t) : (xAfter s t ii rest).stk u = s.stk u := (same_xAfter s t ii rest).stk u h
@[simp] theorem dDone_lock (s : St) (t r rest) : (dDone s t r rest).lock = s.lock := (same_dDone s t r rest).lock
@[simp] theorem dDone_hasCb (s : St) (t r rest) : (dDone s t r rest).hasCb = s.hasCb := (same_dDone s t r rest).hasCb
@[simp] theorem dDone_ext (s : St) (t r rest) : (dDone s t r rest).ext = s.ext := (same_dDone s t r rest).ext
@[simp] theorem dDone_dead (s : St) (t r rest) : (dDone s t r rest).dead = s.dead := (same_dDone s t r rest).dead
@[simp] theorem dDone_created (s : St) (t r rest) : (dDone s t r rest).created = s.created := (same_dDone s t r rest).created
@[simp] theorem dDone_destroyed (s : St) (t r rest) : (dDone s t r rest).destroyed = s.destroyed := (same_dDone s t r rest).destroyed
@[simp] theorem dDone_added (s : St) (t r rest) : (dDone s t r rest).added = s.added := (same_dDone s t r rest).added
@[simp] theorem dDone_reaped (s : St) (t r rest) : (dDone s t r rest).reaped = s.reaped := (same_dDone s t r rest).reaped
theorem dDone_stk_other (s : St) (t r rest) (h : u ≠ t) : (dDone s t r rest).stk u = s.stk u := (same_dDone s t r rest).stk u h
@[simp] theorem drain_lock (s : St) (t sz cbs thrown rest) (ec : List ObjId) : (drain s t sz cbs thrown rest ec).lock = s.lock := (same_drain s t sz cbs thrown rest ec).lock
@[simp] theorem drain_hasCb (s : St) (t sz cbs thrown rest) (ec : List ObjId) : (drain s t sz cbs thrown rest ec).hasCb = s.hasCb := (same_drain s t sz cbs thrown rest ec).hasCb
@[simp] theorem drain_ext (s : St) (t sz cbs thrown rest) (ec : List ObjId) : (drain s t sz cbs thrown rest ec).ext = s.ext := (same_drain s t sz cbs thrown rest ec).ext
@[simp] theorem drain_dead (s : St) (t sz cbs thrown rest) (ec : List ObjId) : (drain s t sz cbs thrown rest ec).dead = s.dead := (same_drain s t sz cbs thrown rest ec).dead
@[simp] theorem drain_created (s : St) (t sz cbs thrown rest) (ec : List ObjId) : (drain s t sz cbs thrown rest ec).created = s.created := (same_drain s t sz cbs thrown rest ec).created
@[simp] theorem drain_destroyed (s : St) (t sz cbs thrown rest) (ec : List ObjId) : (drain s t sz cbs thrown rest ec).destroyed = s.destroyed := (same_drain s t sz cbs thrown rest ec).destroyed
@[simp] theorem drain_added (s : St) (t sz cbs thrown rest) (ec : List ObjId) : (drain s t sz cbs thrown rest ec).added = s.added := (same_drain s t sz cbs thrown rest ec).added
@[simp] theorem drain_reaped (s : St) (t sz cbs thrown rest) (ec : List ObjId) : (drain s t sz cbs thrown rest ec).reaped = s.reaped := (same_drain s t sz cbs thrown rest ec).reaped
theorem drain_stk_other (s : St) (t sz cbs thrown rest) (ec : List ObjId) (h : u ≠ t) : (drain s t sz cbs thrown rest ec).stk u = s.stk u := (same_drain s t sz cbs thrown rest ec).stk u h
@[simp] theorem resume_lock (s : St) (t fs) : (resume s t fs).lock = s.lock := (same_resume s t fs).lock
@[simp] theorem resume_hasCb (s : St) (t fs) : (resume s t fs).hasCb = s.hasCb := (same_resume s t fs).hasCb
@[simp] theorem resume_ext (s : St) (t fs) : (resume s t fs).ext = s.ext := (same_resume s t fs).ext
@[simp] theorem resume_dead (s : St) (t fs) : (resume s t fs).dead = s.dead := (same_resume s t fs).dead
@[simp] theorem resume_created (s : St) (t fs) : (resume s t fs).created = s.created := (same_resume s t fs).created
@[simp] theorem resume_destroyed (s : St) (t fs) : (resume s t fs).destroyed = s.destroyed := (same_resume s t fs).destroyed
@[simp] theorem resume_added (s : St) (t fs) : (resume s t fs).added = s.added := (same_resume s t fs).added
@[simp] theorem resume_reaped (s : St) (t fs) : (resume s t fs).reaped = s.reaped := (same_resume s t fs).reaped
theorem resume_stk_other (s : St) (t fs) (h : u ≠ t) : (resume s t fs).stk u = s.stk u := (same_resume s t fs).stk u h

theorem select_stk_other (s : St) (t skip rest) (h : u ≠ t) : (select s t skip rest).stk u = s.stk u := by
  unfold select; dsimp only; split <;> simp [setStk_stk_other, h]
@[simp] theorem select_lock (s : St) (t skip rest) : (select s t skip rest).lock = some t := by
  unfold select; dsimp only; split <;> rfl

@[simp] theorem select_hasCb (s : St) (t skip rest) : (select s t skip rest).hasCb = s.hasCb := by
  unfold select; dsimp only; split <;> rfl

variable {s s' : St} {t u : Tid} {fs : List Frame} {e : Ev}

theorem Step.stk_other (h : Step s t fs e s') (hu : u ≠ t) : s'.stk u = s.stk u := by
  cases h with
  | user _ h =>
    cases h with
    | new | dup | drop => rfl
    | callDtor => exact xTop_stk_other _ _ _ _ hu
    | _ => exact setStk_stk_other _ _ _ hu
  | dLock => exact select_stk_other _ _ _ _ hu
  | dTimeout | dUnlock0 | dRelockTimeout | dUnlock2 => exact dDone_stk_other _ _ _ _ hu
  | dUnlock1 | cbEndLast | cbThrow => exact drain_stk_other _ _ _ _ _ _ _ hu
  | dtorEnd => exact resume_stk_other _ _ _ hu
  | xYield | xSleep => exact xTop_stk_other _ _ _ _ hu
  | _ => exact setStk_stk_other _ _ _ hu

theorem step_stk_other (h : step s t e = some s') (hu : u ≠ t) :
    s'.stk u = s.stk u :=
  (Step.of_step h).stk_other hu

theorem UStep.lock (h : UStep s t fs e s') : s'.lock = s.lock := by
  cases h with
  | callDtor => exact xTop_lock ..
  | _ => rfl

theorem Step.hasCb (h : Step s t fs e s') : s'.hasCb = s.hasCb := by
  cases h with
  | user _ h =>
    cases h with
    | callDtor => exact xTop_hasCb ..
    | _ => rfl
  | dLock => exact select_hasCb ..
  | dTimeout | dUnlock0 | dRelockTimeout | dUnlock2 => exact dDone_hasCb ..
  | dUnlock1 | cbEndLast | cbThrow => exact drain_hasCb ..
  | dtorEnd => exact resume_hasCb ..
  | xYield | xSleep => exact xTop_hasCb ..
  | _ => rfl

theorem step_hasCb (h : step s t e = some s') : s'.hasCb = s.hasCb :=
  (Step.of_step h).hasCb

/-! ### Lock discipline: the lock holder's top frame is one of the critical-section frames -/

def holdsF : Frame → Bool
  | .addLocked _ | .sizeLocked | .dUnlock0 | .dUnlock1 _ _ | .dUnlock2 | .gUnlockS _ _ _ | .gUnlockD _ _ _ | .gUnlockE => true
  | _ => false

def holds : List Frame → Bool
  | f :: _ => holdsF f
  | [] => false

@[simp] theorem holds_cons (f : Frame) (r : List Frame) : holds (f :: r) = holdsF f := rfl

def InvL (s : St) : Prop := ∀ u, s.lock = some u → holds (s.stk u) = true

theorem select_holds (s : St) (t skip rest) : holds ((select s t skip rest).stk t) = true := by
  unfold select; dsimp only; split <;> simp [holds, holdsF]

theorem gBody_holds (len dc cnt : Nat) : holdsF (gBody len dc cnt) = true := by
  unfold gBody; split <;> rfl

theorem gNext_holds (len dc cnt es : Nat) : holdsF (gNext len dc cnt es) = true := by
  unfold gNext; split
  · split
    · rfl
    · exact gBody_holds ..
  · rfl

theorem userLevel_not_holds (h : userLevel fs = true) : holds fs = false := by
  cases fs with
  | nil => rfl
  | cons f r => cases f <;> first | rfl | cases h

/-- the lock changes hands only by an acquisition from the free state, which leaves the thread on a critical-section
frame, or by a release by the holder; no other step starts from a critical-section frame -/
theorem Step.lock_cases (h : Step s t fs e s') :
    (s.lock = none ∧ s'.lock = some t ∧ holds (s'.stk t) = true) ∨ (s.lock = some t ∧ s'.lock = none) ∨
      (s'.lock = s.lock ∧ holds fs = false) := by
  cases h with
  | addLock hl | sizeLock hl | dRelock hl => exact .inl ⟨hl, rfl, by rw [setStk_stk_same]; rfl⟩
  | gLock hl | gRelockD hl => exact .inl ⟨hl, rfl, by rw [setStk_stk_same]; exact gNext_holds ..⟩
  | gRelockS hl => exact .inl ⟨hl, rfl, by rw [setStk_stk_same]; exact gBody_holds ..⟩
  | dLock hl => exact .inl ⟨hl, select_lock .., select_holds ..⟩
  | addUnlock hl | sizeUnlock hl | dUnlock1Cb hl | gUnlockS hl | gUnlockD hl | gUnlockE hl => exact .inr (.inl ⟨hl, rfl⟩)
  | dUnlock0 hl | dUnlock2 hl => exact .inr (.inl ⟨hl, dDone_lock (unlock s) _ _ _⟩)
  | dUnlock1 hl => exact .inr (.inl ⟨hl, drain_lock (unlock s) _ _ _ _ _ _⟩)
  | user hu h => exact .inr (.inr ⟨h.lock, userLevel_not_holds hu⟩)
  | dTimeout | dRelockTimeout => exact .inr (.inr ⟨dDone_lock .., rfl⟩)
  | cbEndLast | cbThrow => exact .inr (.inr ⟨drain_lock .., rfl⟩)
  | dtorEnd => exact .inr (.inr ⟨resume_lock .., rfl⟩)
  | xYield | xSleep => exact .inr (.inr ⟨xTop_lock .., rfl⟩)
  | _ => exact .inr (.inr ⟨rfl, rfl⟩)

theorem invL_init (cb ns nt) : InvL (init cb ns nt) := by intro u h; simp [init] at h

theorem invL_step (hI : InvL s) (h : step s t e = some s') : InvL s' := by
  intro u hu
  rcases (Step.of_step h).lock_cases with ⟨_, h1, h2⟩ | ⟨_, h1⟩ | ⟨h1, h2⟩
  · have : u = t := by rw [h1] at hu; exact (Option.some.inj hu).symm
    subst this; exact h2
  · rw [h1] at hu; cases hu
  · rw [h1] at hu
    by_cases hut : u = t
    · subst hut; rw [hI u hu] at h2; cases h2
    · rw [step_stk_other h hut]; exact hI u hu

theorem invL_reachable {cb ns nt} {s : St} (h : Reachable cb ns nt s) : InvL s := by
  obtain ⟨es, hr⟩ := h
  exact runFrom_inv (Inv := InvL) (fun _ _ _ _ hi hs => invL_step hi hs) (invL_init cb ns nt) hr

end ConcVerif.DD
