import ConcVerif.Proof.DDSil
/-! Four invariants of the DelayedDestructor model about its ledgers and its destroyObjects frames: `Acct`, `Own`, `Wf`, `Adj`. -/
namespace ConcVerif.DD

variable {s s' X : St} {t u : Tid} {fs rest : List Frame} {f : Frame} {k : ObjId} {e : Ev} {c : Cfg}

/-! ## `Acct`: every `push_back` is still in the vector, or was taken out
by a destroyObjects selection, or was released by the vector member's destructor — with multiplicity. -/

def Acct (s : St) : Prop := ∀ k, s.added.count k = s.vec.count k + s.reaped.count k + s.vrel.count k

theorem acct_setStk {s : St} (t fs) (h : Acct s) : Acct (s.setStk t fs) := h

theorem acct_sil (h : Sil t X c s') (hI : Acct X) : Acct s' := by
  have hrel : ∀ {X : St} {a v}, X.vec = a :: v → Acct X → Acct { X with vec := v, vrel := a :: X.vrel } := by
    intro X a v hv hI k; have := hI k; rw [hv] at this
    simp only [List.count_cons] at this ⊢; omega
  induction h with
  | caught _ ih | doneVec _ ih | ecNext _ _ ih => exact ih hI
  | vecDone hv => exact fun k => hv ▸ hI k
  | vecLast hv => exact hrel hv hI
  | vecNext hv _ _ ih => exact ih (hrel hv hI)
  | @scanSome X skip _ _ =>
    intro k
    have h1 := hI k
    have h2 := count_split X.vec (fun k => selectable X k && !skip.contains k) k
    simp only [sel, setStk_added, setStk_vec, setStk_reaped, setStk_vrel, List.count_append]
    omega
  | _ => exact hI

theorem acct_add (t : Tid) (k : ObjId) (l : Option Tid) (e : ObjId → Nat) (fs) (hI : Acct s) :
    Acct ({ s with lock := l, vec := s.vec ++ [k], added := k :: s.added, ext := e }.setStk t fs) := by
  intro j; have := hI j
  simp only [setStk_added, setStk_vec, setStk_reaped, setStk_vrel, List.count_append, List.count_cons, List.count_nil]
  omega

theorem Step.acct (h : Step s t fs e s') (hI : Acct s) : Acct s' := by
  cases h with
  | user _ h =>
    cases h with
    | callDtor => exact acct_sil (xTop_sil ..) (by exact hI)
    | _ => exact hI
  | addLock => exact acct_add _ _ _ _ _ hI
  | dLock => exact acct_sil (select_sil ..) hI
  | dTimeout | dUnlock0 | dRelockTimeout | dUnlock2 => exact acct_sil (dDone_sil ..) hI
  | dUnlock1 | cbEndLast | cbThrow => exact acct_sil (drain_sil ..) hI
  | dtorEnd => exact acct_sil (resume_sil ..) hI
  | xYield | xSleep => exact acct_sil (xTop_sil ..) hI
  | _ => exact hI

theorem acct_init (cb ns nt) : Acct (init cb ns nt) := by intro k; simp [init]

theorem acct_reachable {cb ns nt} {s : St} (h : Reachable cb ns nt s) : Acct s := by
  obtain ⟨es, hr⟩ := h
  exact runFrom_inv (Inv := Acct) (fun _ _ _ _ hi hs => (Step.of_step hs).acct hi) (acct_init cb ns nt) hr

/-! ## `Own`: the `(t, k)` entries of the global `ecall` ledger are exactly
the entries of the `ecall` vectors of thread `t`'s destroyObjects frames (with multiplicity). -/

def ecOf : Frame → List ObjId
  | .dUnlock1 _ ec => ec
  | .dCb _ ec _ _ => ec
  | .dInCb _ ec _ _ _ => ec
  | .dClear _ ec _ _ => ec
  | _ => []

def owned : List Frame → List ObjId
  | [] => []
  | f :: fs => ecOf f ++ owned fs

@[simp] theorem owned_nil : owned [] = [] := rfl
@[simp] theorem owned_cons (f fs) : owned (f :: fs) = ecOf f ++ owned fs := rfl

theorem count_pair_map (t u : Tid) (j : ObjId) (sel : List ObjId) :
    (sel.map (fun k => (t, k))).count (u, j) = if u = t then sel.count j else 0 := by
  induction sel with
  | nil => simp
  | cons a l ih =>
    simp only [List.map_cons, List.count_cons, ih]
    by_cases hu : u = t
    · subst hu
      by_cases ha : a = j
      · subst ha; simp
      · have : ¬ ((u, a) == (u, j)) = true := by simpa using ha
        simp [ha]
    · have : ¬ ((t, a) == (u, j)) = true := by simp; intro h; exact absurd h.symm hu
      simp [hu, this]

theorem ecs_other_sil (h : Sil t X c s') (hu : u ≠ t) (j : ObjId) :
    s'.ecs.count (u, j) = X.ecs.count (u, j) := by
  induction h with
  | caught _ ih | doneVec _ ih | vecNext _ _ _ ih => exact ih
  | ecLast => exact List.count_erase_of_ne (fun h => hu (by injection h))
  | ecNext _ _ ih => exact ih.trans (List.count_erase_of_ne (fun h => hu (by injection h)))
  | scanSome => simp [List.count_append, count_pair_map, hu]
  | _ => rfl

theorem own_erase {l : List (Tid × ObjId)} {ec R : List ObjId}
    (h : ∀ j, l.count (t, j) = (k :: ec ++ R).count j) (j : ObjId) : (l.erase (t, k)).count (t, j) = (ec ++ R).count j := by
  have hj := h j
  by_cases hjk : j = k
  · subst hjk; rw [List.count_erase_self]; simp only [List.cons_append, List.count_cons_self] at hj; omega
  · rw [List.count_erase_of_ne (by intro h; injection h with _ h2; exact hjk h2)]
    simp only [List.cons_append, List.count_cons] at hj
    have : ¬ (k == j) = true := by simpa using fun h => hjk h.symm
    simpa [this] using hj

theorem own_sil (h : Sil t X c s')
    (hI : ∀ j, X.ecs.count (t, j) = (owned c.stk).count j) (j : ObjId) :
    s'.ecs.count (t, j) = (owned (s'.stk t)).count j := by
  induction h with
  | caught _ ih | vecNext _ _ _ ih | doneVec _ ih => exact ih hI
  | ecLast => rw [setStk_stk_same]; exact own_erase hI j
  | ecNext _ _ ih => exact ih (own_erase hI)
  | scanSome => simp [List.count_append, count_pair_map, ecOf, Cfg.stk, hI j]
  | _ => rw [setStk_stk_same]; exact hI j

theorem Step.ecs_other (h : Step s t fs e s') (hu : u ≠ t) (j : ObjId) :
    s'.ecs.count (u, j) = s.ecs.count (u, j) := by
  cases h with
  | user _ h =>
    cases h with
    | callDtor => exact ecs_other_sil (X := { s with dead := some t }) (xTop_sil ..) hu j
    | _ => rfl
  | dLock => exact ecs_other_sil (select_sil ..) hu j
  | dTimeout | dUnlock0 | dRelockTimeout | dUnlock2 => exact ecs_other_sil (dDone_sil ..) hu j
  | dUnlock1 | cbEndLast | cbThrow => exact ecs_other_sil (drain_sil ..) hu j
  | dtorEnd => exact ecs_other_sil (resume_sil ..) hu j
  | xYield | xSleep => exact ecs_other_sil (xTop_sil ..) hu j
  | _ => rfl

@[simp] theorem ecOf_gBody (len dc cnt : Nat) : ecOf (gBody len dc cnt) = [] := by
  unfold gBody; split <;> rfl
@[simp] theorem ecOf_gNext (len dc cnt es : Nat) : ecOf (gNext len dc cnt es) = [] := by
  unfold gNext; repeat' split
  all_goals (first | rfl | exact ecOf_gBody ..)

theorem own_set {fs fs' : List Frame} (hI : ∀ j, s.ecs.count (t, j) = (owned fs).count j)
    (X : St) (hX : X.ecs = s.ecs) (ho : owned fs' = owned fs) (j : ObjId) :
    (X.setStk t fs').ecs.count (t, j) = (owned ((X.setStk t fs').stk t)).count j := by
  rw [setStk_stk_same, ho]; exact hX ▸ hI j

theorem Step.own_self (h : Step s t fs e s') (hfs : s.stk t = fs)
    (hI : ∀ j, s.ecs.count (t, j) = (owned fs).count j) (j : ObjId) :
    s'.ecs.count (t, j) = (owned (s'.stk t)).count j := by
  -- `by exact hI`, `by rfl`: elaborated after the goal has fixed `rest` (`owned (f :: rest)` unfolds to `owned rest`)
  cases h with
  | user _ h =>
    cases h with
    | new | dup | drop => exact hfs ▸ hI j
    | callDtor hfs' => subst hfs'; exact own_sil (X := { s with dead := some t }) (xTop_sil ..) hI j
    | _ => exact own_set hI _ rfl (by rfl) j
  | dLock => exact own_sil (select_sil ..) (by exact hI) j
  | dTimeout | dUnlock0 | dRelockTimeout | dUnlock2 => exact own_sil (dDone_sil ..) (by exact hI) j
  | dUnlock1 | cbEndLast | cbThrow => exact own_sil (drain_sil ..) (by exact hI) j
  | dtorEnd => exact own_sil (resume_sil ..) (by exact hI) j
  | xYield | xSleep => exact own_sil (xTop_sil ..) (by exact hI) j
  | gLock | gRelockD => exact own_set hI _ rfl (by rw [owned_cons, ecOf_gNext]; rfl) j
  | gRelockS => exact own_set hI _ rfl (by rw [owned_cons, ecOf_gBody]; rfl) j
  | _ => exact own_set hI _ rfl (by rfl) j

def Own (s : St) : Prop := ∀ t j, s.ecs.count (t, j) = (owned (s.stk t)).count j

theorem own_step (hI : Own s) (h : step s t e = some s') : Own s' := by
  intro u j
  by_cases hu : u = t
  · subst hu; exact (Step.of_step h).own_self rfl (hI u) j
  · rw [(Step.of_step h).ecs_other hu, step_stk_other h hu]; exact hI u j

theorem own_init (cb ns nt) : Own (init cb ns nt) := by intro t j; simp [init]

theorem own_reachable {cb ns nt} {s : St} (h : Reachable cb ns nt s) : Own s := by
  obtain ⟨es, hr⟩ := h
  exact runFrom_inv (Inv := Own) (fun _ _ _ _ hi hs => own_step hi hs) (own_init cb ns nt) hr

theorem own_idle (hI : Own s) (ht : s.stk t = []) (k : ObjId) : (t, k) ∉ s.ecs := by
  intro hm
  have := hI t k
  rw [ht] at this
  have h2 : s.ecs.count (t, k) > 0 := List.count_pos_iff.mpr hm
  simp at this; omega

theorem own_mem (hI : Own s) (hf : f ∈ s.stk t) (hk : k ∈ ecOf f) :
    (t, k) ∈ s.ecs := by
  have hm : k ∈ owned (s.stk t) := by
    generalize s.stk t = fs at hf
    induction fs with
    | nil => cases hf
    | cons g gs ih =>
      simp only [owned_cons, List.mem_append]
      cases hf with
      | head => exact Or.inl hk
      | tail _ h => exact Or.inr (ih h)
  have := hI t k
  have h2 : (owned (s.stk t)).count k > 0 := List.count_pos_iff.mpr hm
  exact List.count_pos_iff.mp (by omega)

/-! ## `Wf`: a destroyObjects call runs its callbacks over its own
`ecall` vector, front to back, each entry once; `ecall` has no duplicates. -/

def wfF (cb : Bool) : Frame → Prop
  | .dUnlock1 _ ec => ec.Nodup ∧ ec ≠ []
  | .dCb _ ec cbs todo => ec = cbs ++ todo ∧ ec.Nodup
  | .dInCb _ ec cbs k todo => ec = cbs ++ k :: todo ∧ ec.Nodup
  | .dClear _ ec cbs thrown => thrown = false → cb = true → (ec <:+ cbs ∧ cbs.Nodup)
  | _ => True

def AllWf (cb : Bool) (fs : List Frame) : Prop := ∀ f ∈ fs, wfF cb f

@[simp] theorem allWf_nil (cb) : AllWf cb [] := by intro f h; cases h
@[simp] theorem allWf_cons (cb f fs) : AllWf cb (f :: fs) ↔ wfF cb f ∧ AllWf cb fs := by
  simp [AllWf]

theorem selectable_count (h : selectable s k = true) : s.vec.count k ≤ 1 := by
  simp [selectable, refs] at h; omega

theorem wfF_gBody (cb) (len dc cnt : Nat) : wfF cb (gBody len dc cnt) := by
  unfold gBody; split <;> simp [wfF]

theorem wfF_gNext (cb) (len dc cnt es : Nat) : wfF cb (gNext len dc cnt es) := by
  unfold gNext; repeat' split
  all_goals (first | exact wfF_gBody _ _ _ _ | simp [wfF])

theorem AllWf.tail {cb : Bool} {f : Frame} {fs : List Frame} (h : AllWf cb (f :: fs)) : AllWf cb fs := ((allWf_cons ..).mp h).2
theorem AllWf.head {cb : Bool} {f : Frame} {fs : List Frame} (h : AllWf cb (f :: fs)) : wfF cb f := ((allWf_cons ..).mp h).1
theorem AllWf.cons {cb : Bool} {f : Frame} {fs : List Frame} (h : AllWf cb fs) (hf : wfF cb f) : AllWf cb (f :: fs) := (allWf_cons ..).mpr ⟨hf, h⟩
theorem AllWf.replace {cb : Bool} {f g : Frame} {fs : List Frame} (h : AllWf cb (f :: fs)) (hg : wfF cb g) : AllWf cb (g :: fs) := h.tail.cons hg

theorem wfF_clear_tail {cb sz k ec cbs th} (h : wfF cb (.dClear sz (k :: ec) cbs th)) : wfF cb (.dClear sz ec cbs th) :=
  fun h1 h2 => ⟨(List.suffix_cons _ _).trans (h h1 h2).1, (h h1 h2).2⟩

theorem allWf_sil {cb : Bool} (h : Sil t X c s') (hI : AllWf cb c.stk) :
    AllWf cb (s'.stk t) := by
  induction h with
  | stop => rw [setStk_stk_same]; exact hI
  | caught _ ih => exact ih hI.tail
  | ecLast => rw [setStk_stk_same]; exact (hI.replace (wfF_clear_tail hI.head)).cons trivial
  | ecNext _ _ ih => exact ih (hI.replace (wfF_clear_tail hI.head))
  | vecLast | doneRet | topEmpty | scanNone => rw [setStk_stk_same]; exact hI.cons trivial
  | scanSome hne =>
    rw [setStk_stk_same]
    exact hI.cons ⟨nodup_filter_of_count _ _ fun k hk => selectable_count ((Bool.and_eq_true _ _).mp hk).1, hne⟩
  | topCall => rw [setStk_stk_same]; exact (hI.cons (by trivial)).cons trivial
  | vecNext _ _ _ ih => exact ih hI
  | doneCall => rw [setStk_stk_same]; exact (hI.replace (by trivial)).cons trivial
  | doneVec _ ih => exact ih (hI.replace (by trivial))
  | _ => rw [setStk_stk_same]; exact hI.replace (by trivial)

theorem Step.allWf (h : Step s t fs e s') (hfs : s.stk t = fs)
    (hI : AllWf s.hasCb fs) : AllWf s.hasCb (s'.stk t) := by
  cases h with
  | user _ h =>
    cases h with
    | new | dup | drop => exact hfs ▸ hI
    | callDtor hfs' => subst hfs'; exact allWf_sil (xTop_sil ..) hI
    | _ => rw [setStk_stk_same]; exact hI.cons trivial
  | addRet | sizeRet | dRet | gRet | xRet => rw [setStk_stk_same]; exact hI.tail
  | dLock => exact allWf_sil (select_sil ..) hI.tail
  | dTimeout | dUnlock0 | dRelockTimeout | dUnlock2 => exact allWf_sil (dDone_sil ..) hI.tail
  | dUnlock1Cb => rw [setStk_stk_same]; exact hI.replace ⟨rfl, hI.head.1⟩
  | dUnlock1 _ hcb => exact allWf_sil (drain_sil ..) (hI.tail.cons fun _ h => absurd h hcb)
  | cbStart => rw [setStk_stk_same]; exact hI.replace hI.head
  | cbEndLast =>
    obtain ⟨rfl, h2⟩ := hI.head
    exact allWf_sil (drain_sil ..) (hI.tail.cons fun _ _ => ⟨List.suffix_refl _, h2⟩)
  | cbEnd => rw [setStk_stk_same]; exact hI.replace ⟨hI.head.1.trans (List.append_cons ..), hI.head.2⟩
  | cbThrow => exact allWf_sil (drain_sil ..) (hI.tail.cons fun h => nomatch h)
  | dtorEnd => exact allWf_sil (resume_sil ..) hI.tail
  | gLock | gRelockD => rw [setStk_stk_same]; exact hI.replace (wfF_gNext ..)
  | gRelockS => rw [setStk_stk_same]; exact hI.replace (wfF_gBody ..)
  | gUnlockD => rw [setStk_stk_same]; exact (hI.replace (by trivial)).cons trivial
  | xYield | xSleep => exact allWf_sil (xTop_sil ..) hI.tail
  | _ => rw [setStk_stk_same]; exact hI.replace (by trivial)

def Wf (s : St) : Prop := ∀ t, AllWf s.hasCb (s.stk t)

theorem wf_step (hI : Wf s) (h : step s t e = some s') : Wf s' := by
  intro u
  rw [step_hasCb h]
  by_cases hu : u = t
  · subst hu; exact (Step.of_step h).allWf rfl (hI u)
  · rw [step_stk_other h hu]; exact hI u

theorem wf_init (cb ns nt) : Wf (init cb ns nt) := by intro t; simp [init]

theorem wf_reachable {cb ns nt} {s : St} (h : Reachable cb ns nt s) : Wf s := by
  obtain ⟨es, hr⟩ := h
  exact runFrom_inv (Inv := Wf) (fun _ _ _ _ hi hs => wf_step hi hs) (wf_init cb ns nt) hr

/-! ## `Adj`: a `dying k` frame directly above a clearing destroyObjects frame (non-throwing call of a
container with a callback) is the object that frame released last, and its callback has run. -/

def adj (cb : Bool) : List Frame → Prop
  | .dying k :: .dClear sz ec cbs th :: rest =>
      (th = false → cb = true → (k :: ec) <:+ cbs) ∧ adj cb (.dClear sz ec cbs th :: rest)
  | _ :: rest => adj cb rest
  | [] => True

theorem adj_tail {cb : Bool} (h : adj cb (f :: rest)) : adj cb rest := by
  cases f <;> try exact h
  cases rest with
  | nil => trivial
  | cons g gs => cases g <;> first | exact h | exact h.2

theorem adj_cons {cb : Bool} (hf : ∀ k, f ≠ .dying k) (h : adj cb rest) :
    adj cb (f :: rest) := by
  cases f <;> first | exact h | exact absurd rfl (hf _)

theorem adj_dying {cb : Bool} (hr : ∀ sz ec cbs th gs, rest ≠ .dClear sz ec cbs th :: gs)
    (h : adj cb rest) : adj cb (.dying k :: rest) := by
  cases rest with
  | nil => trivial
  | cons g gs => cases g <;> first | exact h | exact absurd rfl (hr _ _ _ _ _)

theorem adj_gBody (cb) (len dc cnt : Nat) {rest} (h : adj cb rest) : adj cb (gBody len dc cnt :: rest) := by
  unfold gBody; split <;> exact adj_cons (by simp) h

theorem adj_gNext (cb) (len dc cnt es : Nat) {rest} (h : adj cb rest) : adj cb (gNext len dc cnt es :: rest) := by
  unfold gNext; repeat' split
  all_goals (first | exact adj_gBody _ _ _ _ h | exact adj_cons (by simp) h)

theorem adj_sil {cb : Bool} (h : Sil t X c s') (hW : AllWf cb c.stk) (hI : adj cb c.stk) :
    adj cb (s'.stk t) := by
  induction h with
  | stop => rw [setStk_stk_same]; exact hI
  | caught _ ih => exact ih hW.tail (adj_tail hI)
  | ecLast => rw [setStk_stk_same]; exact ⟨fun h1 h2 => (hW.head h1 h2).1, adj_cons (fun _ => nofun) (adj_tail hI)⟩
  | ecNext _ _ ih => exact ih (hW.replace (wfF_clear_tail hW.head)) (adj_cons (fun _ => nofun) (adj_tail hI))
  | vecLast => rw [setStk_stk_same]; exact adj_dying nofun hI
  | vecNext _ _ _ ih => exact ih hW hI
  | doneCall => rw [setStk_stk_same]; exact adj_cons (fun _ => nofun) (adj_cons (fun _ => nofun) (adj_tail hI))
  | doneVec _ ih => exact ih (hW.replace (by trivial)) (adj_cons (fun _ => nofun) (adj_tail hI))
  | doneRet | topEmpty | scanNone | scanSome => rw [setStk_stk_same]; exact adj_cons (fun _ => nofun) hI
  | topCall => rw [setStk_stk_same]; exact adj_cons (fun _ => nofun) (adj_cons (fun _ => nofun) hI)
  | _ => rw [setStk_stk_same]; exact adj_cons (fun _ => nofun) (adj_tail hI)

theorem Step.adj_stk (h : Step s t fs e s') (hfs : s.stk t = fs)
    (hW : AllWf s.hasCb fs) (hI : adj s.hasCb fs) : adj s.hasCb (s'.stk t) := by
  cases h with
  | user hu h =>
    cases h with
    | new | dup | drop => exact hfs ▸ hI
    | dropLast =>
      rw [setStk_stk_same]
      exact adj_dying (fun _ _ _ _ _ hh => by rw [hh] at hu; cases hu) hI
    | callDtor hfs' => subst hfs'; exact adj_sil (xTop_sil ..) hW trivial
    | _ => rw [setStk_stk_same]; exact adj_cons (fun _ => nofun) hI
  | addRet | sizeRet | dRet | gRet | xRet => rw [setStk_stk_same]; exact adj_tail hI
  | dLock => exact adj_sil (select_sil ..) hW.tail (adj_tail hI)
  | dTimeout | dUnlock0 | dRelockTimeout | dUnlock2 => exact adj_sil (dDone_sil ..) hW.tail (adj_tail hI)
  | dUnlock1 _ hcb =>
    exact adj_sil (drain_sil ..) (hW.tail.cons fun _ h => absurd h hcb) (adj_cons (fun _ => nofun) (adj_tail hI))
  | cbEndLast =>
    obtain ⟨rfl, h2⟩ := hW.head
    exact adj_sil (drain_sil ..) (hW.tail.cons fun _ _ => ⟨List.suffix_refl _, h2⟩)
      (adj_cons (fun _ => nofun) (adj_tail hI))
  | cbThrow => exact adj_sil (drain_sil ..) (hW.tail.cons fun h => nomatch h) (adj_cons (fun _ => nofun) (adj_tail hI))
  | dtorEnd => exact adj_sil (resume_sil ..) hW.tail (adj_tail hI)
  | gLock | gRelockD => rw [setStk_stk_same]; exact adj_gNext _ _ _ _ _ (adj_tail hI)
  | gRelockS => rw [setStk_stk_same]; exact adj_gBody _ _ _ _ (adj_tail hI)
  | gUnlockD => rw [setStk_stk_same]; exact adj_cons (fun _ => nofun) (adj_cons (fun _ => nofun) (adj_tail hI))
  | xYield | xSleep => exact adj_sil (xTop_sil ..) hW.tail (adj_tail hI)
  | _ => rw [setStk_stk_same]; exact adj_cons (fun _ => nofun) (adj_tail hI)

def Adj (s : St) : Prop := ∀ t, adj s.hasCb (s.stk t)

theorem adjI_step (hI : Adj s) (hW : Wf s) (h : step s t e = some s') : Adj s' := by
  intro u
  rw [step_hasCb h]
  by_cases hu : u = t
  · subst hu; exact (Step.of_step h).adj_stk rfl (hW u) (hI u)
  · rw [step_stk_other h hu]; exact hI u

theorem adjI_init (cb ns nt) : Adj (init cb ns nt) := by intro t; simp [init, adj]

end ConcVerif.DD
