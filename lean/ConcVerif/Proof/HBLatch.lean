import ConcVerif.Proof.Latch
import ConcVerif.Proof.HBPub
/-! Connection of the Latch model to the happens-before layer: `counter_` is only ever modified by
seq_cst read-modify-writes, so every decrement heads a release sequence that is never broken, and
every later seq_cst load of the counter (the unlocked fast path of `wait` included) synchronises
with it. -/
namespace ConcVerif.Latch

variable {start : Int} {es : List (Tid × Ev)} {s s' : St} {t u : Tid} {e : Ev}

/-- happens-before content of a Latch-model event (mutex = mutex 0, `counter_` = atomic 0; the model
only accepts seq_cst accesses of the counter: `Driver/Latch.lean` parses no other order) -/
def toHB : Ev → HB.Ev
  | .mlk => .acq 0 .X
  | .cwk _ => .acq 0 .X
  | .mul => .rel 0 .X
  | .cwt => .rel 0 .X
  | .dec _ => .rmw 0 .sc
  | .ld _ => .ld 0 .sc
  | _ => .nop

def hbTrace (es : List (Tid × Ev)) : HB.Trace := es.map (fun p => (p.1, toHB p.2))

theorem hbTrace_get {i : Nat} (h : es[i]? = some (t, e)) :
    (hbTrace es)[i]? = some (t, toHB e) := by
  rw [hbTrace, List.getElem?_map, h]; rfl

theorem hbTrace_no_store (es : List (Tid × Ev)) (k : Nat) (v : Tid) (a : HB.Loc) (o : HB.Ord) :
    (hbTrace es)[k]? ≠ some (v, .st a o) := by
  intro h
  rw [hbTrace, List.getElem?_map] at h
  obtain ⟨⟨t, e⟩, _, he⟩ := Option.map_eq_some_iff.1 h
  cases e <;> cases he

theorem dec_hb_ld (es : List (Tid × Ev)) {i j : Nat} {t u : Tid} {old v : Int} (hij : i < j)
    (hi : es[i]? = some (t, .dec old)) (hj : es[j]? = some (u, .ld v)) : HB.HB (hbTrace es) i j :=
  .sw (.atomic hij (hbTrace_get hi) (hbTrace_get hj) ⟨.sc, rfl, .inr rfl⟩ ⟨.sc, rfl, .inl rfl⟩
    (fun k v o _ _ => hbTrace_no_store es k v 0 o))

/-! ### a returning waiter has seen the arrivals -/

def isDec : Ev → Bool
  | .dec _ => true
  | _ => false

def decs (es : List (Tid × Ev)) : Nat := es.countP (fun p => isDec p.2)

theorem step_counts {s s' : St} {t : Tid} {e : Ev} (hs : step s t e = some s') :
    s'.start = s.start ∧ s'.arrived = s.arrived + (if isDec e then 1 else 0) := by
  cases Step.of_step hs <;> exact ⟨rfl, rfl⟩

theorem run_counts (h : run start es = some s) : s.arrived = decs es := by
  refine runFrom_trace_inv (P := fun es s => s.arrived = decs es) rfl ?_ h
  intro es s t e s' _ ih hs
  rw [(step_counts hs).2, ih, decs, decs, List.countP_append, List.countP_singleton]

/-- the part of `wait` that is entered only by a load that found the latch open -/
def Pc.sawOpen : Pc → Bool
  | .wUnlock _ | .wRet _ => true
  | _ => false

theorem Step.into_open (h : Step s t e s') (ho : (s'.pc t).sawOpen = true) :
    (s.pc t).sawOpen = true ∨ (e = .ld s.counter ∧ s.counter ≤ 0) := by
  cases h with
  | fastOpen _ hc | loopOpen _ hc => exact .inr ⟨rfl, hc⟩
  | wUnlock hp => exact .inl (hp ▸ rfl)
  | _ => rw [setPc_pc, upd_same] at ho; cases ho

/-- thread `u` has performed a load of the counter that returned `v ≤ 0`, at a moment when exactly
`start - v ≥ start` arrivals had decremented it -/
def Seen (start : Int) (es : List (Tid × Ev)) (u : Tid) : Prop :=
  ∃ l v, es[l]? = some (u, Ev.ld v) ∧ v ≤ 0 ∧ v = start - (decs (es.take l) : Int)

theorem Seen.mono (ext : List (Tid × Ev)) (h : Seen start es u) :
    Seen start (es ++ ext) u := by
  obtain ⟨l, v, h1, h2, h3⟩ := h
  have hl : l < es.length := (List.getElem?_eq_some_iff.mp h1).1
  refine ⟨l, v, by rw [List.getElem?_append_left hl]; exact h1, h2, ?_⟩
  rw [List.take_append_of_le_length (Nat.le_of_lt hl)]; exact h3

theorem seen_run (h : run start es = some s) :
    ∀ u, (s.pc u).sawOpen = true → Seen start es u := by
  refine runFrom_trace_inv (P := fun es s => ∀ u, (s.pc u).sawOpen = true → Seen start es u)
    (fun _ hu => Bool.noConfusion hu) ?_ h
  intro es s t e s' hr ih hs u hu
  have hs := Step.of_step hs
  by_cases hut : u = t
  · subst hut
    rcases hs.into_open hu with hold | ⟨rfl, hv⟩
    · exact (ih u hold).mono _
    · -- the load itself is the witness: it returns `start` minus the decrements made so far
      refine ⟨es.length, _, by simp, hv, ?_⟩
      rw [List.take_left' rfl, (inv_reachable ⟨es, hr⟩).cnt, run_start hr, run_counts hr]
  · exact (ih u (hs.pc_other hut ▸ hu)).mono _

theorem step_ret {k : Kind} (hs : step s t (.ret k) = some s') :
    k = .arrive ∨ (s.pc t).sawOpen = true := by
  cases Step.of_step hs with
  | aRet => exact .inl rfl
  | wRet hp => exact .inr (hp ▸ rfl)

theorem hbTrace_append (es ext : List (Tid × Ev)) : hbTrace (es ++ ext) = hbTrace es ++ hbTrace ext :=
  List.map_append

/-- **C07 for Latch (model level).**  In every trace accepted by the Latch model, when `wait` /
`arrive_and_wait` returns (position `r`), the returning thread has loaded the counter at some `l < r`
and found it `≤ 0`, at least `start` decrements precede that load, and EVERY decrement before the load
happens-before the return: the release sequence of the seq_cst RMWs on `counter_` reaches the load,
also on the lock-free fast path. -/
theorem latch_wait_hb (h : run start es = some s) {r : Nat}
    {k : Kind} (hr : es[r]? = some (u, .ret k)) (hk : k ≠ .arrive) :
    ∃ l v, l < r ∧ es[l]? = some (u, .ld v) ∧ v ≤ 0 ∧ (start - v : Int) = decs (es.take l) ∧
      ∀ i t old, i < l → es[i]? = some (t, .dec old) → HB.HB (hbTrace es) i r := by
  obtain ⟨s1, s2, h1, h2⟩ := runFrom_at h hr
  obtain ⟨l, v, hl, hv, hc⟩ := seen_run h1 u ((step_ret h2).resolve_left hk)
  have hlr : l < r := Nat.lt_of_lt_of_le (List.getElem?_eq_some_iff.1 hl).1 (List.length_take_le ..)
  rw [List.getElem?_take_of_lt hlr] at hl
  rw [List.take_take, Nat.min_eq_left (Nat.le_of_lt hlr)] at hc
  exact ⟨l, v, hlr, hl, hv, by rw [hc]; exact Int.sub_sub_self ..,
    fun i t old hil hi => .trans (dec_hb_ld es hil hi hl) (.po hlr (hbTrace_get hl) (hbTrace_get hr))⟩

end ConcVerif.Latch
