import ConcVerif.Proof.HB
/-! `KnA`: thread `t` knows position `i` through an anchor of `t` (an event of `t`, or the creation of `t`); `Kn` of
Proof/HBKn.lean is the same through an event of `t` only. -/
namespace ConcVerif.HB

def KnA (tr : Trace) (t : Tid) (i : Nat) : Prop := ∃ j, Anch tr t j ∧ HBeq tr i j

theorem KnA.mono {tr : Trace} {t : Tid} {i : Nat} (ext : Trace) (h : KnA tr t i) : KnA (tr ++ ext) t i := by
  obtain ⟨j, h1, h2⟩ := h
  exact ⟨j, h1.mono ext, h2.mono ext⟩

/-- what `t` knows is ordered before its next event -/
theorem KnA.to_last {tr : Trace} {t : Tid} {i : Nat} (e : Ev) (h : KnA tr t i) : HB (tr ++ [(t, e)]) i tr.length := by
  obtain ⟨j, h1, h2⟩ := h
  exact (h2.mono _).trans_hb h1.hb_last

theorem KnA.of_last {tr : Trace} {t : Tid} {e : Ev} {i : Nat} (h : HBeq (tr ++ [(t, e)]) i tr.length) :
    KnA (tr ++ [(t, e)]) t i :=
  ⟨tr.length, ⟨t, e, lq_last tr _, .inl rfl⟩, h⟩

theorem KnA.of_last_fork {tr : Trace} {t u : Tid} {i : Nat} (h : HBeq (tr ++ [(u, .fork t)]) i tr.length) :
    KnA (tr ++ [(u, .fork t)]) t i :=
  ⟨tr.length, ⟨u, .fork t, lq_last tr _, .inr rfl⟩, h⟩

end ConcVerif.HB
