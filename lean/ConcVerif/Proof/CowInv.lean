import ConcVerif.Proof.CowStep
/-! `Inv` is preserved by every step of the cow model: the edges of `Step`, grouped by the frame lemma they need. -/
namespace ConcVerif.Cow
open ConcVerif.LR (lk LK Side)

/-- side conditions of `inv_move` that only compare two concrete pcs -/
macro "cow_side" h:ident : tactic => `(tactic| simp [$h:ident, Pc.holds, Pc.own, Pc.carry, Pc.pend, Pc.cls])

variable {s s' : St} {t : Tid}

theorem wr_none (hi : Inv s) {p : Pc} (hp : s.pc t = p) (hA : ∀ op, p.cls ≠ .wA op) (hB : ∀ op, p.cls ≠ .wB op) :
    (s.lr.pc t).writing = none := by
  have hk := hi.l.link t
  rw [hp] at hk
  exact writing_none (hk ▸ hA) (hk ▸ hB) (hk ▸ cls_ne_other p)

/-- thread `t` moves from `p` to `p'` with delegated left-right steps that leave the values and `committed` alone; the
move changes none of the attributes of the pc the invariants track (except that the copy may cease to be carried).
The defaults are the facts about the two concrete pcs that hold by computation: same `holds` / `own` / `carry` / `pend`,
`p'` is no `dr`, `lkH (some _)` or `relU`, and (`hwr`) `p` is linked to a class outside `modify`'s write windows. -/
theorem inv_lr {p p' : Pc} {l : LR.St} (hi : Inv s) (hp : s.pc t = p) (hd : LR.Deleg s.lr l t) (hsm : LR.Same s.lr l)
    (hl : lk (l.pc t) = p'.cls)
    (hwr : (s.lr.pc t).writing = none ∨ (l.pc t).writing = (s.lr.pc t).writing := by exact .inl (wr_none hi hp nofun nofun))
    (hattr : p'.holds = p.holds ∧ p'.own = p.own ∧ (p'.carry = p.carry ∨ p'.carry = none) ∧ p'.pend = p.pend := by
      exact ⟨rfl, rfl, .inl rfl, rfl⟩)
    (hdr : ∀ v n, p' ≠ .dr v n := by nofun) (hsrc : ∀ v, p' = .lkH (some v) → v = cur s.lr.committed := by nofun)
    (hU : ∀ v, p' ≠ .relU v := by nofun) : Inv ((withLr s l).setPc t p') := by
  subst hp
  exact inv_move hi hd hsm (fun _ _ h => .inl h) hl hattr.1 hwr (.inl hattr.2.1)
    (fun v n h => absurd h (hdr v n)) hattr.2.2.1 hattr.2.2.2 hsrc (fun v h => absurd h (hU v))

theorem inv_pc {p p' : Pc} (hi : Inv s) (hp : s.pc t = p) (hcls : p'.cls = p.cls)
    (hattr : p'.holds = p.holds ∧ p'.own = p.own ∧ (p'.carry = p.carry ∨ p'.carry = none) ∧ p'.pend = p.pend := by
      exact ⟨rfl, rfl, .inl rfl, rfl⟩)
    (hdr : ∀ v n, p' ≠ .dr v n := by nofun) (hsrc : ∀ v, p' ≠ .lkH (some v) := by nofun) (hU : ∀ v, p' ≠ .relU v := by nofun) :
    Inv (s.setPc t p') :=
  inv_lr (l := s.lr) hi hp (.refl _ _) (.refl _) (by rw [hcls, ← hp]; exact hi.l.link t) (.inr rfl) hattr hdr
    (fun v h => absurd h (hsrc v)) hU

/-- `inv_unlock` for an edge that only releases the writer mutex and moves the pc (cancel, unwinding of a throwing `lock()`) -/
theorem inv_unlock_pc {p p' : Pc} (hi : Inv s) (hp : s.pc t = p) (hw0 : s.wm = some t) (hcls : p'.cls = p.cls)
    (hholds : p'.holds = false) (hown : p'.own = p.own) (hc : p'.carry = none) (hpd : p.pend = none)
    (hdr : ∀ v n, p' ≠ .dr v n := by nofun) (hsrc : ∀ v, p' ≠ .lkH (some v) := by nofun) (hU : ∀ v, p' ≠ .relU v := by nofun) :
    Inv (({ s with wm := none } : St).setPc t p') := by
  subst hp
  exact inv_unlock hi rfl rfl hw0 rfl rfl rfl rfl rfl rfl rfl hcls hholds (.inl hown) hdr hc hpd hsrc hU

theorem own_not_pub (hi : Inv s) {u : Tid} {w v : Ver} (hw : (s.pc u).own = some w) (hv : s.pub v) : w ≠ v :=
  fun e => (hi.h.ownOk u w hw).2.2 (e ▸ hv)

/-- an assignment window is opened by the thread publishing (`stPtr`): pc unchanged -/
theorem inv_open {p : Pc} {x : Side} {l : LR.St} (hi : Inv s) (hp : s.pc t = p)
    (hl : LR.step s.lr t (.fBegin x) = some l) : Inv (({ s with lr := l, det := some x } : St).setPc t p) := by
  subst hp
  obtain ⟨hw', hk', hpost, hw0, hsm⟩ := LR.step_fBegin hl
  have hd := LR.Deleg.of_step hl
  have hdn : s.det = none := det_none hi.l hpost hw0
  refine ⟨?_, ?_, ?_⟩
  · refine linv_frame hi.l hd rfl (by simp only [setPc_lr]; rw [hk']; exact hi.l.link t) (wm_same hi.l rfl rfl) ?_
    intro y hy
    simp only [setPc_det] at hy
    injection hy with hy
    subst hy
    exact ⟨t, hw'⟩
  · exact hinv_frame hi.h rfl hsm.valL hsm.valR (fun y _ => by rw [hdn]; simp) rfl rfl (fun _ _ h => Or.inl h)
      (Or.inl rfl) (fun v n h => hi.h.drPub t v n h)
  · exact chinv_frame hi.c rfl (fun v hv => (pub_congr hsm.valL hsm.valR v).mpr hv) hsm.committed rfl rfl rfl (Or.inl rfl) rfl
      (fun v h => hi.c.src t v h) (fun v h => h)

/-- the window on `x` is closed (`stCtl`) by the thread at `p`, which holds the writer mutex: side `x` now points to
`v`, the thread is at `relB v f` -/
theorem inv_close {p : Pc} {x : Side} {v : Ver} {f : Bool} {l : LR.St} (hi : Inv s) (hp : s.pc t = p)
    (hk : p.cls = .wA v ∨ p.cls = .wB v) (hdx : s.det = some x) (hl : LR.step s.lr t (.fEnd x (s.lr.val x ++ [v])) = some l)
    (hholds : p.holds = true) (hva : v ∈ s.alloc) (hvd : v ∉ s.dead) (hvo : ∀ u w, u ≠ t → (s.pc u).own = some w → w ≠ v)
    (hcarry : (Pc.relB v f).carry = p.carry) (hpend : (Pc.relB v f).pend = p.pend) :
    Inv (({ s with lr := l, det := none } : St).setPc t (.relB v f)) := by
  subst hp
  obtain ⟨_, hw', hvx, hvy, hcm, _, h7⟩ := LR.step_fEnd hl
  have hlk : lk (l.pc t) = .wB v := by
    rw [hi.l.link t] at h7
    rcases h7 with ⟨op, h1, h2⟩ | ⟨op, h1, h2⟩ <;> rcases hk with hk | hk <;> rw [hk] at h1 <;> cases h1 <;> exact h2
  have hd := LR.Deleg.of_step hl
  have hpub : ∀ w, s.pub w → ({ s with lr := l, det := none } : St).pub w :=
    fun w hw => (pub_after_install (s := s) (s' := { s with lr := l, det := none }) hvx hvy w).mpr (Or.inl hw)
  refine ⟨?_, ?_, ?_⟩
  · refine linv_frame hi.l hd rfl (by simp only [setPc_lr]; exact hlk) (wm_same hi.l (by rw [hholds]; rfl) rfl) ?_
    intro y hy; simp at hy
  · exact hinv_install hi.h hvx hvy hdx hva hvd rfl hvo nofun
  · exact chinv_frame hi.c rfl hpub hcm rfl rfl rfl (Or.inl hcarry) hpend (by intro w h; cases h) (by intro w h; cases h)

theorem relB_facts (hi : Inv s) {v : Ver} {f : Bool} (hp : s.pc t = .relB v f) :
    s.pub v ∧ v ∈ s.alloc ∧ v ∉ s.dead := by
  obtain ⟨y, hy, hdy⟩ := relB_side hi.l hp
  have hpub : s.pub v := hy ▸ sv_pub s y
  exact ⟨hpub, hi.h.pubAlloc v hpub, hy ▸ hi.h.sidesOk y hdy⟩

theorem inv_step {s s' : St} {t : Tid} {e : Ev} (hi : Inv s) (hs : step s t e = some s') : Inv s' := by
  have h := Step.of_step hs
  have hd := h.lrFrame.star.deleg
  have hk := hi.l.link t
  cases h with
  -- nine edges leave the state as it is
  | idle_prd hp | idle_callCancelNull hp | idle_retCancelNull hp | idle_fin hp | wHold_prd hp | wHold_callMove hp
  | wHold_retMove hp | relA_ldCtl hp | relB_ldCtl hp => rw [setPc_self hp]; exact hi
  | wHold_pwr hp =>
    exact inv_move hi hd (.refl _) (fun _ _ h => .inl h) (hp ▸ hk) (hp ▸ rfl) (.inr rfl)
      (.inl (hp ▸ rfl)) nofun (.inl (hp ▸ rfl)) (hp ▸ rfl) nofun nofun
  | idle_callLock hp | rdD_ret hp | dr_ret hp | lkH_uth hp | lkD_ret hp | lkExc_exc hp | relU_ret hp | cn_ret hp =>
    exact inv_pc hi hp rfl
  | wHold_callCancel hp => exact inv_pc hi hp rfl ⟨rfl, rfl, .inr rfl, rfl⟩
  -- delegated left-right steps of a reader / of the read phase of `lock()`
  | idle_callShared hp hl =>
    exact inv_lr hi hp hd (LR.same_of_quiet rfl hl) (LR.step_call_ls hl).2.1
  | rdA_ldCL hp hl | lkA_ldCL hp hl =>
    rw [hp] at hk
    exact inv_lr hi hp hd (LR.same_of_quiet rfl hl) (by rw [(LR.step_pre_ldCL_exact hk hl).2]; rfl)
  | rdA_inc hp hl | lkA_inc hp hl =>
    rw [hp] at hk
    exact inv_lr hi hp hd (LR.same_of_quiet rfl hl) (by rw [(LR.step_pre_inc_exact hk hl).2]; rfl)
  | rdA_ldRL hp hl | lkA_ldRL hp hl =>
    rw [hp] at hk
    obtain ⟨c, _, hc⟩ := LR.lrGot_exact hk hl
    exact inv_lr hi hp hd (lrGot_same hl) (by rw [hc]; rfl)
  | rdH_ldCtl hp hl =>
    obtain ⟨c, _, hc, _⟩ := LR.step_rd hl
    exact inv_lr hi hp hd (lrRd_same hl) (by rw [hc]; rfl)
  | lkH_ldPtr hp hv hl =>
    -- the holder of the writer mutex is not publishing: both sides hold `committed`
    rw [hp] at hk
    obtain ⟨c, _, hc, _⟩ := LR.step_rd hl
    have hq := quiet_of_holder hi.l ((hi.l.wmh t).mp (by rw [hp]; rfl)) (LR.lk_hold_not_post hk)
    refine inv_lr hi hp hd (lrRd_same hl) (by rw [hc]; rfl) (hsrc := ?_)
    intro w hw
    cases hw
    rw [hv, St.sv, val_committed hi.l hq]
  | rdP_dec hp hl | lkC_dec hp hl | lkT_dec hp hl =>
    rw [hp] at hk
    exact inv_lr hi hp hd (lrRel_same hl) (by rw [LR.lrRel_idle hl]; rfl)
  | idle_callDrop hp hm =>
    rw [hp] at hk
    exact inv_move hi hd (.refl _) (fun u w hw => .inl (List.mem_of_mem_erase hw)) hk
      (hp ▸ rfl) (.inr rfl) (.inr rfl) (fun _ _ h => by cases h; exact (hi.h.snapsOk t _ hm).1) (.inr rfl) (hp ▸ rfl)
      nofun nofun
  | rdH_ldPtr hp hv hl =>
    obtain ⟨c, hc, hc', _⟩ := LR.step_rd hl
    refine inv_move hi hd (lrRd_same hl) ?_ (by rw [hc']; rfl)
      (hp ▸ rfl) (.inl (wr_none hi hp nofun nofun)) (.inr rfl) nofun (.inr rfl) (hp ▸ rfl) nofun nofun
    intro u w hm
    rcases List.mem_cons.mp hm with h1 | h1
    · cases h1; exact .inr (hv ▸ ⟨sv_pub s _, hi.h.sidesOk _ (held_not_det hi.l hc)⟩)
    · exact .inl h1
  | dr_pdt hp _ hnd hrf =>
    have hpubv := hi.h.drPub t _ _ hp
    exact inv_kill hi (hp ▸ rfl) (hp ▸ rfl) (hi.h.pubAlloc _ hpubv) (refd_false hrf).2
      (refd_false hrf).1 rfl (fun _ _ _ hw => own_not_pub hi hw hpubv) (fun _ _ h => by cases h; exact hpubv) (.inr rfl)
      (hp ▸ rfl) nofun nofun
  | relB_pdt hp hwin hnd hrf =>
    have hpubo := winRef_pub hwin
    exact inv_kill hi (hp ▸ rfl) (hp ▸ rfl) (hi.h.pubAlloc _ hpubo) (refd_false hrf).2
      (refd_false hrf).1 rfl (fun _ _ _ hw => own_not_pub hi hw hpubo) nofun (.inl (hp ▸ rfl)) (hp ▸ rfl) nofun nofun
  | @cn_pdt v u hp =>
    have hown : (s.pc t).own = some v := by rw [hp]; rfl
    obtain ⟨a1, _, a3⟩ := hi.h.ownOk t v hown
    exact inv_kill hi (hp ▸ rfl) (by rw [hp]; cases u <;> rfl) a1
      (fun w hw => a3 (hi.h.snapsOk w _ hw).1) (fun x _ hx => a3 (hx ▸ sv_pub s x)) rfl
      (fun w z hwt hw e => hi.h.ownUniq w t v hwt (e ▸ hw) hown) nofun (.inr rfl) (hp ▸ rfl) nofun nofun
  | lkCalled_olock hp hw0 hl =>
    exact inv_lock hi hd (LR.same_of_quiet rfl hl) (hpc := rfl) (hw0 := hw0) (hw := rfl) (hdet := rfl) (ha := rfl)
      (hdd := rfl) (hpar := rfl) (hsn := rfl) (hrel := rfl) (hl := (LR.step_call_ls hl).2.1) (hholds := rfl)
      (hwr := wr_none hi hp nofun nofun) (hown := rfl) (hdr := nofun) (hc := rfl) (hpd := rfl) (hsrc := nofun) (hU := nofun)
  | lkTD_ounlock hp hw0 =>
    exact inv_unlock_pc hi hp hw0 rfl rfl rfl rfl rfl
  | @cn_ounlock v d hp hw0 =>
    exact inv_unlock_pc hi hp hw0 rfl rfl (by cases d <;> rfl) rfl rfl
  | relC_ounlock hp hw0 hl =>
    rw [hp] at hk
    have hsm := LR.same_of_quiet rfl hl
    refine ⟨?_, ?_, ?_⟩
    · refine linv_frame hi.l hd rfl (by rw [setPc_lr, LR.step_wR_ret hk hl]; rfl) (wm_unlock hi.l rfl hw0)
        (det_same (t := t) hi.l hd rfl ?_)
      intro x hx
      rw [wr_none hi hp nofun nofun] at hx; cases hx
    · exact hinv_frame hi.h rfl hsm.valL hsm.valR (fun x hx => hx) rfl rfl (fun _ _ h => Or.inl h) (Or.inr rfl) nofun
    · exact chinv_unlock_rel hi.c hsm hw0 (by rw [hp]; rfl)
  | lkH_pcp hp hn =>
    refine ⟨?_, ?_, ?_⟩
    · rw [hp] at hk
      exact linv_frame hi.l (.refl _ _) rfl hk (wm_same hi.l (by rw [hp]; rfl) rfl)
        (det_same (t := t) hi.l (.refl _ _) rfl (fun x hx => hx))
    · exact hinv_pcp hi.h hn (by rw [hp]; rfl)
    · exact chinv_pcp hi.c hi.l hi.h hp hn
  | wHold_callRelease hp hl =>
    exact inv_lr hi hp hd (LR.same_of_quiet rfl hl) (LR.step_call_modify hl).2
  | relA_lock hp hl =>
    rw [hp] at hk
    obtain ⟨hk', _, _, hsm, hw0⟩ := LR.step_wA_lock hk hl
    exact inv_lr hi hp hd hsm hk' (.inl hw0)
  | relA_neutral hp hn hl =>
    rw [hp] at hk
    cases LR.step_wA_neutral hk hn hl
    exact inv_pc hi hp rfl
  | relB_neutral hp hn hl =>
    rw [hp] at hk
    obtain ⟨hk', hw'⟩ := LR.step_wB_neutral hk hn hl
    exact inv_lr hi hp hd (LR.same_of_quiet (neutral_quiet hn) hl) hk' (.inr hw')
  | relB_unlock hp hl =>
    rw [hp] at hk
    obtain ⟨hk', _, _, hsm, hw0⟩ := LR.step_wB_unlock hk hl
    exact inv_lr hi hp hd hsm hk' (.inl hw0)
  | relA_stPtr hp hl | relB_stPtr hp hl => exact inv_open hi hp hl
  | relA_stCtl hp hdx _ hl =>
    obtain ⟨a1, a2, _⟩ := hi.h.ownOk t _ (by rw [hp]; rfl)
    exact inv_close hi hp (.inl rfl) hdx hl rfl a1 a2
      (fun u w hut hw e => hi.h.ownUniq u t _ hut (e ▸ hw) (by rw [hp]; rfl)) rfl rfl
  | relB_stCtl hp hdx _ hl =>
    obtain ⟨hpubv, hva, hvd⟩ := relB_facts hi hp
    exact inv_close hi hp (.inr rfl) hdx hl rfl hva hvd (fun u w _ hw => own_not_pub hi hw hpubv) rfl rfl
  | relB_stRL hp hl =>
    -- the flip commits the version carried
    rw [hp] at hk
    obtain ⟨hk', hcm, hL, hR, _, hw'⟩ := LR.step_wB_stRL hk hl
    refine ⟨?_, ?_, ?_⟩
    · refine linv_frame hi.l hd rfl (by rw [setPc_lr]; exact hk') (wm_same hi.l (by rw [hp]; rfl) rfl)
        (det_same (t := t) hi.l hd rfl ?_)
      intro x hx
      rcases LR.step_committed hl with h1 | ⟨op, l0, h1, _⟩
      · rw [hcm] at h1; simp at h1
      · rw [h1] at hx; cases hx
    · exact hinv_frame hi.h rfl hL hR (fun x hx => hx) rfl rfl (fun _ _ h => Or.inl h) (Or.inr rfl) nofun
    · exact chinv_commit hi.c hi.l hp hL hR hcm (relB_facts hi hp).1

theorem inv_run {es : List (Tid × Ev)} (hi : Inv s) (hr : run s es = some s') : Inv s' :=
  runFrom_inv (fun _ _ _ _ h hst => inv_step h hst) hi hr

theorem inv_reachable (h : Reachable s) : Inv s := by
  obtain ⟨b, es, hes⟩ := h
  exact inv_run (inv_init b) hes

theorem reachable_step {e : Ev} (h : Reachable s) (hs : step s t e = some s') : Reachable s' := by
  obtain ⟨b, es, hes⟩ := h
  exact ⟨b, es ++ [(t, e)], runFrom_snoc_eq_some.mpr ⟨s, hes, hs⟩⟩

end ConcVerif.Cow
