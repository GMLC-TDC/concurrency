import ConcVerif.Proof.DDProg
import ConcVerif.Base.Live
/-! Ranking for `DelayedDestructor` (shared-potential form of `Base/Live.lean`).

Environment events (`isEnv`) are the decisions of user code: the life-cycle markers `new` / `dup` / `drop` and the
calls (`callAdd`, `callSize`, `callDestroy`, `callDestroyD`, `callDtor`) — at script level, inside a callback or
inside a payload destructor.  Everything else is a step of the library and lowers the potential
`5·|vec| + Σ_t srank (stk t)`: lock and unlock events, `try_lock_for` outcomes (time-outs end the call), the
start and the end of a callback, the start and the end of a payload destructor, sleeps, yields and returns.
Each element of `ElementsToBeDestroyed` carries 5 units (selection, callback start and end, destructor start
and end); the retry loops of `destroyObjects(delay)` (`delayCount − cnt` rounds) and of the container's
destructor (`ii ≤ 5`) carry the cost of their remaining rounds, each including one inner `destroyObjects()`.

Where the constants of `Frame.rank` come from.  The first frame of a `destroyObjects()` has rank 7 (`dCalled`; the call
goes 7, 6 + …, and ends on `dRet` = 1).  One round of `destroyObjects(delay)` is at most: unlock, sleep, `try_lock_for`
(`gUnlockS` 14, `gSleep` 13, `gRelockS` 12, one apart), unlock (`gUnlockD` 11), the inner call (7 on top of `gInner` 3 = 10),
`try_lock_for` (`gRelockD` 3), and the next round starts 12 lower: 12 units per remaining round `dc − cnt` (`dc + 1 − cnt`
from `gUnlockD` on, because `cnt` is already incremented there); `gCalled` adds 16 so that its first `try_lock_for` lands
above the first `gUnlockS`.  One round of `~DelayedDestructor` is the inner call (7) and one yield / sleep: 8 units per
remaining round, `6 − ii` of them while the inner call runs (`xInner`; `ii ≤ 5` because `ii > 4` leaves the loop), `5 − ii`
after it; the `+ 10` of `xInner` pays the extra `destroyObjects()` after the `break` (7) above `xInnerLast` (3). -/
namespace ConcVerif.DD

variable {s s' X : St} {t : Tid} {fs : List Frame} {e : Ev} {c : Cfg}

def isEnv : Ev → Bool
  | .new _ | .dup _ | .drop _ | .callAdd _ _ | .callSize | .callDestroy | .callDestroyD _ | .callDtor => true
  | _ => false

def Frame.rank : Frame → Nat
  | .addCalled _ _ => 8
  | .addLocked _ => 2
  | .addRet _ => 1
  | .sizeCalled => 3
  | .sizeLocked => 2
  | .sizeRet _ => 1
  | .dCalled => 7
  | .dUnlock0 => 2
  | .dUnlock1 _ ec => 5 * ec.length + 6
  | .dCb _ ec _ todo => 3 * ec.length + 2 * todo.length + 5
  | .dInCb _ ec _ _ todo => 3 * ec.length + 2 * todo.length + 6
  | .dClear _ ec _ _ => 3 * ec.length + 5
  | .dRelock _ => 4
  | .dUnlock2 => 2
  | .dRet _ => 1
  | .dying _ => 2
  | .inDt _ => 1
  | .gCalled dc => dc * 12 + 16
  | .gUnlockS dc cnt _ => (dc - cnt) * 12 + 14
  | .gSleep dc cnt _ => (dc - cnt) * 12 + 13
  | .gRelockS dc cnt _ => (dc - cnt) * 12 + 12
  | .gUnlockD dc cnt _ => (dc + 1 - cnt) * 12 + 11
  | .gInner dc cnt _ => (dc + 1 - cnt) * 12 + 3
  | .gRelockD dc cnt _ => (dc + 1 - cnt) * 12 + 3
  | .gUnlockE => 2
  | .gRet _ => 1
  | .xInner ii => (6 - ii) * 8 + 10
  | .xYield ii => (5 - ii) * 8 + 18
  | .xSleep ii => (5 - ii) * 8 + 18
  | .xInnerLast => 3
  | .xVec => 2
  | .xRet => 1

def srank : List Frame → Nat
  | [] => 0
  | f :: fs => f.rank + srank fs

@[simp] theorem srank_nil : srank [] = 0 := rfl
@[simp] theorem srank_cons (f : Frame) (fs : List Frame) : srank (f :: fs) = f.rank + srank fs := rfl

def G (s : St) : Nat := 5 * s.vec.length
def μ (s : St) (t : Tid) : Nat := srank (s.stk t)
/-- the potential as seen from thread `t` -/
def pot (s : St) (t : Tid) : Nat := 5 * s.vec.length + srank (s.stk t)

theorem pot_setStk (s : St) (t : Tid) (fs : List Frame) : pot (s.setStk t fs) t = 5 * s.vec.length + srank fs := by
  simp [pot]

theorem filter_split_length (p : ObjId → Bool) (L l : List ObjId) (hl : ∀ k ∈ l, k ∈ L) :
    (l.filter p).length + (l.filter (fun k => !(L.filter p).contains k)).length ≤ l.length := by
  induction l with
  | nil => simp
  | cons k l ih =>
    have hk : k ∈ L := hl k (by simp)
    have ih' := ih (fun j hj => hl j (List.mem_cons_of_mem _ hj))
    by_cases hp : p k = true
    · have hc : (L.filter p).contains k = true := by simp [hk, hp]
      simp only [List.filter_cons, hp, hc, if_true, List.length_cons, Bool.not_true]
      simp at ih' ⊢; omega
    · have hc : (L.filter p).contains k = false := by simp [hp]
      simp only [List.filter_cons, hp, hc, List.length_cons, Bool.not_false]
      simp at ih' ⊢; omega

/-- what a configuration still has to pay: a finished destroyObjects() one unit for its return -/
def Cfg.rank : Cfg → Nat
  | .run fs => srank fs
  | .done _ rest => srank rest + 1
  | .top ii rest => (5 - ii) * 8 + 17 + srank rest
  | .scan _ rest => 6 + srank rest

theorem pot_sil (h : Sil t X c s') : pot s' t ≤ 5 * X.vec.length + c.rank := by
  induction h with
  | caught _ ih | ecNext _ _ ih | doneVec _ ih =>
    exact Nat.le_trans ih (by dsimp only [Cfg.rank, srank_cons, Frame.rank, List.length_cons, List.length_nil]; omega)
  | vecNext hv _ _ ih =>
    have := congrArg List.length hv
    dsimp only [Cfg.rank, srank_cons, Frame.rank, List.length_cons] at this ih ⊢; omega
  | vecDone hv | vecLast hv =>
    have := congrArg List.length hv
    rw [pot_setStk]; dsimp only [Cfg.rank, srank_cons, Frame.rank, List.length_cons, List.length_nil] at this ⊢; omega
  | @scanSome X skip _ _ =>
    have := filter_split_length (fun k => selectable X k && !skip.contains k) X.vec X.vec (fun _ h => h)
    simp [pot, Frame.rank, Cfg.rank, sel]
    simp at this
    omega
  | _ => rw [pot_setStk]; dsimp only [Cfg.rank, srank_cons, Frame.rank, List.length_cons, List.length_nil]; omega

theorem gBody_rank (len dc cnt : Nat) : (gBody len dc cnt).rank ≤ (dc - cnt) * 12 + 11 := by
  unfold gBody; split <;> simp [Frame.rank] <;> omega

theorem gNext_rank (len dc cnt es : Nat) : (gNext len dc cnt es).rank + 1 ≤ (dc + 1 - cnt) * 12 + 3 := by
  unfold gNext
  split
  · rename_i h
    split
    · simp [Frame.rank]; omega
    · have := gBody_rank len dc cnt; omega
  · simp [Frame.rank]

theorem pot_unlock_setStk (s : St) (t : Tid) (fs : List Frame) :
    pot ((unlock s).setStk t fs) t = 5 * s.vec.length + srank fs := by
  simp [pot, unlock]

theorem dec_setStk (X : St) {fs fs' : List Frame} (hv : X.vec = s.vec) (hr : srank fs' < srank fs) :
    pot (X.setStk t fs') t < 5 * s.vec.length + srank fs := by
  rw [pot_setStk, hv]; exact Nat.add_lt_add_left hr _

/-- every library step strictly lowers the potential seen from the stepping thread: a plain edge by the ranks of the
frames, an edge that ends in a silent loop by the bound of that loop -/
theorem Step.dec (h : Step s t fs e s') (he : isEnv e = false) :
    pot s' t < 5 * s.vec.length + srank fs := by
  cases h with
  | user _ h => cases h <;> cases he
  | addLock =>
    rw [pot_setStk]; dsimp only [srank_cons, Frame.rank]
    rw [List.length_append, List.length_singleton]; omega
  | dLock => exact Nat.lt_of_le_of_lt (pot_sil (select_sil ..)) (by dsimp only [Cfg.rank, srank_cons, Frame.rank]; omega)
  | dTimeout | dUnlock0 | dRelockTimeout | dUnlock2 =>
    exact Nat.lt_of_le_of_lt (pot_sil (dDone_sil ..)) (by dsimp only [Cfg.rank, srank_cons, Frame.rank, unlock]; omega)
  | dUnlock1 | cbEndLast | cbThrow =>
    exact Nat.lt_of_le_of_lt (pot_sil (drain_sil ..))
      (by dsimp only [Cfg.rank, srank_cons, Frame.rank, unlock, List.length_nil]; omega)
  | dtorEnd => exact Nat.lt_of_le_of_lt (pot_sil (resume_sil ..)) (by dsimp only [Cfg.rank, srank_cons, Frame.rank]; omega)
  | @gLock dc _ _ _ =>
    have := gNext_rank s.vec.length dc 0 s.vec.length
    have hr : (Frame.gCalled dc).rank = dc * 12 + 16 := rfl
    exact dec_setStk _ rfl (by dsimp only [srank_cons]; omega)
  | @gRelockS dc cnt es _ _ _ =>
    have := gBody_rank s.vec.length dc cnt
    have hr : (Frame.gRelockS dc cnt es).rank = (dc - cnt) * 12 + 12 := rfl
    exact dec_setStk _ rfl (by dsimp only [srank_cons]; omega)
  | @gRelockD dc cnt es _ _ _ =>
    have := gNext_rank s.vec.length dc cnt es
    have hr : (Frame.gRelockD dc cnt es).rank = (dc + 1 - cnt) * 12 + 3 := rfl
    exact dec_setStk _ rfl (by dsimp only [srank_cons]; omega)
  | xYield | xSleep =>
    exact Nat.lt_of_le_of_lt (pot_sil (xTop_sil ..)) (by dsimp only [Cfg.rank, srank_cons, Frame.rank]; omega)
  | _ => exact dec_setStk _ rfl (by dsimp only [srank_cons, Frame.rank, List.length_cons]; omega)

theorem step_dec {s s' : St} {t : Tid} {e : Ev} (h : step s t e = some s') (he : isEnv e = false) :
    pot s' t < pot s t :=
  (Step.of_step h).dec he

theorem rankedG : Live.RankedG step (fun _ => True) isEnv G μ where
  good := fun _ _ _ _ _ _ _ => trivial
  dec := by
    intro s t e s' _ hs he
    have := step_dec hs he
    simpa [pot, G, μ] using this
  frame := by
    intro s t e s' u _ hs _ hu
    simp [μ, step_stk_other hs hu]

def LibEnabled (s : St) (t : Tid) : Prop := ∃ e, isEnv e = false ∧ (step s t e).isSome = true

/-- `t` waits in a blocking acquisition (`lock_guard` of `addObjectsToBeDestroyed` / `size`) -/
def Waiting (s : St) (t : Tid) : Prop :=
  (∃ k mv rest, s.stk t = .addCalled k mv :: rest ∧ 0 < s.ext k) ∨ (∃ rest, s.stk t = .sizeCalled :: rest)

/-- `t` is inside `addObjectsToBeDestroyed(k)` although no external reference to `k` exists any more: the client
passed (or meanwhile dropped) a reference it does not own — excluded by the client obligations -/
def Unowned (s : St) (t : Tid) : Prop := ∃ k mv rest, s.stk t = .addCalled k mv :: rest ∧ s.ext k = 0

/-- **Per-thread classification**: a thread is outside every call, or has an enabled library step, or waits in a
blocking acquisition while the lock is held by another thread, or is the misuse case `Unowned`. -/
theorem thread_cases {s : St} (hP : ProgInv s) (t : Tid) :
    s.stk t = [] ∨ LibEnabled s t ∨ (Waiting s t ∧ ∃ u, s.lock = some u ∧ u ≠ t) ∨ Unowned s t := by
  cases hfs : s.stk t with
  | nil => exact Or.inl rfl
  | cons f rest =>
    have hg := hP.shape t
    rw [hfs] at hg
    have htop : topF f = true := by
      simp only [good, shape_cons, topOk_cons, Bool.and_eq_true] at hg; exact hg.2
    have hself : ∀ u, s.lock = some u → holds (f :: rest) = false → u ≠ t := by
      intro u hu hh hut; subst hut
      have := hP.inv.lockI u hu; rw [hfs, hh] at this; cases this
    have hlk : holds (f :: rest) = true → s.lock = some t := fun hh => hP.holdsL t (by rw [hfs]; exact hh)
    have hmul : holds (f :: rest) = true → LibEnabled s t := fun hh =>
      ⟨.mul, rfl, holder_mul (hlk hh) (hfs ▸ hh)⟩
    right
    cases f
    case addCalled k mv =>
      by_cases he : 0 < s.ext k
      · cases hl : s.lock with
        | none => exact Or.inl ⟨.mlk, rfl, by simp [step, hfs, hl, he]⟩
        | some u => exact Or.inr (Or.inl ⟨Or.inl ⟨k, mv, rest, hfs, he⟩, u, rfl, hself u hl rfl⟩)
      · exact Or.inr (Or.inr ⟨k, mv, rest, hfs, by omega⟩)
    case sizeCalled =>
      cases hl : s.lock with
      | none => exact Or.inl ⟨.mlk, rfl, by simp [step, hfs, hl]⟩
      | some u => exact Or.inr (Or.inl ⟨Or.inr ⟨rest, hfs⟩, u, rfl, hself u hl rfl⟩)
    case addLocked | sizeLocked | dUnlock0 | dUnlock1 | dUnlock2 | gUnlockS | gUnlockD | gUnlockE => exact Or.inl (hmul rfl)
    case dCalled | dRelock | gCalled | gRelockS | gRelockD => exact Or.inl ⟨.mtf false [], rfl, by simp [step, hfs]⟩
    case dClear | gInner | xInner | xInnerLast | xVec => cases htop
    case dCb sz ec cbs todo =>
      cases todo with
      | nil => cases htop
      | cons k todo => exact Or.inl ⟨.ucb k, rfl, by simp [step, hfs]⟩
    case dInCb sz ec cbs k todo =>
      refine Or.inl ⟨.uce k, rfl, ?_⟩
      simp only [step, hfs, if_true]
      split <;> rfl
    case dying k => exact Or.inl ⟨.pdt k, rfl, by simp [step, hfs, hP.dyP.pend t k rest hfs]⟩
    case inDt k => exact Or.inl ⟨.pde k, rfl, by simp [step, hfs]⟩
    case gSleep | xSleep => exact Or.inl ⟨.slp, rfl, by simp [step, hfs]⟩
    case xYield => exact Or.inl ⟨.yld, rfl, by simp [step, hfs]⟩
    case addRet mv => exact Or.inl ⟨.retAdd mv, rfl, by simp [step, hfs]⟩
    case sizeRet n => exact Or.inl ⟨.retSize n, rfl, by simp [step, hfs]⟩
    case dRet r => exact Or.inl ⟨.retDestroy r, rfl, by simp [step, hfs]⟩
    case gRet r => exact Or.inl ⟨.retDestroyD r, rfl, by simp [step, hfs]⟩
    case xRet => exact Or.inl ⟨.retDtor, rfl, by simp [step, hfs]⟩

theorem holder_lib {s : St} (hP : ProgInv s) {u : Tid} (hl : s.lock = some u) : LibEnabled s u :=
  ⟨.mul, rfl, holder_mul hl (hP.inv.lockI u hl)⟩

end ConcVerif.DD
