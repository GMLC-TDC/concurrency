import ConcVerif.Proof.LRVal
/-! Inductive invariant of the left-right model, part 3: the reader ghosts.  `snap t` is `committed` at the moment
thread `t` last called `lock_shared`; `lastSeen t` is the value `t` last read.  `RInv`: both are prefixes of
`committed`, and of the value of the side `t` holds. -/
namespace ConcVerif.LR

/-- step that leaves ghosts, values and `committed` alone -/
macro "r_fr" h:ident hpc:ident t:ident : tactic =>
  `(tactic| exact rinv_frame (t := $t) $h (by intro u hu; simp [hu]) (by simp [$hpc:ident, Pc.held]) (by simp) (by simp)
      (by simp) (by intro x u _; cases x <;> simp [St.val]))

variable {s s' : St} {t : Tid} {e : Ev} {p' q' : Pc} {es : List (Tid × Ev)} {x : Side}

structure RInv (s : St) : Prop where
  snapLe : ∀ t, s.snap t <+: s.committed
  seenLe : ∀ t, s.lastSeen t <+: s.committed
  hold : ∀ t x, (s.pc t).held = some x → s.snap t <+: s.val x ∧ s.lastSeen t <+: s.val x

theorem rinv_init (b : Bool) : RInv (init b) := by
  constructor <;> simp [init, Pc.held]

theorem rinv_frame (h : RInv s) (hpc : s'.pc = upd s.pc t p')
    (ht : ∀ x, p'.held = some x → (s.pc t).held = some x)
    (hsn : s'.snap = s.snap) (hls : s'.lastSeen = s.lastSeen) (hc : s.committed <+: s'.committed)
    (hv : ∀ x u, (s.pc u).held = some x → s'.val x = s.val x) : RInv s' := by
  have hheld : ∀ u x, (s'.pc u).held = some x → (s.pc u).held = some x := by
    intro u x hx
    rw [hpc] at hx
    by_cases hu : u = t
    · subst hu; rw [upd_same] at hx; exact ht x hx
    · rwa [upd_other _ _ _ _ hu] at hx
  refine ⟨fun u => ?_, fun u => ?_, fun u x hx => ?_⟩
  · rw [hsn]; exact (h.snapLe u).trans hc
  · rw [hls]; exact (h.seenLe u).trans hc
  · have hx' := hheld u x hx
    rw [hsn, hls, hv x u hx']
    exact h.hold u x hx'

theorem rinv_move (h : RInv s) (ht : p'.held = none ∨ p'.held = (s.pc t).held) :
    RInv (s.setPc t p') :=
  rinv_frame h rfl (fun _ hx => ht.elim (fun hn => nomatch hn.symm.trans hx) (· ▸ hx)) rfl rfl (List.prefix_refl _)
    fun _ _ _ => rfl

theorem rinv_setReg (c : Side) (l : List Tid) (h : RInv (s.setPc t p')) :
    RInv ((s.setReg c l).setPc t p') := by
  cases c <;> exact ⟨h.snapLe, h.seenLe, h.hold⟩

theorem rinv_setVal (v : List OpId) (h : RInv (s.setPc t q'))
    (hq : q'.held = none) (hx : ∀ u, (s.pc u).held ≠ some x) : RInv ((s.setVal x v).setPc t q') := by
  refine ⟨by simpa using h.snapLe, by simpa using h.seenLe, fun u y hy => ?_⟩
  have hy' : ((s.setPc t q').pc u).held = some y := by simpa using hy
  have hyx : y ≠ x := by
    intro hc; subst hc
    by_cases hu : u = t
    · subst hu; rw [setPc_pc_self, hq] at hy'; cases hy'
    · rw [setPc_pc, if_neg hu] at hy'; exact hx u hy'
  have := h.hold u y hy'
  simpa [setVal_val, hyx] using this

theorem rinv_thread {a b : List OpId} (h : RInv s) (hpc : s'.pc = upd s.pc t p')
    (hsn : s'.snap = upd s.snap t a) (hls : s'.lastSeen = upd s.lastSeen t b)
    (hc : s'.committed = s.committed) (hv : s'.val = s.val)
    (ha : a <+: s.committed) (hb : b <+: s.committed)
    (hx : ∀ x, p'.held = some x → a <+: s.val x ∧ b <+: s.val x) : RInv s' := by
  refine ⟨fun u => ?_, fun u => ?_, fun u x hux => ?_⟩
  · rw [hsn, hc]
    by_cases hu : u = t
    · subst hu; simpa using ha
    · simp [hu]; exact h.snapLe u
  · rw [hls, hc]
    by_cases hu : u = t
    · subst hu; simpa using hb
    · simp [hu]; exact h.seenLe u
  · rw [hsn, hls, hv]
    rw [hpc] at hux
    by_cases hu : u = t
    · subst hu; simpa using hx x (by simpa using hux)
    · rw [upd_other _ _ _ _ hu] at hux; simp [hu]; exact h.hold u x hux

theorem rinv_step (hi : Inv s) (hv : VInv s) (h : RInv s)
    (hs : step s t e = some s') : RInv s' := by
  induction Step.of_step hs with
  | callLs hpc =>
    exact rinv_thread (b := s.lastSeen t) h rfl rfl (upd_self ..).symm rfl rfl (List.prefix_refl _) (h.seenLe t) nofun
  | @ldRL c hpc =>
    refine rinv_thread (p' := .rdGot c s.rl) h rfl (upd_self ..).symm (upd_self ..).symm rfl rfl (h.snapLe t)
      (h.seenLe t) fun x hx => ?_
    cases hx; rw [val_rl hi hv]; exact ⟨h.snapLe t, h.seenLe t⟩
  | @rd c x hpc =>
    have hx : (s.pc t).held = some x := hpc ▸ rfl
    refine rinv_thread (p' := .rdHold c x) h rfl (upd_self ..).symm rfl rfl rfl (h.snapLe t) (held_val_le hi hv hx)
      fun y hy => ?_
    cases hy; exact ⟨(h.hold t _ hx).1, List.prefix_refl _⟩
  | retLs hpc | callRel hpc => exact rinv_move h (.inr (hpc ▸ rfl))
  | @cntZero _ _ _ _ c => exact rinv_move h (.inl (by cases c <;> rfl))
  | inc | dec => exact rinv_setReg _ _ (rinv_move h (.inl rfl))
  | lock | unlockRb | unlockF2 | unlockRf => exact rinv_frame h rfl nofun rfl rfl (List.prefix_refl _) fun _ _ _ => rfl
  | stRL => exact rinv_frame h rfl nofun rfl rfl (List.prefix_append ..) fun _ _ _ => rfl
  | fEnd1 hpc | cpEndRb hpc | fEnd2 hpc | cpEndRf hpc =>
    exact rinv_setVal _ (rinv_move h (.inl rfl)) rfl fun u => hi.no_touch (w := t) (by rw [hpc]; rfl)
  | stCL => exact ⟨h.snapLe, h.seenLe, h.hold⟩
  | cntWait | yld | fin | reRL | reCL | reCnt => exact h
  | _ => exact rinv_move h (.inl rfl)

structure Full (s : St) : Prop where
  inv : Inv s
  vinv : VInv s
  rinv : RInv s

theorem full_init (b : Bool) : Full (init b) := ⟨inv_init b, vinv_init b, rinv_init b⟩

theorem full_step (h : Full s) (hs : step s t e = some s') : Full s' :=
  ⟨inv_step h.inv hs, vinv_step h.inv h.vinv hs, rinv_step h.inv h.vinv h.rinv hs⟩

theorem full_run (h : Full s) (hr : run s es = some s') : Full s' :=
  runFrom_inv (fun _ _ _ _ hi hst => full_step hi hst) h hr

theorem full_reachable (h : Reachable s) : Full s := by
  obtain ⟨b, es, hes⟩ := h
  exact full_run (full_init b) hes

end ConcVerif.LR
