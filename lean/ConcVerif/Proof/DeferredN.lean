import ConcVerif.Proof.DeferredO
/-! No stranding after a quiescent point (no spurious try-lock failure).

One thread running alone: `SoloOK` says, by pc of the only running thread, what holds of queue, batch and flag when
every other thread is at rest without a handle.

Arbitrary concurrency: the tasks `O` that were queued at the quiescent point are applied before anybody is granted
shared access or enters its own function.  `Draining O s` is the inductive invariant: either all of `O` is
applied, or nobody holds `m` shared, nobody is about to acquire it shared without an exclusive holder
being present, and either `m` is free with the flag up and `O` still queued, or the exclusive holder
is on its way through the drain with `O` in the queue / in its batch. -/
namespace ConcVerif.Deferred

variable {s s' : St} {t u : Tid} {p p' : Pc} {e : Ev} {spur : Bool} {es : List (Tid × Ev)} {O : List TaskId}

theorem step_callMod {b : TaskId} {ab : Bool} (hs : step s t (.callMod b ab) = some s') :
    s.pc t = .idle false ∧ s.sub b = none ∧
      s' = { s with sub := upd s.sub b (some t), before := upd s.before b s.done }.setPc t (.mTry b ab) := by
  generalize hp : s.pc t = p
  cases Step.of_step hp hs with
  | callMod hsub => exact ⟨rfl, hsub, rfl⟩

theorem Reachable.step (h : Reachable spur s) (hs : step s t e = some s') :
    Reachable spur s' := by
  obtain ⟨es, hes⟩ := h
  refine ⟨es ++ [(t, e)], ?_⟩
  unfold run at hes ⊢
  rw [runFrom_append, hes]
  simp [runFrom_cons, hs]

theorem Reachable.spur_eq (h : Reachable spur s) : s.spur = spur := by
  obtain ⟨es, hes⟩ := h
  exact runFrom_rel (R := fun x y => y.spur = x.spur) (fun _ => rfl) (fun _ _ _ h1 h2 => by rw [h2, h1])
    (fun x t e y hxy => (Kind.of_step hxy).spur_same) hes

theorem applied_kept {k : TaskId} (hrun : runFrom step s es = some s')
    (hk : k ∈ s.applied) : k ∈ s'.applied :=
  runFrom_rel (step := step) (R := fun (x y : St) => k ∈ x.applied → k ∈ y.applied) (fun _ h => h)
    (fun _ _ _ h1 h2 h => h2 (h1 h))
    (fun _ _ _ _ hxy hx => by obtain ⟨l, hl⟩ := (Kind.of_step hxy).applied_mono; rw [hl]; exact List.mem_append_left _ hx)
    hrun hk

theorem done_kept {k : TaskId} (hrun : runFrom step s es = some s')
    (hk : k ∈ s.done) : k ∈ s'.done :=
  runFrom_rel (step := step) (R := fun (x y : St) => k ∈ x.done → k ∈ y.done) (fun _ h => h)
    (fun _ _ _ h1 h2 h => h2 (h1 h)) (fun _ _ _ _ hxy => (Kind.of_step hxy).done_mono) hrun hk

theorem sub_kept {k : TaskId} (hrun : runFrom step s es = some s')
    (hk : s.sub k ≠ none) : s'.sub k ≠ none :=
  runFrom_rel (step := step) (R := fun (x y : St) => x.sub k ≠ none → y.sub k ≠ none) (fun _ h => h) (fun _ _ _ h1 h2 h => h2 (h1 h))
    (fun x _ _ _ hxy hx => by
      cases hu : x.sub k with
      | none => exact absurd hu hx
      | some u => rw [(Kind.of_step hxy).sub_mono hu]; exact nofun) hrun hk

theorem before_kept {b : TaskId} (hrun : runFrom step s es = some s')
    (hb : s.sub b ≠ none) : s'.before b = s.before b :=
  (runFrom_rel (step := step) (R := fun (x y : St) => x.sub b ≠ none → y.sub b ≠ none ∧ y.before b = x.before b)
    (fun _ h => ⟨h, rfl⟩) (fun _ _ _ h1 h2 h => ⟨(h2 (h1 h).1).1, (h2 (h1 h).1).2.trans (h1 h).2⟩)
    (fun _ _ _ _ hxy hx => ⟨sub_kept (es := [(_, _)]) (by rw [runFrom_cons, hxy]; rfl) hx, (Kind.of_step hxy).before_frozen hx⟩)
    hrun hb).2

/-- what holds of the shared state, by pc of the only running thread, when every other thread is at
rest without a handle and no spurious try-lock failure is possible -/
def SoloOK : Pc → St → Prop
  | .idle false, s | .mTry _ _, s | .sFlag _, s | .sTry _, s | .dLoad _, s => s.batch = [] ∧ (s.queue ≠ [] → s.flag = true)
  | .dClear _, s | .dQLock _, s | .dSwap _, s => s.batch = []
  | .dRun _, s | .dIn _ _, s => s.queue = []
  | .qLock _ _, _ | .qPush _ _, _ | .qFlag _ _, _ => False
  | _, s => s.queue = [] ∧ s.batch = []

theorem solo_free (hL : InvL s) (ho : ∀ u, u ≠ t → s.pc u = .idle false) :
    ((s.pc t).holdsX = false → s.mx = none) ∧ ((s.pc t).holdsS = false → s.sh = []) := by
  constructor
  · intro hX
    cases hm : s.mx with
    | none => rfl
    | some d =>
      have := (hL.mxP d).1 hm
      by_cases hd : d = t
      · subst hd; rw [hX] at this; cases this
      · rw [ho d hd] at this; simp [Pc.holdsX] at this
  · intro hS
    cases hsh : s.sh with
    | nil => rfl
    | cons d ds =>
      have := (hL.shP d).1 (by rw [hsh]; simp)
      by_cases hd : d = t
      · subst hd; rw [hS] at this; cases this
      · rw [ho d hd] at this; simp [Pc.holdsS] at this

theorem solo_step (hL : InvL s) (hsp : s.spur = false)
    (ho : ∀ u, u ≠ t → s.pc u = .idle false) (hk : SoloOK (s.pc t) s) (hs : step s t e = some s') :
    (∀ u, u ≠ t → s'.pc u = .idle false) ∧ SoloOK (s'.pc t) s' ∧ s'.spur = false := by
  obtain ⟨hmx, hsh⟩ := solo_free hL ho
  have hK := Kind.of_step hs
  refine ⟨fun u hu => by rw [hK.pc_other hu]; exact ho u hu, ?_, by rw [hK.spur_same]; exact hsp⟩
  suffices ∃ p', s'.pc t = p' ∧ SoloOK p' s' by obtain ⟨_, rfl, h⟩ := this; exact h
  have rest {s1 : St} (h : s1.queue = [] ∧ s1.batch = []) : s1.batch = [] ∧ (s1.queue ≠ [] → s1.flag = true) :=
    ⟨h.2, fun hq => absurd h.1 hq⟩
  have unflagged (hf : s.flag = false) (h : s.queue ≠ [] → s.flag = true) : s.queue = [] :=
    Classical.byContradiction fun hq => by rw [h hq] at hf; cases hf
  -- a failing try-lock: impossible, the only thread that could hold `m` is `t` itself
  have nofail {P : Prop} (hX : s.mx = none) (hS : s.sh = []) (hf : s.spur = true ∨ s.mx ≠ none ∨ s.sh ≠ []) : P := by
    rcases hf with h | h | h
    · rw [hsp] at h; cases h
    · exact absurd hX h
    · exact absurd hS h
  generalize hp : s.pc t = p at hk hmx hsh
  cases Step.of_step hp hs with
  | prdH | fpoll | fget | prdI | prdA | prdL => exact ⟨_, hp, hk⟩
  | pwrI | pwrA => exact ⟨_, hp, hk⟩
  | mtlMF hf | mtlSF hf => exact nofail (hmx rfl) (hsh rfl) hf
  | qlkM | qulM | fstM => exact hk.elim
  | ret | exc | retL | excL | sulH => exact ⟨_, upd_same _ _ _, rest hk⟩
  | @got ok =>
    cases ok
    · exact ⟨_, upd_same _ _ _, rest hk⟩
    · exact ⟨_, upd_same _ _ _, hk⟩
  | fldSF hf => exact ⟨_, upd_same _ _ _, unflagged hf hk.2, hk.1⟩
  | fldDF hf => exact ⟨_, upd_same _ _ _, unflagged hf hk.2⟩
  | fldD => exact ⟨_, upd_same _ _ _, hk.1⟩
  | qulD => exact ⟨_, upd_same _ _ _, rfl⟩
  | ucbA hb | mulS hb => exact ⟨_, upd_same _ _ _, hk, hb⟩
  | callMod | callSh | callLoad | mtlM | mtlS | fldS | fstD | qlkD | ucbD | uceI | uthI | uceA | uthA | mulM | slkL | slk
    | stl | stlF | stf | stfF | uthL | sulL => exact ⟨_, upd_same _ _ _, hk⟩

theorem SoloOK_of_holdsS (hS : p.holdsS = true) (hk : SoloOK p s) : s.queue = [] ∧ s.batch = [] := by
  cases p with
  | idle hh =>
    cases hh
    · simp [Pc.holdsS] at hS
    · simpa [SoloOK] using hk
  | sGot ok =>
    cases ok
    · simp [Pc.holdsS] at hS
    · simpa [SoloOK] using hk
  | ldHold thr => simpa [SoloOK] using hk
  | _ => simp [Pc.holdsS] at hS

theorem solo_run (hr : Reachable false s)
    (ho : ∀ u, u ≠ t → s.pc u = .idle false) (hk : SoloOK (s.pc t) s) (hsolo : ∀ x, x ∈ es → x.1 = t)
    (hrun : runFrom step s es = some s') :
    Reachable false s' ∧ (∀ u, u ≠ t → s'.pc u = .idle false) ∧ SoloOK (s'.pc t) s' := by
  induction es generalizing s with
  | nil => cases hrun; exact ⟨hr, ho, hk⟩
  | cons x xs ih =>
    obtain ⟨t', e⟩ := x
    cases hsolo (t', e) List.mem_cons_self
    rw [runFrom_cons] at hrun
    cases hst : step s t' e with
    | none => simp [hst] at hrun
    | some s2 =>
      simp only [hst, Option.bind_some] at hrun
      have h2 := solo_step (inv_reachable hr).L hr.spur_eq ho hk hst
      exact ih (hr.step hst) h2.1 h2.2.1 (fun x hx => hsolo x (List.mem_cons_of_mem _ hx)) hrun

def DrOK (O : List TaskId) (n : Nat) (s : St) : Prop :=
  (n = 1 ∧ s.flag = true ∧ ∀ k, k ∈ O → k ∈ s.queue) ∨
  (n = 2 ∧ ∀ k, k ∈ O → k ∈ s.queue) ∨
  (n = 3 ∧ ∀ k, k ∈ O → k ∈ s.applied ∨ k ∈ s.batch)

structure Pending (O : List TaskId) (s : St) : Prop where
  sh : s.sh = []
  acq : ∀ u, (s.pc u).atAcq = true → s.mx ≠ none
  st : (s.mx = none ∧ s.flag = true ∧ ∀ k, k ∈ O → k ∈ s.queue) ∨ ∃ d, s.mx = some d ∧ DrOK O (s.pc d).drPhase s

def Draining (O : List TaskId) (s : St) : Prop := (∀ k, k ∈ O → k ∈ s.applied) ∨ Pending O s

theorem DrOK.mono {n : Nat} (h : DrOK O n s) (hfl : s.flag = true → s'.flag = true)
    (hq : ∀ k, k ∈ s.queue → k ∈ s'.queue)
    (hab : ∀ k, k ∈ s.applied ∨ k ∈ s.batch → k ∈ s'.applied ∨ k ∈ s'.batch) : DrOK O n s' := by
  rcases h with ⟨hn, hf, ho⟩ | ⟨hn, ho⟩ | ⟨hn, ho⟩
  · exact Or.inl ⟨hn, hfl hf, fun k hk => hq k (ho k hk)⟩
  · exact Or.inr (Or.inl ⟨hn, fun k hk => hq k (ho k hk)⟩)
  · exact Or.inr (Or.inr ⟨hn, fun k hk => hab k (ho k hk)⟩)

theorem pending_frame (P : Pending O s) (hp : s.pc t = p)
    (hpc : s'.pc = upd s.pc t p') (hacq : p'.atAcq = true → p.atAcq = true ∨ s.mx ≠ none) (hdr : p'.drPhase = p.drPhase)
    (hsh : s'.sh = s.sh) (hmx : s'.mx = s.mx) (hfl : s.flag = true → s'.flag = true)
    (hq : ∀ k, k ∈ s.queue → k ∈ s'.queue)
    (hab : ∀ k, k ∈ s.applied ∨ k ∈ s.batch → k ∈ s'.applied ∨ k ∈ s'.batch) : Pending O s' := by
  subst hp
  obtain ⟨h1, h2, h3⟩ := P
  refine ⟨by rw [hsh]; exact h1, ?_, ?_⟩
  · intro u hu
    rw [hmx]; rw [hpc] at hu
    by_cases hut : u = t
    · subst hut
      simp only [upd_same] at hu
      rcases hacq hu with h | h
      · exact h2 u h
      · exact h
    · simp only [upd_other _ _ _ _ hut] at hu; exact h2 u hu
  · rcases h3 with ⟨hm, hf, ho⟩ | ⟨d, hd, hok⟩
    · exact Or.inl ⟨by rw [hmx]; exact hm, hfl hf, fun k hk => hq k (ho k hk)⟩
    · refine Or.inr ⟨d, by rw [hmx]; exact hd, ?_⟩
      have hph : (s'.pc d).drPhase = (s.pc d).drPhase := by rw [hpc]; exact upd_proj Pc.drPhase s.pc t p' hdr d
      rw [hph]; exact hok.mono hfl hq hab

theorem Pending.holder {O : List TaskId} {s : St} {t : Tid} (hL : InvL s) (P : Pending O s) (hX : (s.pc t).holdsX = true) :
    DrOK O (s.pc t).drPhase s := by
  have hm := (hL.mxP t).2 hX
  rcases P.st with ⟨h0, _⟩ | ⟨d, hd, hok⟩
  · rw [hm] at h0; cases h0
  · rw [hm] at hd; injection hd with hd; subst hd; exact hok

theorem Pending.of_holder (P : Pending O s) (hsh : s'.sh = s.sh) (hm : s'.mx = some t) (hpc : s'.pc = upd s.pc t p')
    (hok : DrOK O p'.drPhase s') : Pending O s' :=
  ⟨hsh ▸ P.sh, fun _ _ => hm ▸ nofun, .inr ⟨t, hm, by rw [hpc, upd_same]; exact hok⟩⟩

theorem DrOK.p0 (h : DrOK O 0 s) : False := by
  rcases h with ⟨h, _⟩ | ⟨h, _⟩ | ⟨h, _⟩ <;> cases h

theorem DrOK.p1 (h : DrOK O 1 s) : s.flag = true ∧ ∀ k, k ∈ O → k ∈ s.queue := by
  rcases h with ⟨_, h⟩ | ⟨h, _⟩ | ⟨h, _⟩ <;> first | exact h | cases h

theorem DrOK.p2 (h : DrOK O 2 s) : ∀ k, k ∈ O → k ∈ s.queue := by
  rcases h with ⟨h, _⟩ | ⟨_, h⟩ | ⟨h, _⟩ <;> first | exact h | cases h

theorem DrOK.p3 (h : DrOK O 3 s) : ∀ k, k ∈ O → k ∈ s.applied ∨ k ∈ s.batch := by
  rcases h with ⟨h, _⟩ | ⟨h, _⟩ | ⟨_, h⟩ <;> first | exact h | cases h

theorem draining_step (hL : InvL s) (hsp : s.spur = false)
    (hD : Draining O s) (hs : Kind s t s') : Draining O s' := by
  rcases hD with happ | P
  · left
    obtain ⟨l, hl⟩ := hs.applied_mono
    intro k hk; rw [hl]; exact List.mem_append_left _ (happ k hk)
  · have hold {p : Pc} (hp : s.pc t = p) (hX : p.holdsX = true) : DrOK O p.drPhase s := by
      subst hp; exact P.holder hL hX
    cases hs with
    | stutter => exact .inr P
    | wr v _ =>
      exact .inr (pending_frame P rfl (upd_self _ t).symm .inl rfl rfl rfl id (fun _ h => h) (fun _ h => h))
    | move p p' hp hc =>
      exact .inr (pending_frame P hp rfl (fun h => .inl (hc.atAcq h)) hc.drPhase rfl rfl id (fun _ h => h) (fun _ h => h))
    | skipDrain c hp hf => have := (hold hp rfl).p1.1; rw [hf] at this; cases this
    | skipShared c hp hf =>
      refine .inr (pending_frame P hp rfl (fun _ => .inr ?_) rfl rfl rfl id (fun _ h => h) (fun _ h => h))
      rcases P.st with ⟨_, h, _⟩ | ⟨d, hd, _⟩
      · rw [hf] at h; cases h
      · rw [hd]; exact nofun
    | failTry c hp hfail =>
      have hmx : s.mx ≠ none := by
        rcases hfail with h | h | h
        · rw [hsp] at h; cases h
        · exact h
        · exact absurd P.sh h
      exact .inr (pending_frame P hp rfl (fun _ => .inr hmx) rfl rfl rfl id (fun _ h => h) (fun _ h => h))
    | push k a hp =>
      exact .inr (pending_frame P hp rfl nofun rfl rfl rfl id (fun _ h => List.mem_append_left _ h) (fun _ h => h))
    | raise k a hp =>
      exact .inr (pending_frame P hp rfl nofun rfl rfl rfl (fun _ => rfl) (fun _ h => h) (fun _ h => h))
    | lockXm k a hp hm | lockXs c hp hm =>
      have hst : s.flag = true ∧ ∀ k, k ∈ O → k ∈ s.queue := by
        rcases P.st with ⟨_, h⟩ | ⟨d, hd, _⟩
        · exact h
        · rw [hm] at hd; cases hd
      exact .inr (P.of_holder rfl rfl rfl (.inl ⟨rfl, hst⟩))
    | unlockXm k a thr hp | endOwn k a thr o hp => exact (hold hp rfl).p0.elim
    | unlockXs c hp hb =>
      refine .inl fun k hk => ((hold hp rfl).p3 k hk).resolve_right fun h => ?_
      rw [hb] at h; cases h
    | applyOwn k a hp hb =>
      refine .inl fun k hk => List.mem_append_left _ (((hold hp rfl).p3 k hk).resolve_right fun h => ?_)
      rw [hb] at h; cases h
    | lockSg c hp hm | lockSl hp hm => exact absurd hm (P.acq t (by rw [hp]; rfl))
    | unlockSh hp hin | unlockSl thr hp hin => rw [P.sh] at hin; cases hin
    | clear c hp =>
      exact .inr (P.of_holder rfl ((hL.mxP t).2 (by rw [hp]; rfl)) rfl (.inr (.inl ⟨rfl, (hold hp rfl).p1.2⟩)))
    | swap c hp hq hb =>
      exact .inr (P.of_holder rfl ((hL.mxP t).2 (by rw [hp]; rfl)) rfl
        (.inr (.inr ⟨rfl, fun k hk => .inr ((hold hp rfl).p2 k hk)⟩)))
    | applyHead c j rest hp hb =>
      refine .inr (pending_frame P hp rfl nofun rfl rfl rfl id (fun _ h => h) fun k hk => ?_)
      rcases hk with h | h
      · exact .inl (List.mem_append_left _ h)
      · rw [hb] at h
        rcases List.mem_cons.1 h with rfl | h
        · exact .inl (List.mem_append_right _ List.mem_cons_self)
        · exact .inr h
    | _ =>
      have hp := ‹s.pc t = _›
      exact .inr (pending_frame P hp rfl nofun rfl rfl rfl id (fun _ h => h) (fun _ h => h))

theorem draining_run (hr : Reachable false s)
    (hD : Draining O s) (hrun : runFrom step s es = some s') : Reachable false s' ∧ Draining O s' :=
  runFrom_inv (Inv := fun s => Reachable false s ∧ Draining O s)
    (fun _ _ _ _ h hs => ⟨h.1.step hs, draining_step (inv_reachable h.1).L h.1.spur_eq h.2 (Kind.of_step hs)⟩) ⟨hr, hD⟩ hrun

/-- whoever holds `m` shared, or is inside its own function on the direct path, sees all of `O` applied -/
theorem Draining.granted {O : List TaskId} {s : St} {u : Tid} (hL : InvL s) (hD : Draining O s)
    (hg : (s.pc u).holdsS = true ∨ ∃ k a, s.pc u = .aIn k a) : ∀ k, k ∈ O → k ∈ s.applied := by
  rcases hD with h | P
  · exact h
  · exfalso
    rcases hg with hg | ⟨k, a, hg⟩
    · have := (hL.shP u).2 hg
      rw [P.sh] at this; cases this
    · rcases P.holder hL (t := u) (by simp [hg, Pc.holdsX]) with ⟨h, _⟩ | ⟨h, _⟩ | ⟨h, _⟩ <;>
        simp [hg, Pc.drPhase] at h

end ConcVerif.Deferred
