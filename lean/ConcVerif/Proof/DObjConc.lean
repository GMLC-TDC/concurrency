import ConcVerif.Proof.DObj
/-! Concurrent layer of the `DelayedObjects` model: the transitions of `step` as an inductive relation `Tr`
(`step_tr`; `run_induction` over accepted traces), the inductive invariant `Inv` (well-formed sequential state,
linearisability, lock discipline, fresh promise names, `set_value` log) with its preservation `inv_tr` and the lift to
every reachable state, and what follows for a thread at the lock (`mlk_defined`) and for a handed-out promise
(`Handed`). -/
namespace ConcVerif.DObj

@[simp] theorem setPc_pc (s : St) (t : Tid) (p : Pc) : (s.setPc t p).pc = upd s.pc t p := rfl
@[simp] theorem setPc_seq (s : St) (t : Tid) (p : Pc) : (s.setPc t p).seq = s.seq := rfl
@[simp] theorem setPc_lock (s : St) (t : Tid) (p : Pc) : (s.setPc t p).lock = s.lock := rfl
@[simp] theorem setPc_next (s : St) (t : Tid) (p : Pc) : (s.setPc t p).next = s.next := rfl
@[simp] theorem setPc_active (s : St) (t : Tid) (p : Pc) : (s.setPc t p).active = s.active := rfl
@[simp] theorem setPc_closer (s : St) (t : Tid) (p : Pc) : (s.setPc t p).closer = s.closer := rfl
@[simp] theorem setPc_hist (s : St) (t : Tid) (p : Pc) : (s.setPc t p).hist = s.hist := rfl
@[simp] theorem setPc_sets (s : St) (t : Tid) (p : Pc) : (s.setPc t p).sets = s.sets := rfl

inductive Tr (s : St) (t : Tid) : Ev → St → Prop
  | call (o : Op) (hpc : s.pc t = .idle) (hc : s.closer = none) (hok : callOk s o = true) :
      Tr s t (.call o)
        ({ s with next := nextAfter s.next o, active := t :: s.active,
                  closer := if o = Op.dtor then some t else s.closer }.setPc t (.called o))
  | mlk (o : Op) (σ : Seq) (r : Res) (l : List (Id × Val)) (hpc : s.pc t = .called o) (hl : s.lock = none)
      (ha : s.seq.apply o = some (σ, r, l)) :
      Tr s t .mlk
        ({ s with seq := σ, lock := some t, hist := s.hist ++ [HEntry.mk t o r], sets := s.sets ++ l }.setPc t
          (.locked o r (l.map Prod.snd)))
  | pset (o : Op) (r : Res) (todo : List Val) (v : Val) (hpc : s.pc t = .locked o r todo) (hv : v ∈ todo) :
      Tr s t (.pset v) (s.setPc t (.locked o r (todo.erase v)))
  | accL (o : Op) (r : Res) (todo : List Val) (hpc : s.pc t = .locked o r todo) : Tr s t .acc s
  | mul (o : Op) (r : Res) (hpc : s.pc t = .locked o r []) (hl : s.lock = some t) :
      Tr s t .mul ({ s with lock := none }.setPc t (.unlocked o r))
  | accD (r : Res) (hpc : s.pc t = .unlocked .dtor r) : Tr s t .acc s
  | ret (o : Op) (r : Res) (hpc : s.pc t = .unlocked o r) :
      Tr s t (.ret o r) ({ s with active := s.active.erase t }.setPc t .idle)
  | got (p : Id) (x : PState) (hpc : s.pc t = .idle) (hx : x ≠ .unset) (hp : s.seq.promise p = x) :
      Tr s t (.got p x) s

theorem step_tr {s s' : St} {t : Tid} {e : Ev} (h : step s t e = some s') : Tr s t e s' := by
  -- the bullets follow the arms of the `match` in `step`, in its order
  unfold step at h
  split at h
  · split at h <;> cases h
    exact .call _ ‹_› ‹_ ∧ _›.1 ‹_ ∧ _›.2
  · split at h <;> (try split at h) <;> cases h
    exact .mlk _ _ _ _ ‹_› ‹_› ‹_›
  · split at h <;> cases h
    exact .pset _ _ _ _ ‹_› ‹_›
  · cases h
    exact .accL _ _ _ ‹_›
  · split at h <;> cases h
    obtain ⟨rfl, hl⟩ := ‹_ ∧ _›
    exact .mul _ _ ‹_› hl
  · split at h <;> cases h
    subst ‹_ = Op.dtor›
    exact .accD _ ‹_›
  · split at h <;> cases h
    obtain ⟨rfl, rfl⟩ := ‹_ ∧ _›
    exact .ret _ _ ‹_›
  · split at h <;> cases h
    exact .got _ _ ‹_› ‹_ ∧ _›.1 ‹_ ∧ _›.2
  · cases h

theorem tr_pc_other {s s' : St} {t u : Tid} {e : Ev} (h : Tr s t e s') (hu : u ≠ t) : s'.pc u = s.pc u := by
  induction h <;> simp [hu]

theorem run_induction {P : List (Tid × Ev) → St → Prop} (h0 : P [] init)
    (hs : ∀ es s t e s', run es = some s → P es s → Tr s t e s' → P (es ++ [(t, e)]) s')
    {es : List (Tid × Ev)} {s : St} (h : run es = some s) : P es s :=
  runFrom_trace_inv h0 (fun es s t e s' hr hp hst => hs es s t e s' hr hp (step_tr hst)) h

structure Inv (s : St) : Prop where
  wf : WF s.seq
  lin : Seq.init.run s.hist = some s.seq
  lockPc : ∀ t, s.lock = some t ↔ ∃ o r td, s.pc t = .locked o r td
  act : ∀ t, t ∈ s.active ↔ s.pc t ≠ .idle
  actNodup : s.active.Nodup
  closerOnly : ∀ c, s.closer = some c → ∀ u, u ≠ c → s.pc u = .idle
  dtorCloser : ∀ t, s.pc t = .called .dtor → s.closer = some t
  deadClosed : s.seq.dead = true → s.closer ≠ none ∧ ∀ t o, s.pc t ≠ .called o
  handedLt : ∀ p, p ∈ s.seq.handed → p < s.next
  getFresh : ∀ t k p, s.pc t = .called (.get k p) → p < s.next ∧ p ∉ s.seq.handed
  getDistinct : ∀ t u k k' p, s.pc t = .called (.get k p) → s.pc u = .called (.get k' p) → t = u
  setsNodup : (s.sets.map (·.1)).Nodup
  setsIff : ∀ p v, s.seq.promise p = .val v ↔ (p, v) ∈ s.sets
  recorded : ∀ t o r, (s.pc t = .unlocked o r ∨ ∃ td, s.pc t = .locked o r td) → HEntry.mk t o r ∈ s.hist

theorem inv_init : Inv init := by
  constructor
  · exact wf_init
  all_goals simp [init, Seq.run, Seq.init]

/-! Frame facts: a step of `t` replaces `t`'s pc by `b` and leaves the other pcs alone. -/

theorem lockPc_upd {pc : Tid → Pc} {lk : Option Tid} {t : Tid} {b : Pc}
    (h : ∀ u, lk = some u ↔ ∃ o r td, pc u = .locked o r td)
    (ht : (∃ o r td, pc t = .locked o r td) ↔ ∃ o r td, b = .locked o r td) :
    ∀ u, lk = some u ↔ ∃ o r td, upd pc t b u = .locked o r td :=
  upd_forall (P := fun u (p : Pc) => lk = some u ↔ ∃ o r td, p = .locked o r td) ((h t).trans ht) fun u _ => h u

theorem act_upd {pc : Tid → Pc} {ac : List Tid} {t : Tid} {b : Pc} (h : ∀ u, u ∈ ac ↔ pc u ≠ .idle)
    (ht : pc t ≠ .idle) (hb : b ≠ .idle) : ∀ u, u ∈ ac ↔ upd pc t b u ≠ .idle :=
  upd_forall (P := fun u (p : Pc) => u ∈ ac ↔ p ≠ .idle) ⟨fun _ => hb, fun _ => (h t).2 ht⟩ fun u _ => h u

/-- a thread inside a call is the closer, if there is one: its steps keep `closerOnly` -/
theorem closerOnly_upd {pc : Tid → Pc} {t c : Tid} {b : Pc} (h : ∀ u, u ≠ c → pc u = .idle) (ht : pc t ≠ .idle) :
    ∀ u, u ≠ c → upd pc t b u = .idle :=
  upd_forall (P := fun u (p : Pc) => u ≠ c → p = .idle) (fun hu => absurd (h t hu) ht) fun u _ => h u

theorem recorded_upd {pc : Tid → Pc} {hist hist' : List HEntry} {t : Tid} {b : Pc}
    (h : ∀ u o r, (pc u = .unlocked o r ∨ ∃ td, pc u = .locked o r td) → HEntry.mk u o r ∈ hist)
    (hsub : ∀ e ∈ hist, e ∈ hist')
    (hb : ∀ o r, (b = .unlocked o r ∨ ∃ td, b = .locked o r td) → HEntry.mk t o r ∈ hist') :
    ∀ u o r, (upd pc t b u = .unlocked o r ∨ ∃ td, upd pc t b u = .locked o r td) → HEntry.mk u o r ∈ hist' :=
  upd_forall (P := fun u (p : Pc) => ∀ o r, (p = .unlocked o r ∨ ∃ td, p = .locked o r td) → HEntry.mk u o r ∈ hist') hb
    fun u _ o r hp => hsub _ (h u o r hp)

/-- the steps after the linearisation point (`pset`, `mul`, `ret`): only the lock, the active list and the pc
of `t` change, and `t` does not return to the state before the lock -/
theorem inv_inside {s : St} {t : Tid} (h : Inv s) {b : Pc} {lk : Option Tid} {ac : List Tid}
    (ht : s.pc t ≠ .idle) (hb : ∀ o, b ≠ .called o)
    (hlk : ∀ u, lk = some u ↔ ∃ o r td, upd s.pc t b u = .locked o r td)
    (hac : ∀ u, u ∈ ac ↔ upd s.pc t b u ≠ .idle) (hnd : ac.Nodup)
    (hrec : ∀ o r, (b = .unlocked o r ∨ ∃ td, b = .locked o r td) → HEntry.mk t o r ∈ s.hist) :
    Inv ({ s with lock := lk, active := ac }.setPc t b) :=
  { h with
    lockPc := hlk, act := hac, actNodup := hnd
    closerOnly := fun c hcl => closerOnly_upd (h.closerOnly c hcl) ht
    dtorCloser := fun u hp => h.dtorCloser u (upd_ne hp (hb _)).2
    deadClosed := fun hd => ⟨(h.deadClosed hd).1, fun u o hp => (h.deadClosed hd).2 u o (upd_ne hp (hb o)).2⟩
    getFresh := fun u k p hp => h.getFresh u k p (upd_ne hp (hb _)).2
    getDistinct := fun u1 u2 k k' p h1 h2 => h.getDistinct u1 u2 k k' p (upd_ne h1 (hb _)).2 (upd_ne h2 (hb _)).2
    recorded := recorded_upd h.recorded (fun _ => id) hrec }

theorem inv_tr {s s' : St} {t : Tid} {e : Ev} (h : Inv s) (htr : Tr s t e s') : Inv s' := by
  induction htr with
  | call o hpc hc hok =>
    have hge : s.next ≤ nextAfter s.next o := by cases o <;> simp [nextAfter]
    -- a `getFuture` names the promise `s.next`, which no call before it could name
    have hnew : ∀ u k k' p, o = .get k p → s.pc u ≠ .called (.get k' p) := by
      intro u k k' p ho hp
      subst ho
      simp only [callOk, decide_eq_true_eq] at hok
      subst hok
      exact Nat.lt_irrefl _ (h.getFresh u k' _ hp).1
    refine { h with
      lockPc := lockPc_upd h.lockPc (by simp [hpc]), act := ?_
      actNodup := List.nodup_cons.2 ⟨fun hm => (h.act t).1 hm hpc, h.actNodup⟩
      closerOnly := ?_, dtorCloser := ?_
      deadClosed := fun hd => absurd hc (h.deadClosed hd).1
      handedLt := fun p hp => Nat.lt_of_lt_of_le (h.handedLt p hp) hge
      getFresh := ?_, getDistinct := ?_
      recorded := recorded_upd h.recorded (fun _ => id) (by simp) }
    · intro u
      by_cases hu : u = t
      · subst hu; simp
      · simpa [hu] using h.act u
    · intro c hcl u huc
      by_cases ho : o = Op.dtor
      · -- the destructor is called when no thread is inside a call
        subst ho
        simp only [setPc_closer, if_true, Option.some.injEq] at hcl
        subst hcl
        simp only [callOk, decide_eq_true_eq] at hok
        simp only [setPc_pc, upd_other _ _ _ _ huc]
        exact Classical.byContradiction fun hp => by have := (h.act u).2 hp; rw [hok] at this; cases this
      · simp [ho, hc] at hcl
    · intro u hp
      rcases upd_eq hp with ⟨rfl, ho⟩ | ⟨_, hp⟩
      · cases ho; simp
      · have := h.dtorCloser u hp; rw [hc] at this; cases this
    · intro u k p hp
      rcases upd_eq hp with ⟨rfl, ho⟩ | ⟨_, hp⟩
      · cases ho
        simp only [callOk, decide_eq_true_eq] at hok
        subst hok
        exact ⟨by simp [nextAfter], fun hm => Nat.lt_irrefl _ (h.handedLt _ hm)⟩
      · exact ⟨Nat.lt_of_lt_of_le (h.getFresh u k p hp).1 hge, (h.getFresh u k p hp).2⟩
    · intro u1 u2 k k' p hp1 hp2
      rcases upd_eq hp1 with ⟨rfl, ho1⟩ | ⟨_, hp1⟩ <;> rcases upd_eq hp2 with ⟨rfl, ho2⟩ | ⟨_, hp2⟩
      · rfl
      · cases ho1; exact absurd hp2 (hnew _ _ _ _ rfl)
      · cases ho2; exact absurd hp1 (hnew _ _ _ _ rfl)
      · exact h.getDistinct u1 u2 k k' p hp1 hp2
  | mlk o σ r l hpc hl ha =>
    obtain ⟨hs1, hs3⟩ := apply_vals ha
    have hpc' : s.pc t ≠ .idle := by rw [hpc]; simp
    refine {
      wf := wf_apply h.wf ha, lin := ?_, lockPc := ?_
      act := act_upd h.act hpc' (by simp), actNodup := h.actNodup
      closerOnly := fun c hcl => closerOnly_upd (h.closerOnly c hcl) hpc'
      dtorCloser := fun u hp => h.dtorCloser u (upd_ne hp nofun).2
      deadClosed := ?_, handedLt := ?_, getFresh := ?_
      getDistinct := fun u1 u2 k k' p h1 h2 => h.getDistinct u1 u2 k k' p (upd_ne h1 nofun).2 (upd_ne h2 nofun).2
      setsNodup := ?_, setsIff := ?_
      recorded := recorded_upd h.recorded (fun _ => List.mem_append_left _) (by simp) }
    · show Seq.init.run (s.hist ++ [HEntry.mk t o r]) = some σ
      rw [run_append, h.lin]
      simp [Seq.run, ha]
    · intro u
      by_cases hu : u = t
      · subst hu; simp
      · simp only [setPc_pc, setPc_lock, upd_other _ _ _ _ hu]
        constructor
        · intro hh; cases hh; exact absurd rfl hu
        · intro hh; have := (h.lockPc u).2 hh; rw [hl] at this; cases this
    · intro hd
      cases (apply_dead ha).2.1 hd
      have hcl := h.dtorCloser t hpc
      refine ⟨by rw [setPc_closer, hcl]; simp, fun u o' hp => ?_⟩
      obtain ⟨hu, hp⟩ := upd_ne hp nofun
      rw [h.closerOnly t hcl u hu] at hp; cases hp
    · intro p hp
      rcases (apply_handed ha p).1 hp with ⟨k, rfl⟩ | hp
      · exact (h.getFresh t k p hpc).1
      · exact h.handedLt p hp
    · intro u k p hp
      obtain ⟨hu, hp⟩ := upd_ne hp nofun
      refine ⟨(h.getFresh u k p hp).1, fun hm => ?_⟩
      rcases (apply_handed ha p).1 hm with ⟨k', rfl⟩ | hm
      · exact hu (h.getDistinct u t k k' p hp hpc)
      · exact (h.getFresh u k p hp).2 hm
    · show ((s.sets ++ l).map (·.1)).Nodup
      rw [List.map_append, List.nodup_append]
      refine ⟨h.setsNodup, apply_sets_nodup h.wf ha, ?_⟩
      -- a promise set now was unset, one in the log holds a value
      intro a ha1 b hb1 hab
      subst hab
      obtain ⟨e1, he1, rfl⟩ := List.mem_map.1 ha1
      obtain ⟨e2, he2, hp2⟩ := List.mem_map.1 hb1
      have h2 := hs1 e1.1 e2.2 (by rw [← hp2]; exact he2)
      rw [(h.setsIff e1.1 e1.2).2 he1] at h2; cases h2
    · intro p v
      show σ.promise p = .val v ↔ (p, v) ∈ s.sets ++ l
      rw [hs3, h.setsIff, List.mem_append]
  | pset o r todo v hpc hv =>
    exact inv_inside h (by rw [hpc]; simp) (by simp) (lockPc_upd h.lockPc (by simp [hpc]))
      (act_upd h.act (by rw [hpc]; simp) (by simp)) h.actNodup
      (by simp; exact h.recorded t o r (.inr ⟨todo, hpc⟩))
  | mul o r hpc hl =>
    refine inv_inside h (by rw [hpc]; simp) (by simp) (fun u => ?_) (act_upd h.act (by rw [hpc]; simp) (by simp))
      h.actNodup (by simp; exact h.recorded t o r (.inr ⟨[], hpc⟩))
    by_cases hu : u = t
    · subst hu; simp
    · simp only [upd_other _ _ _ _ hu, ← h.lockPc u, hl]; simp [Ne.symm hu]
  | ret o r hpc =>
    refine inv_inside h (by rw [hpc]; simp) (by simp) (lockPc_upd h.lockPc (by simp [hpc])) (fun u => ?_)
      (h.actNodup.sublist List.erase_sublist) (by simp)
    by_cases hu : u = t
    · subst hu; simp [h.actNodup.mem_erase_iff]
    · rw [upd_other _ _ _ _ hu, List.mem_erase_of_ne hu]; exact h.act u
  | _ => exact h

theorem inv_step (s : St) (t : Tid) (e : Ev) (s' : St) (h : Inv s) (hs : step s t e = some s') : Inv s' :=
  inv_tr h (step_tr hs)

theorem inv_reachable {s : St} (h : Reachable s) : Inv s := by
  obtain ⟨es, hes⟩ := h
  exact runFrom_inv inv_step inv_init hes

/-- a thread inside a method that finds the lock free can take it: its critical section is defined by the
specification (no `set_value` on a satisfied promise) -/
theorem mlk_defined {s : St} {t : Tid} {o : Op} (hi : Inv s) (hpc : s.pc t = .called o) (hl : s.lock = none) :
    ∃ s', step s t .mlk = some s' := by
  have hd : s.seq.dead = false := by
    cases hh : s.seq.dead with
    | false => rfl
    | true => exact absurd hpc ((hi.deadClosed hh).2 t o)
  obtain ⟨⟨σ, r, l⟩, hx⟩ := apply_defined hi.wf hd o (fun k p ho => by subst ho; exact (hi.getFresh t k p hpc).2)
  exact Option.isSome_iff_exists.1 (by simp [step, hpc, hl, hx])

/-- the promise created by the `getFuture(k)` entry `e` of the history, with everything before / after it -/
structure Handed (s : St) (k : Key) (p : Id) (before after : List HEntry) : Prop where
  split : ∃ e, s.hist = before ++ e :: after ∧ e.op = .get k p

theorem Handed.state {s : St} {k : Key} {p : Id} {before after : List HEntry} (hi : Inv s)
    (hh : Handed s k p before after) :
    ∃ σ, WF σ ∧ σ.dead = false ∧ lookup k σ.pending = some p ∧ σ.run after = some s.seq := by
  obtain ⟨e, hs, he⟩ := hh.split
  have hl := hi.lin
  rw [hs, run_append] at hl
  cases h1 : Seq.init.run before with
  | none => rw [h1] at hl; cases hl
  | some σ1 =>
    rw [h1] at hl
    obtain ⟨σ2, l, ha, hr⟩ := run_cons hl
    rw [he] at ha
    refine ⟨σ2, wf_apply (run_wf wf_init h1) ha, ?_, get_pending ha, hr⟩
    cases hd : σ2.dead with
    | false => rfl
    | true => cases (apply_dead ha).2.1 hd

end ConcVerif.DObj
