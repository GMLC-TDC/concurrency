import ConcVerif.Proof.Barrier
import ConcVerif.Base.Live
/-! Liveness of `Barrier`: the ranking function, instance of `Base/Live.lean`, and which protocol step a thread inside
the barrier can take (`protocol_enabled`).

Environment events (may occur any finite number of times, they do not lower the rank): `call`, plain
field accesses (`plain`, unbounded self-loops of the model), spurious wake-ups.  Every other event
strictly decreases the rank of the thread that performs it. -/
namespace ConcVerif.Barrier

variable {P : List Tid} {s s' : St} {t : Tid} {e : Ev}

/-- a sleeping thread that waits for the current generation is (still) in the wait set -/
def Awake (s : St) : Prop := ∀ t k, s.pc t = .sleep k → s.lGen t = s.generation → t ∈ s.waiters

theorem awake_init (P : List Tid) : Awake (init P) := by
  intro t k h; simp [init] at h

theorem awake_step (hi : Inv s) (ha : Awake s) (hs : Step s t e s') : Awake s' := by
  -- a step that leaves the generations alone keeps the others in a wait set that does not lose them
  have keep : ∀ {p' : Pc} {m' : Option Tid} {w' : List Tid}, (∀ k, p' = .sleep k → t ∈ w') →
      (∀ u, u ≠ t → u ∈ s.waiters → u ∈ w') → Awake ({ s with mtx := m', waiters := w' }.setPc t p') :=
    fun ht hw => upd_forall (P := fun u (p : Pc) => ∀ k, p = .sleep k → s.lGen u = s.generation → u ∈ _)
      (fun k hk _ => ht k hk) fun u hu k hk hg => hw u hu (ha u k hk hg)
  have hf := fun u => hs.frame (u := u)
  cases hs with
  | plain => exact ha
  | call | lock | pass | notified | leave | ret => exact keep nofun fun _ _ => id
  | spurious => exact keep nofun fun _ hu hin => (List.mem_erase_of_ne hu).2 hin
  | rewait => exact keep (fun _ _ => List.mem_cons_self) fun _ _ => List.mem_cons_of_mem _
  | arrive =>
    intro u k hu hg
    by_cases hut : u = t
    · exact hut ▸ List.mem_cons_self
    · obtain ⟨hpc, hl, _⟩ := hf u hut
      exact List.mem_cons_of_mem _ (ha u k (hpc ▸ hu) (hl ▸ hg))
  | release =>
    -- the generation moves on: whoever still sleeps waits for an earlier one
    intro u k hu hg
    by_cases hut : u = t
    · subst hut; rw [setPc_pc, upd_same] at hu; cases hu
    · obtain ⟨hpc, hl, _⟩ := hf u hut
      have hle := (hi.waitg u (by rw [← hpc, hu]; rfl)).2
      have : s.lGen u = s.generation + 1 := hl ▸ hg
      exact absurd (this ▸ hle) (Nat.not_succ_le_self _)

def isEnv : Ev → Bool
  | .call _ => true
  | .plain => true
  | .cwk .spurious => true
  | _ => false

/-- remaining protocol steps of thread `t`; the values only have to fall along every protocol edge.  `unlocked` 1 (ret);
`notified` and a woken thread whose generation has been released 2 (mul, ret); `sleep` 3 (cwk first); a woken thread whose
generation has not moved re-waits, so it stands above `sleep`: 4; `locked` (6) and `called` (7) stand above all their
successors with room to spare.  7 is also the bound by which an environment event may raise the rank (`ranked`). -/
def μ (s : St) (t : Tid) : Nat :=
  match s.pc t with
  | .idle => 0
  | .called _ => 7
  | .locked _ => 6
  | .notified _ => 2
  | .sleep _ => 3
  | .woken _ => if s.generation = s.lGen t then 4 else 2
  | .unlocked _ => 1

def Good (s : St) : Prop := Inv s ∧ Awake s

theorem μ_le (s : St) (t : Tid) : μ s t ≤ 7 := by
  unfold μ; split <;> (try split) <;> decide

theorem ranked : Live.Ranked step Good isEnv μ 7 where
  good := fun s t e s' hg hs => ⟨inv_step s t e s' hg.1 hs, awake_step hg.1 hg.2 (.of_step hs)⟩
  dec := by
    intro s t e s' ⟨_, ha⟩ hs hc
    cases Step.of_step hs with
    | call | plain | spurious => cases hc
    | notified hp _ hw =>
      -- a notified thread is not in the wait set, so (`Awake`) its generation has been released
      have hne : ¬ s.generation = s.lGen t := fun h => hw (ha t _ hp h.symm)
      simp [μ, hp, hne]
    | rewait hp _ hg _ | leave hp _ hg _ => simp [μ, hp, hg]
    | lock hp | release hp | arrive hp | pass hp | ret hp => simp [μ, hp]
  call := fun _ _ _ _ _ _ _ => Nat.le_trans (μ_le _ _) (Nat.le_add_left _ _)
  frame := by
    intro s t e s' u hg hs hu
    obtain ⟨hpc, hl, _⟩ := (Step.of_step hs).frame hu
    have hgm := (Step.of_step hs).gen_mono
    unfold μ
    rw [hpc, hl]
    cases hp : s.pc u
    case woken =>
      -- the rank can only drop: the generation only grows, and `lGen u ≤ generation`
      have hle := (hg.1.waitg u (hp ▸ rfl)).2
      show (if _ then 4 else 2) ≤ if _ then 4 else 2
      by_cases h' : s'.generation = s.lGen u
      · rw [if_pos h', if_pos (Nat.le_antisymm (h' ▸ hgm) hle)]; exact Nat.le_refl _
      · rw [if_neg h']; split <;> decide
    all_goals exact Nat.le_refl _

theorem good_reachable (hP : P.Nodup) (h : Reachable P s) : Good s := by
  obtain ⟨es, hes⟩ := h
  exact runFrom_inv (Inv := Good) (fun s t e s' hg hs => ranked.good s t e s' hg hs)
    ⟨inv_init P hP, awake_init P⟩ hes

/-- a thread inside the barrier and outside the wait set has an enabled protocol step as soon as the mutex is free
or its own: which event is decided by its pc (and, where the code branches, by `count` / `generation`) -/
theorem protocol_enabled (hP : P.Nodup) (h : Reachable P s) (hni : s.pc t ≠ .idle) (hw : t ∉ s.waiters)
    (hm : s.mtx = none ∨ s.mtx = some t) : ∃ e, isEnv e = false ∧ (step s t e).isSome = true := by
  have hi := inv_reachable hP h
  have free : (s.pc t).holds = false → s.mtx = none := fun hf =>
    hm.resolve_right fun hm => nomatch hf.symm.trans ((hi.holder t).2 hm)
  have own := (hi.holder t).1
  cases hp : s.pc t
  case idle => exact absurd hp hni
  case called => exact ⟨.mlk, rfl, by simp [step, hp, free (hp ▸ rfl)]⟩
  case unlocked k => exact ⟨.ret k, rfl, by simp [step, hp]⟩
  case sleep => exact ⟨.cwk .notified, rfl, by simp [step, hp, free (hp ▸ rfl), hw]⟩
  case notified => exact ⟨.mul s.obs, rfl, by simp [step, hp, own (hp ▸ rfl), sees_obs]⟩
  case woken =>
    by_cases hg : s.generation = s.lGen t
    · exact ⟨.cwt s.obs, rfl, by simp [step, hp, own (hp ▸ rfl), hg, sees_obs]⟩
    · exact ⟨.mul s.obs, rfl, by simp [step, hp, own (hp ▸ rfl), hg, sees_obs]⟩
  case locked k =>
    have hpos : 1 ≤ s.count := hi.cnt ▸ List.length_pos_of_mem (locked_facts hi hp).1
    by_cases hc : s.count = 1
    · exact ⟨.cna, rfl, by simp [step, hp, own (hp ▸ rfl), hc]⟩
    · have h2 : 2 ≤ s.count := Nat.lt_of_le_of_ne hpos (Ne.symm hc)
      exact ⟨.cwt (s.arriveWait t k).obs, rfl, by simp [step, hp, own (hp ▸ rfl), sees_obs, h2]⟩

end ConcVerif.Barrier
