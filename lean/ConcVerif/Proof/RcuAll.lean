import ConcVerif.Proof.RcuE
/-! The complete invariant (layers A–E) of the rcu_list model in every reachable state, and what the property files
read off it: liveness of the blocks a thread can name, and the allocation ledger step by step. -/
namespace ConcVerif.Rcu

structure InvX (s : St) : Prop where
  i : Inv s
  e : InvE s

theorem invX_init : InvX init := ⟨inv_init, invE_init⟩

theorem invX_step {s s' : St} {t : Tid} {e : Ev} (h : InvX s) (hs : step s t e = some s') : InvX s' :=
  ⟨inv_step h.i hs, invE_step h.i h.e (step_sound hs)⟩

theorem invX_reachable {s : St} (h : Reachable s) : InvX s := by
  obtain ⟨es, hes⟩ := h
  exact runFrom_inv (Inv := InvX) (fun s t e s' hi hs => invX_step hi hs) invX_init hes

/-- a guarded transition of `step` is accepted once its guard is proved -/
theorem ite_some {c : Prop} [Decidable c] {a : Option St} {x : St} (hc : c) (ha : a = some x) :
    (if c then a else none) = some x := by rw [if_pos hc]; exact ha

theorem isSome_ite {c : Prop} [Decidable c] {a : Option St} (hc : c) (ha : a.isSome = true) :
    (if c then a else none).isSome = true := by rw [if_pos hc]; exact ha

/-- an erase in progress belongs to a thread whose D-view holds the zombie record naming the node -/
theorem pend_held {e : ESt} {p : Pc} {c : Nat} (g : pendNode e (EView p) = some c) :
    ∃ z, DView p = .eZh none z ∧ e.zn z = some c := by
  cases p with
  | eFix _ _ _ _ z | eZh _ z => exact ⟨z, rfl, g⟩
  | pushStore cc z _ | pushCas cc z _ =>
    cases cc with
    | reg k => cases g
    | erase o => exact ⟨z, rfl, g⟩
  | _ => cases g

/-- a node that is protected for a registered handle is constructed and not destroyed -/
theorem safe_live {s : St} (hi : Inv s) {t : Tid} {w : Bool} {r c : Nat} (hh : s.hnd t = .reg w r)
    (hs : Safe s.eview r c) : s.nled c = .cons := by
  have hdt := dt_false_of_hnd hi.a (t := t) (by rw [hh]; nofun)
  rcases hs with g | ⟨u, g⟩ | ⟨z, g1, g2, g3⟩
  · rcases hi.d.lstCons c g with f | ⟨u, hu⟩
    · exact f
    · have := hi.a.dtd u (dview_dtor (congrArg dtorV hu))
      rw [hdt] at this; cases this
  · obtain ⟨z, hv, hz⟩ := pend_held g
    have hheld : HeldP s.dview (DView (s.pc u)) := hi.d.held u
    rw [hv] at hheld
    obtain ⟨c', h1, h2⟩ := hheld
    cases h1.symm.trans hz
    exact h2
  · exact hi.d.zlog z g1 c g2

theorem scan_cursor_live {s : St} (hi : Inv s) {t : Tid} {a : Nat} {c : Option Nat} {m : Nat}
    (hpc : s.pc t = .uOwner a c m ∨ s.pc t = .uNext a c m) : s.rled m = .cons := by
  have hsc := hi.b.scan t
  have hlc := hi.b.logCons
  simp only [bview_log, bview_rled] at hlc
  rcases hpc with hpc | hpc <;> simp only [bview_vpc, hpc, BView, ScanP, bview_log] at hsc <;>
    exact hlc m (mem_of_mem_below hsc.1)

theorem priv_live {s : St} (hi : Inv s) {t : Tid} {m : Nat} (hp : privRec (BView (s.pc t)) = some m)
    (hl : privLed (BView (s.pc t)) = .cons) : s.rled m = .cons := by
  have := (hi.b.privOk t m hp).2
  simp only [bview_vpc, bview_rled] at this
  rw [this, hl]

theorem own_live {s : St} (hi : Inv s) {t : Tid} {w : Bool} {r : Nat} (hh : s.hnd t = .reg w r) : s.rled r = .cons := by
  have hlc := hi.b.logCons
  simp only [bview_log, bview_rled] at hlc
  exact hlc r (hi.b.own1 t w r hh).1

theorem reaper_facts {s : St} (hi : Inv s) {t : Tid} {a : Nat} (hr : reaper (BView (s.pc t)) = some a) :
    a ∈ s.log ∧ (s.recs a).owner = some t ∧ ∀ x ∈ Below s.log a, (s.recs x).owner = none := by
  obtain ⟨w, hw⟩ := hi.a.myr t a (reaper_myRec hr)
  have ho := hi.b.own1 t w a hw
  obtain ⟨f1, f2⟩ := reapP_facts (hi.b.reap t) hr
  simp only [bview_log, bview_recs] at ho f1 f2
  exact ⟨f1, ho.2, f2⟩

theorem lst_live {s : St} (hi : Inv s) (hdt : s.dt = false) {n : Nat} (hn : n ∈ s.lst) : s.nled n = .cons := by
  rcases hi.d.lstCons n hn with f | ⟨u, hu⟩
  · exact f
  · have := hi.a.dtd u (dview_dtor (congrArg dtorV hu))
    rw [hdt] at this; cases this

theorem release_node_pc {s s' : St} {t : Tid} {d a : Nat} (hrel : myRec (s.pc t) = some a)
    (hs : step s t (.des false d) = some s' ∨ step s t (.fre false d) = some s') :
    ∃ m, s.pc t = .rDesN a m d ∨ s.pc t = .rFreN a m d := by
  rcases hs with hs | hs
  · cases step_sound hs with
    | rDesN r m _ hpc => rw [hpc] at hrel; cases hrel; exact ⟨m, Or.inl hpc⟩
    | dDesN _ _ hpc | dDesZN _ _ _ hpc => rw [hpc] at hrel; cases hrel
  · cases step_sound hs with
    | rFreN r m _ hpc => rw [hpc] at hrel; cases hrel; exact ⟨m, Or.inr hpc⟩
    | pThrow _ _ _ _ hpc | dFreN _ _ hpc | dFreZN _ _ _ hpc => rw [hpc] at hrel; cases hrel

def Ev.block : Ev → Option (Bool × Nat)
  | .alo z b | .des z b | .fre z b => some (z, b)
  | .conN n _ => some (false, n)
  | .conR r _ _ => some (true, r)
  | _ => none

theorem ledger_other {s s' : St} {t : Tid} {e : Ev} (hS : Step s t e s') :
    (∀ n, e.block ≠ some (false, n) → s'.nled n = s.nled n) ∧ (∀ r, e.block ≠ some (true, r) → s'.rled r = s.rled r) := by
  cases hS with
  | regAlo | eAlo | regCon | eCon | rDesZ | dDesZ =>
    exact ⟨fun _ _ => rfl, fun r h => upd_other _ _ _ _ (fun e => h (e ▸ rfl))⟩
  | pAlo | pCon | rDesN | dDesN | dDesZN | rFreN | pThrow | dFreZN =>
    exact ⟨fun n h => upd_other _ _ _ _ (fun e => h (e ▸ rfl)), fun _ _ => rfl⟩
  | rFreZ _ _ nx | dFreZ _ nx =>
    cases nx <;> exact ⟨fun _ _ => rfl, fun r h => upd_other _ _ _ _ (fun e => h (e ▸ rfl))⟩
  | dFreN _ nx => cases nx <;> exact ⟨fun n h => upd_other _ _ _ _ (fun e => h (e ▸ rfl)), fun _ _ => rfl⟩
  | uNextNone _ nx => cases nx <;> exact ⟨fun _ _ => rfl, fun _ _ => rfl⟩
  | dtorHead => cases s.head <;> exact ⟨fun _ _ => rfl, fun _ _ => rfl⟩
  | dZhead => cases s.zhead <;> exact ⟨fun _ _ => rfl, fun _ _ => rfl⟩
  | _ => exact ⟨fun _ _ => rfl, fun _ _ => rfl⟩

/-- ledger of the block an allocator event names -/
def St.led (s : St) (z : Bool) (b : Nat) : Led := if z then s.rled b else s.nled b

/-- the successor relation of the ledger: `alo → con → des → fre`, or `alo → fre` when the element
constructor threw (`allocate_unique`'s catch block) -/
inductive LedNext : Led → Led → Prop
  | alo : LedNext .none .alloc
  | con : LedNext .alloc .cons
  | des : LedNext .cons .dest
  | fre : LedNext .dest .freed
  | thr : LedNext .alloc .freed

theorem led_alo {s s' : St} {t : Tid} {z : Bool} {b : Nat} (h : Reachable s) (hs : step s t (.alo z b) = some s') :
    s.led z b = .none ∧ s'.led z b = .alloc := by
  have hi := inv_reachable h
  cases step_sound hs with
  | regAlo | eAlo => exact ⟨(hi.b.cntR s.nR).2 (Nat.le_refl _), upd_same ..⟩
  | pAlo => exact ⟨(hi.d.cntN s.nN).2 (Nat.le_refl _), upd_same ..⟩

theorem led_con_node {s s' : St} {t : Tid} {n : Nat} {v : Int} (h : Reachable s) (hs : step s t (.conN n v) = some s') :
    s.nled n = .alloc ∧ s'.nled n = .cons := by
  have hi := inv_reachable h
  cases step_sound hs with
  | pCon _ _ _ _ hpc => exact ⟨invD_held hi.d hpc, upd_same ..⟩

theorem led_con_rec {s s' : St} {t : Tid} {r : Nat} {o : Option Tid} {zn : Option Nat} (h : Reachable s)
    (hs : step s t (.conR r o zn) = some s') : s.rled r = .alloc ∧ s'.rled r = .cons := by
  have hi := inv_reachable h
  cases step_sound hs with
  | regCon _ _ hpc | eCon _ _ _ hpc => exact ⟨(invB_priv hi.b hpc rfl).2, upd_same ..⟩

theorem led_des {s s' : St} {t : Tid} {z : Bool} {b : Nat} (h : Reachable s) (hs : step s t (.des z b) = some s') :
    s.led z b = .cons ∧ s'.led z b = .dest := by
  have hi := inv_reachable h
  cases step_sound hs with
  | rDesN _ _ _ hpc | dDesZN _ _ _ hpc => exact ⟨(invD_held hi.d hpc : _ ∧ _).2, upd_same ..⟩
  | dDesN _ _ hpc => exact ⟨invD_held hi.d hpc, upd_same ..⟩
  | rDesZ _ _ _ hpc | dDesZ _ _ hpc => exact ⟨(invB_priv hi.b hpc rfl).2, upd_same ..⟩

theorem led_fre {s s' : St} {t : Tid} {z : Bool} {b : Nat} (h : Reachable s) (hs : step s t (.fre z b) = some s') :
    (s.led z b = .dest ∨ (s.led z b = .alloc ∧ ∃ k, s.pc t = .pCons k b)) ∧ s'.led z b = .freed := by
  have hi := inv_reachable h
  cases step_sound hs with
  | rFreN _ _ _ hpc | dFreZN _ _ _ hpc => exact ⟨Or.inl (invD_held hi.d hpc : _ ∧ _).2, upd_same ..⟩
  | rFreZ _ _ nx hpc | dFreZ _ nx hpc => exact ⟨Or.inl (invB_priv hi.b hpc rfl).2, by cases nx <;> exact upd_same ..⟩
  | pThrow _ _ _ _ hpc => exact ⟨Or.inr ⟨invD_held hi.d hpc, _, hpc⟩, upd_same ..⟩
  | dFreN _ nx hpc => exact ⟨Or.inl (invD_held hi.d hpc), by cases nx <;> exact upd_same ..⟩

theorem ledger_step {s s' : St} {t : Tid} {e : Ev} (h : Reachable s) (hs : step s t e = some s') (z : Bool) (b : Nat) :
    s'.led z b = s.led z b ∨ LedNext (s.led z b) (s'.led z b) := by
  by_cases hb : e.block = some (z, b)
  · right
    cases e with
    | alo z' b' => cases hb; obtain ⟨h1, h2⟩ := led_alo h hs; rw [h1, h2]; exact .alo
    | conN n v => cases hb; obtain ⟨h1, h2⟩ := led_con_node h hs; show LedNext (s.nled _) (s'.nled _); rw [h1, h2]; exact .con
    | conR r o zn => cases hb; obtain ⟨h1, h2⟩ := led_con_rec h hs; show LedNext (s.rled _) (s'.rled _); rw [h1, h2]; exact .con
    | des z' b' => cases hb; obtain ⟨h1, h2⟩ := led_des h hs; rw [h1, h2]; exact .des
    | fre z' b' =>
      cases hb
      obtain ⟨h1 | ⟨h1, _⟩, h2⟩ := led_fre h hs
      · rw [h1, h2]; exact .fre
      · rw [h1, h2]; exact .thr
    | _ => cases hb
  · left
    cases z with
    | false => exact (ledger_other (step_sound hs)).1 b hb
    | true => exact (ledger_other (step_sound hs)).2 b hb

end ConcVerif.Rcu
