import ConcVerif.Proof.DeferredO
import ConcVerif.Base.Live
/-! Ranking for `deferred_guarded` (shared-potential form of `Base/Live.lean`).

Environment events (`isEnv`): the calls (`callMod`, `callSh`, `callLoad`), the accesses to the wrapped object made
by task functions, by `load()`'s copy and through a held shared handle (`prd`, `pwr`; the model does not bound
their number) and the client's future operations (`fpoll`, `fget`).  Everything else is a step of the library —
or the end of a task function (`uce`, `uth`), or the release of a shared handle (`sul`) — and lowers
`2·(|batch| + |queue|) + Σ_t rank (pc t)`: every queued task pays for the start and the end of its function in
the drain loop that will run it, so the drain loop terminates whatever is queued meanwhile (tasks queued after the
swap stay in the queue for the next drain). -/
namespace ConcVerif.Deferred

variable {s s' : St} {t u : Tid} {p p' : Pc} {e : Ev} {spur : Bool} {es : List (Tid × Ev)}

def isEnv : Ev → Bool
  | .callMod _ _ | .callSh _ | .callLoad | .prd _ | .pwr _ | .fpoll _ _ | .fget _ _ => true
  | _ => false

def Pc.rank : Pc → Nat
  | .idle h => if h then 1 else 0
  | .mTry _ _ => 10
  | .qLock _ _ => 6
  | .qPush _ _ => 5
  | .qFlag _ _ => 2
  | .mRet _ _ _ => 1
  | .sFlag _ => 11
  | .sTry _ => 10
  | .dLoad _ => 9
  | .dClear _ => 8
  | .dQLock _ => 7
  | .dSwap _ => 6
  | .dRun _ => 5
  | .dIn _ _ => 6
  | .aIn _ _ => 3
  | .mUnl _ _ _ => 2
  | .sAcq _ => 4
  | .sGot ok => if ok then 2 else 1
  | .ldHold thrown => if thrown then 2 else 3
  | .ldRet _ => 1

def G (s : St) : Nat := 2 * (s.batch.length + s.queue.length)
def μ (s : St) (t : Tid) : Nat := (s.pc t).rank

theorem step_pc_other {s s' : St} {t u : Tid} {e : Ev} (hs : step s t e = some s') (hu : u ≠ t) :
    s'.pc u = s.pc u :=
  (Kind.of_step hs).pc_other hu

/-- every non-environment edge lowers `G + rank` of the stepping thread: the rank alone wherever batch and queue
are untouched; a push pays 2 into `G` out of the 3 the rank drops, a swap moves the queue into the empty batch,
the start of a queued function takes its 2 out of `G` and 1 of them into the rank -/
theorem Step.dec (h : Step s t p e s') (he : isEnv e = false) :
    G s' + (s'.pc t).rank < G s + p.rank := by
  have rank_only {s1 : St} {p' : Pc} (hb : s1.batch = s.batch) (hq : s1.queue = s.queue)
      (hr : (p'.rank + 1).ble p.rank = true) : G (s1.setPc t p') + ((s1.setPc t p').pc t).rank < G s + p.rank := by
    rw [setPc_pc, upd_same]
    exact Nat.add_lt_add_of_le_of_lt (by simp only [G, St.setPc, hb, hq, Nat.le_refl]) (Nat.le_of_ble_eq_true hr)
  cases h with
  | callMod | callSh | callLoad | prdH | fpoll | fget | prdI | pwrI | prdA | pwrA | prdL => cases he
  | qulM =>
    simp only [G, St.setPc, upd_same, List.length_append, List.length_cons, List.length_nil, Pc.rank]; omega
  | qulD _ hb => simp only [G, St.setPc, upd_same, hb, List.length_nil, Pc.rank]; omega
  | ucbD hb => simp only [G, St.setPc, upd_same, hb, List.length_cons, Pc.rank]; omega
  | @got ok => cases ok <;> exact rank_only rfl rfl rfl
  | @sulL thr hin => cases thr <;> exact rank_only rfl rfl rfl
  | _ => exact rank_only rfl rfl rfl

theorem step_dec {s s' : St} {t : Tid} {e : Ev} (hs : step s t e = some s') (he : isEnv e = false) :
    G s' + (s'.pc t).rank < G s + (s.pc t).rank :=
  (Step.of_step rfl hs).dec he

theorem rankedG : Live.RankedG step (fun _ => True) isEnv G μ where
  good := fun _ _ _ _ _ _ _ => trivial
  dec := fun _ _ _ _ _ hs he => step_dec hs he
  frame := by
    intro s t e s' u _ hs _ hu
    simp [μ, step_pc_other hs hu]

/-- a thread at rest is outside every call, also while it holds a shared handle (`idle true`) -/
def Inside (s : St) (t : Tid) : Prop := ∀ h, s.pc t ≠ .idle h

/-- "can move" in the deadlock-freedom theorems: only a step the library itself takes counts; calls, accesses of the
object and operations on futures (`isEnv`) are the client's -/
def LibEnabled (s : St) (t : Tid) : Prop := Inside s t ∧ ∃ e, isEnv e = false ∧ (step s t e).isSome = true

theorem Step.lib (hp : s.pc t = p) (h : Step s t p e s')
    (hin : ∀ hd, p ≠ .idle hd) (he : isEnv e = false) : LibEnabled s t :=
  ⟨fun hd => hp ▸ hin hd, e, he, h.enabled hp⟩

theorem qholder_qul (hi : Inv s) {w : Tid} (hq : s.qm = some w) :
    Inside s w ∧ (step s w .qul).isSome = true := by
  have hQ := (hi.L.qmP w).mp hq
  cases hp : s.pc w with
  | qPush k a => exact ⟨fun _ => hp ▸ nofun, Step.enabled hp (.qulM hq)⟩
  | dSwap c =>
    have hm : s.mx = some w := (hi.L.mxP w).mpr (by rw [hp]; rfl)
    exact ⟨fun _ => hp ▸ nofun,
      Step.enabled hp (.qulD hq (hi.C.no_batch_unless (t := w) (.inr ⟨hm, by rw [hp]; rfl⟩)))⟩
  | _ => rw [hp] at hQ; cases hQ

theorem qholder_lib (hi : Inv s) {w : Tid} (hq : s.qm = some w) : LibEnabled s w :=
  ⟨(qholder_qul hi hq).1, .qul, rfl, (qholder_qul hi hq).2⟩

theorem xholder_lib (hi : Inv s) {u : Tid} (hm : s.mx = some u) (hq : s.qm = none) : LibEnabled s u := by
  have hX := (hi.L.mxP u).mp hm
  cases hp : s.pc u with
  | dLoad c =>
    cases hf : s.flag
    · exact Step.lib hp (.fldDF hf) nofun rfl
    · exact Step.lib hp (.fldD hf) nofun rfl
  | dClear c => exact Step.lib hp .fstD nofun rfl
  | dQLock c => exact Step.lib hp (.qlkD hq) nofun rfl
  | dSwap c =>
    have := (hi.L.qmP u).mpr (by rw [hp]; rfl)
    rw [hq] at this; cases this
  | dRun c =>
    cases hb : s.batch with
    | cons b rest => exact Step.lib hp (.ucbD hb) nofun rfl
    | nil =>
      cases c with
      | mod k a => exact Step.lib hp (.ucbA hb) nofun rfl
      | sh c => exact Step.lib hp (.mulS hb hm) nofun rfl
  | dIn c j => exact Step.lib hp (.uceI (r := 0)) nofun rfl
  | aIn k a => exact Step.lib hp (.uceA (r := 0)) nofun rfl
  | mUnl k a thr => exact Step.lib hp (.mulM hm) nofun rfl
  | _ => rw [hp] at hX; cases hX

theorem free_lib (hi : Inv s) (hm : s.mx = none) (hq : s.qm = none) {t : Tid} (ht : Inside s t) :
    LibEnabled s t := by
  have noX : (s.pc t).holdsX = false := Bool.eq_false_iff.2 fun h => by
    have := (hi.L.mxP t).mpr h; rw [hm] at this; cases this
  have noQ : (s.pc t).holdsQ = false := Bool.eq_false_iff.2 fun h => by
    have := (hi.L.qmP t).mpr h; rw [hq] at this; cases this
  cases hp : s.pc t with
  | idle h => exact absurd hp (ht h)
  | mTry k a =>
    by_cases hs : s.sh = []
    · exact Step.lib hp (.mtlM hm hs) nofun rfl
    · exact Step.lib hp (.mtlMF (.inr (.inr hs))) nofun rfl
  | sTry c =>
    by_cases hs : s.sh = []
    · exact Step.lib hp (.mtlS hm hs) nofun rfl
    · exact Step.lib hp (.mtlSF (.inr (.inr hs))) nofun rfl
  | qLock k a => exact Step.lib hp (.qlkM hq) nofun rfl
  | qFlag k a => exact Step.lib hp .fstM nofun rfl
  | mRet k a thr =>
    cases thr
    · exact Step.lib hp .ret nofun rfl
    · exact Step.lib hp .exc nofun rfl
  | sFlag c =>
    cases hf : s.flag
    · exact Step.lib hp (.fldSF hf) nofun rfl
    · exact Step.lib hp (.fldS hf) nofun rfl
  | sAcq c =>
    cases c with
    | load => exact Step.lib hp (.slkL hm) nofun rfl
    | acq h =>
      cases h
      · exact Step.lib hp (.slk hm) nofun rfl
      · exact Step.lib hp .stlF nofun rfl
      · exact Step.lib hp (.stfF (.inl rfl)) nofun rfl
      · exact Step.lib hp (.stfF (.inr rfl)) nofun rfl
  | sGot ok => exact Step.lib hp .got nofun rfl
  | ldHold thr => exact Step.lib hp (.sulL ((hi.L.shP t).mpr (by rw [hp]; rfl))) nofun rfl
  | ldRet thr =>
    cases thr
    · exact Step.lib hp .retL nofun rfl
    · exact Step.lib hp .excL nofun rfl
  | qPush k a | dSwap c => rw [hp] at noQ; cases noQ
  | _ => rw [hp] at noX; cases noX

/-- **Deadlock-freedom**: if some thread is inside a call, some thread inside a call has an enabled library step -/
theorem progress {s : St} (hi : Inv s) {t : Tid} (ht : Inside s t) : ∃ u, LibEnabled s u := by
  cases hq : s.qm with
  | some w => exact ⟨w, qholder_lib hi hq⟩
  | none =>
    cases hm : s.mx with
    | some u => exact ⟨u, xholder_lib hi hm hq⟩
    | none => exact ⟨t, free_lib hi hm hq ht⟩

end ConcVerif.Deferred
