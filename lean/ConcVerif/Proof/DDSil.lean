import ConcVerif.Proof.DD
/-! The silent code of the DelayedDestructor model (`select`, `drain`, `vdrain`, `dDone`, `xAfter`, `xTop`, `resume`): one relation
`Sil t X c s'` with a constructor per branch, so that every invariant layer needs one induction for all of it. -/
namespace ConcVerif.DD

def isDCaller : List Frame → Bool
  | .gInner _ _ _ :: _ | .xInner _ :: _ | .xInnerLast :: _ => true
  | _ => false

def isReleaser : List Frame → Bool
  | .dClear _ _ _ _ :: _ | .xVec :: _ => true
  | _ => false

/-- where the silent code of a thread stands: on the frames `fs`, with a release loop (`dClear`, `xVec`) possibly on
top; behind a destroyObjects() that has finished with result `r` above `rest`; or at the loop test of the container's
destructor with counter `ii` above `rest`; or at the scan of destroyObjects() under the lock, above `rest` -/
inductive Cfg
  | run (fs : List Frame)
  | done (r : Option Nat) (rest : List Frame)
  | top (ii : Nat) (rest : List Frame)
  | scan (skip : List ObjId) (rest : List Frame)

/-- the frames the silent code runs above (`run`: including the loop's own frame) -/
def Cfg.stk : Cfg → List Frame
  | .run fs => fs
  | .done _ rest => rest
  | .top _ rest => rest
  | .scan _ rest => rest

def Cfg.isTop : Cfg → Bool
  | .top _ _ => true
  | _ => false

/-- what the scan of destroyObjects() selects -/
def sel (X : St) (skip : List ObjId) : List ObjId := X.vec.filter (fun k => selectable X k && !skip.contains k)

inductive Sil (t : Tid) : St → Cfg → St → Prop
  | stop {X fs} (h : isReleaser fs = false) : Sil t X (.run fs) (X.setStk t fs)
  | relock {X sz cbs rest} : Sil t X (.run (.dClear sz [] cbs false :: rest)) (X.setStk t (.dRelock sz :: rest))
  | caught {X sz cbs rest s'} (h : Sil t X (.done (some sz) rest) s') : Sil t X (.run (.dClear sz [] cbs true :: rest)) s'
  | ecLast {X sz k ec cbs th rest} (h0 : refs { X with ecs := X.ecs.erase (t, k) } k = 0) :
      Sil t X (.run (.dClear sz (k :: ec) cbs th :: rest))
        ({ X with ecs := X.ecs.erase (t, k), pend := k :: X.pend }.setStk t (.dying k :: .dClear sz ec cbs th :: rest))
  | ecNext {X sz k ec cbs th rest s'} (h0 : ¬ refs { X with ecs := X.ecs.erase (t, k) } k = 0)
      (h : Sil t { X with ecs := X.ecs.erase (t, k) } (.run (.dClear sz ec cbs th :: rest)) s') :
      Sil t X (.run (.dClear sz (k :: ec) cbs th :: rest)) s'
  | vecDone {X rest} (hv : X.vec = []) :
      Sil t X (.run (.xVec :: rest)) ({ X with vec := [], vdead := true }.setStk t (.xRet :: rest))
  | vecLast {X k v rest} (hv : X.vec = k :: v) (h0 : refs { X with vec := v, vrel := k :: X.vrel } k = 0) :
      Sil t X (.run (.xVec :: rest))
        ({ X with vec := v, vrel := k :: X.vrel, pend := k :: X.pend }.setStk t (.dying k :: .xVec :: rest))
  | vecNext {X k v rest s'} (hv : X.vec = k :: v) (h0 : ¬ refs { X with vec := v, vrel := k :: X.vrel } k = 0)
      (h : Sil t { X with vec := v, vrel := k :: X.vrel } (.run (.xVec :: rest)) s') : Sil t X (.run (.xVec :: rest)) s'
  | doneG {X r dc cnt es rest} : Sil t X (.done r (.gInner dc cnt es :: rest)) (X.setStk t (.gRelockD dc cnt es :: rest))
  | doneEmpty {X r ii rest} (hv : X.vec = []) :
      Sil t X (.done r (.xInner ii :: rest)) ({ X with vdead := true }.setStk t (.xRet :: rest))
  | doneCall {X r ii rest} (hv : ¬ X.vec = []) (hi : ii > 4) :
      Sil t X (.done r (.xInner ii :: rest)) (X.setStk t (.dCalled :: .xInnerLast :: rest))
  | doneSleep {X r ii rest} (hv : ¬ X.vec = []) (hi : ¬ ii > 4) (he : ii % 2 = 0) :
      Sil t X (.done r (.xInner ii :: rest)) (X.setStk t (.xSleep ii :: rest))
  | doneYield {X r ii rest} (hv : ¬ X.vec = []) (hi : ¬ ii > 4) (he : ¬ ii % 2 = 0) :
      Sil t X (.done r (.xInner ii :: rest)) (X.setStk t (.xYield ii :: rest))
  | doneVec {X r rest s'} (h : Sil t X (.run (.xVec :: rest)) s') : Sil t X (.done r (.xInnerLast :: rest)) s'
  | topEmpty {X ii rest} (hv : X.vec = []) :
      Sil t X (.top ii rest) ({ X with vdead := true }.setStk t (.xRet :: rest))
  | topCall {X ii rest} (hv : ¬ X.vec = []) :
      Sil t X (.top ii rest) (X.setStk t (.dCalled :: .xInner (ii + 1) :: rest))
  | scanNone {X skip rest} (h : sel X skip = []) :
      Sil t X (.scan skip rest) ({ X with lock := some t }.setStk t (.dUnlock0 :: rest))
  | scanSome {X skip rest} (h : ¬ sel X skip = []) :
      Sil t X (.scan skip rest)
        ({ X with lock := some t, vec := X.vec.filter (fun k => !(sel X skip).contains k),
                  ecs := (sel X skip).map (fun k => (t, k)) ++ X.ecs, reaped := sel X skip ++ X.reaped }.setStk t
          (.dUnlock1 (X.vec.filter (fun k => !(sel X skip).contains k)).length (sel X skip) :: rest))
  | doneRet {X r rest} (h : isDCaller rest = false) : Sil t X (.done r rest) (X.setStk t (.dRet r :: rest))

theorem vdrain_sil (t : Tid) (X : St) (rest : List Frame) (v : List ObjId) (hv : X.vec = v) :
    Sil t X (.run (.xVec :: rest)) (vdrain X t rest v) := by
  induction v generalizing X with
  | nil => exact .vecDone hv
  | cons k v ih =>
    simp only [vdrain]; split
    · exact .vecLast hv ‹_›
    · exact .vecNext hv ‹_› (ih _ rfl)

theorem select_sil (t : Tid) (X : St) (skip : List ObjId) (rest : List Frame) :
    Sil t X (.scan skip rest) (select X t skip rest) := by
  unfold select; dsimp only; split
  · exact .scanNone ‹_›
  · exact .scanSome ‹_›

theorem xTop_sil (t : Tid) (X : St) (ii : Nat) (rest : List Frame) : Sil t X (.top ii rest) (xTop X t ii rest) := by
  unfold xTop; split
  · exact .topEmpty ‹_›
  · exact .topCall ‹_›

theorem dDone_sil (t : Tid) (X : St) (r : Option Nat) (rest : List Frame) : Sil t X (.done r rest) (dDone X t r rest) := by
  unfold dDone; split
  · exact .doneG
  · unfold xAfter; split
    · exact .doneEmpty ‹_›
    · split
      · exact .doneCall ‹_› ‹_›
      · split
        · exact .doneSleep ‹_› ‹_› ‹_›
        · exact .doneYield ‹_› ‹_› ‹_›
  · exact .doneVec (vdrain_sil _ _ _ _ rfl)
  · rename_i h1 h2 h3
    refine .doneRet ?_
    cases rest with
    | nil => rfl
    | cons g r =>
      cases g <;> first | rfl | exact absurd rfl (h1 _ _ _ _) | exact absurd rfl (h2 _ _) | exact absurd rfl (h3 _)

theorem drain_sil (t : Tid) (X : St) (sz cbs thrown rest) (ec : List ObjId) :
    Sil t X (.run (.dClear sz ec cbs thrown :: rest)) (drain X t sz cbs thrown rest ec) := by
  induction ec generalizing X with
  | nil =>
    cases thrown
    · exact .relock
    · exact .caught (dDone_sil ..)
  | cons k ec ih =>
    simp only [drain]; split
    · exact .ecLast ‹_›
    · exact .ecNext ‹_› (ih _)

theorem resume_sil (t : Tid) (X : St) (fs : List Frame) : Sil t X (.run fs) (resume X t fs) := by
  unfold resume; split
  · exact drain_sil ..
  · exact vdrain_sil _ _ _ _ rfl
  · rename_i h1 h2
    refine .stop ?_
    cases fs with
    | nil => rfl
    | cons g r => cases g <;> first | rfl | exact absurd rfl (h1 _ _ _ _ _) | exact absurd rfl (h2 _)

end ConcVerif.DD
