import ConcVerif.Proof.CowInv
import ConcVerif.Proof.HBLRMain
import ConcVerif.Proof.HBEmbed
/-! cow_guarded and happens-before, part 1: the map from cow events to happens-before events, and the left-right
events each cow step delegates to the embedded left-right model (`Blk`, `blk_step`): at most one of them carries
happens-before content, and it is the image of the cow event. -/
namespace ConcVerif.Cow
open ConcVerif.LR (Side)

/-- plain location of the payload of version `v` (0, 1 are the two `shared_ptr` copies of `m_data`) -/
def payLoc (v : Ver) : Nat := v + 2

/-- happens-before content of a cow event: the inner left-right events as in `LR.toHB` (inner write mutex = mutex 0), the
writer mutex `m_writeMutex` = mutex 1, the plain accesses of the two `shared_ptr` copies, the payload accesses.  A copy
construction reads its source and writes the new version: `pay` chooses which of the two is shown (the theorems hold for both). -/
def toHBc (o : LR.Ords) (pay : Bool) : Ev → HB.Ev
  | .lr e => LR.toHB o e
  | .olock => .acq 1 .X
  | .ounlock => .rel 1 .X
  | .ldPtr x _ => .rd (LR.copyLoc x)
  | .ldCtl x => .rd (LR.copyLoc x)
  | .stPtr x _ => .wr (LR.copyLoc x)
  | .stCtl x => .wr (LR.copyLoc x)
  | .pcp new src _ => if pay = true then .wr (payLoc new) else .rd (payLoc src)
  | .pwr v _ => .wr (payLoc v)
  | .prd v _ => .rd (payLoc v)
  | .pdt v => .wr (payLoc v)
  | _ => .nop

def hbTraceC (o : LR.Ords) (pay : Bool) (es : List (Tid × Ev)) : HB.Trace := es.map (fun p => (p.1, toHBc o pay p.2))

theorem hbTraceC_get {o : LR.Ords} {pay : Bool} {es : List (Tid × Ev)} {i : Nat} {t : Tid} {e : Ev}
    (h : es[i]? = some (t, e)) : (hbTraceC o pay es)[i]? = some (t, toHBc o pay e) := by simp [hbTraceC, h]

theorem hbTraceC_get_inv {o : LR.Ords} {pay : Bool} {es : List (Tid × Ev)} {i : Nat} {t : Tid} {he : HB.Ev}
    (h : (hbTraceC o pay es)[i]? = some (t, he)) : ∃ e, es[i]? = some (t, e) ∧ toHBc o pay e = he :=
  HB.map_get_inv h

/-- the left-right events a cow step delegates -/
structure Blk (o : LR.Ords) (pay : Bool) (s : St) (t : Tid) (ce : Ev) (s' : St) (block : List LR.Ev) : Prop where
  run : LR.run s.lr (block.map (fun e => (t, e))) = some s'.lr
  img : ∀ e ∈ block, LR.toHB o e = .nop ∨ LR.toHB o e = toHBc o pay ce
  one : block.Pairwise fun e e' => LR.toHB o e = .nop ∨ LR.toHB o e' = .nop
  st : ∀ a od, toHBc o pay ce = .st a od → ∃ e ∈ block, LR.toHB o e = .st a od
  wr : ∀ x v, ce = .stPtr x v → LR.Ev.fBegin x ∈ block
  rd : ∀ x v, ce = .ldPtr x v → ∃ val, LR.Ev.rd x val ∈ block

variable {o : LR.Ords} {pay : Bool} {s s' : St} {t : Tid} {ce : Ev}

/-- events that are not passed on to the left-right model -/
def Ev.outer : Ev → Bool
  | .lr _ | .stPtr _ _ | .ldPtr _ _ => false
  | _ => true

theorem blk_nil (hlr : s'.lr = s.lr) (hce : ce.outer = true) : Blk o pay s t ce s' [] := by
  refine ⟨by simp [LR.run, hlr], ?_, ?_, ?_, ?_, ?_⟩
  · intro e he; simp at he
  · exact .nil
  · intro a od h
    cases ce with
    | lr | stPtr | ldPtr => cases hce
    | pcp => cases pay <;> cases h
    | _ => cases h
  · intro x v h; subst h; cases hce
  · intro x v h; subst h; cases hce

theorem blk_one {e' : LR.Ev} {l : LR.St} (hl : LR.step s.lr t e' = some l) (hlr : s'.lr = l)
    (h1 : LR.toHB o e' = .nop ∨ LR.toHB o e' = toHBc o pay ce)
    (h3 : ∀ a od, toHBc o pay ce = .st a od → LR.toHB o e' = .st a od) (h4 : ∀ x v, ce = .stPtr x v → e' = .fBegin x)
    (h5 : ∀ x v, ce = .ldPtr x v → ∃ val, e' = .rd x val) : Blk o pay s t ce s' [e'] := by
  refine ⟨by simp [LR.run, runFrom_cons, hl, hlr], ?_, ?_, ?_, ?_, ?_⟩
  · intro e he; simp at he; subst he; exact h1
  · exact List.pairwise_singleton ..
  · intro a od h; exact ⟨e', by simp, h3 a od h⟩
  · intro x v h; rw [h4 x v h]; simp
  · intro x v h; obtain ⟨val, hv⟩ := h5 x v h; exact ⟨val, by rw [hv]; simp⟩

theorem blk_got {k : Nat} {x : Side} {l : LR.St} (hl : lrGot s t k x = some l) (hlr : s'.lr = l) (hce : ce = .lr (.ldRL x)) :
    Blk o pay s t ce s' [.ldRL x, .ret (.ls k)] := by
  simp only [lrGot, Option.bind_eq_some_iff] at hl
  obtain ⟨l1, h1, h2⟩ := hl
  subst hce
  refine ⟨by simp [LR.run, runFrom_cons, h1, h2, hlr], ?_, ?_, ?_, ?_, ?_⟩
  · intro e he; simp at he
    rcases he with he | he <;> subst he <;> simp [LR.toHB, toHBc]
  · exact .cons (fun e he => .inr (by cases List.mem_singleton.mp he; rfl)) (List.pairwise_singleton ..)
  · intro a od h; simp [toHBc, LR.toHB] at h
  · intro x v h; cases h
  · intro x v h; cases h

theorem blk_rel {c : Side} {old : Nat} {l : LR.St} (hl : lrRel s t c old = some l) (hlr : s'.lr = l)
    (hce : ce = .lr (.dec c old)) : Blk o pay s t ce s' [.call .rel, .dec c old, .ret .rel] := by
  simp only [lrRel, Option.bind_eq_some_iff] at hl
  obtain ⟨l2, ⟨l1, h1, h2⟩, h3⟩ := hl
  subst hce
  refine ⟨by simp [LR.run, runFrom_cons, h1, h2, h3, hlr], ?_, ?_, ?_, ?_, ?_⟩
  · intro e he; simp at he
    rcases he with he | he | he <;> subst he <;> simp [LR.toHB, toHBc]
  · exact .cons (fun _ _ => .inl rfl)
      (.cons (fun e he => .inr (by cases List.mem_singleton.mp he; rfl)) (List.pairwise_singleton ..))
  · intro a od h; simp [toHBc, LR.toHB] at h
  · intro x v h; cases h
  · intro x v h; cases h

theorem blk_rd {x : Side} {l : LR.St} (hl : lrRd s t x = some l) (hlr : s'.lr = l)
    (hce : toHBc o pay ce = .rd (LR.copyLoc x)) (h4 : ∀ y v, ce ≠ .stPtr y v) (h5 : ∀ y v, ce = .ldPtr y v → y = x) :
    Blk o pay s t ce s' [.rd x (s.lr.val x)] := by
  refine blk_one (e' := .rd x (s.lr.val x)) hl hlr (.inr (by simp [LR.toHB, hce])) ?_ ?_ ?_
  · intro a od h; rw [hce] at h; cases h
  · intro y v h; exact absurd h (h4 y v)
  · intro y v h; exact ⟨_, by rw [h5 y v h]⟩

theorem blk_step (hs : step s t ce = some s') : ∃ block, Blk o pay s t ce s' block := by
  cases Step.of_step hs with
  | rdA_ldRL _ hl | lkA_ldRL _ hl => exact ⟨_, blk_got hl rfl rfl⟩
  | rdP_dec _ hl | lkC_dec _ hl | lkT_dec _ hl => exact ⟨_, blk_rel hl rfl rfl⟩
  | rdH_ldPtr _ _ hl | lkH_ldPtr _ _ hl => exact ⟨_, blk_rd hl rfl rfl nofun fun _ _ h => by cases h; rfl⟩
  | rdH_ldCtl _ hl => exact ⟨_, blk_rd hl rfl rfl nofun nofun⟩
  | rdA_ldCL _ hl | rdA_inc _ hl | lkA_ldCL _ hl | lkA_inc _ hl | relA_lock _ hl | relA_neutral _ _ hl | relB_stRL _ hl
  | relB_unlock _ hl | relB_neutral _ _ hl => exact ⟨_, blk_one hl rfl (.inr rfl) (fun _ _ h => h) nofun nofun⟩
  | idle_callShared _ hl | lkCalled_olock _ _ hl | wHold_callRelease _ hl | relC_ounlock _ _ hl =>
    exact ⟨_, blk_one hl rfl (.inl rfl) nofun nofun nofun⟩
  | relA_stPtr _ hl | relB_stPtr _ hl => exact ⟨_, blk_one hl rfl (.inr rfl) nofun (fun _ _ h => by cases h; rfl) nofun⟩
  | relA_stCtl _ _ _ hl | relB_stCtl _ _ _ hl => exact ⟨_, blk_one hl rfl (.inr rfl) nofun nofun nofun⟩
  | _ => exact ⟨[], blk_nil rfl rfl⟩

end ConcVerif.Cow
