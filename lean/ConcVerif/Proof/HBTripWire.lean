import ConcVerif.Proof.TripWire
import ConcVerif.Proof.HBUtil
/-! Connection of the TripWire model to the happens-before layer.

The model carries a publication GHOST: `know t` (the plain client writes thread `t` knows about) and
`msg l` (the view attached to line `l` by releasing stores / exchanges); a load of a line joins
`msg l` into the loader's `know`, and a client read is accepted only when its value is in the reader's
`know`.  Here the ghost is shown SOUND for happens-before: whatever is in `know t` is a client write
that happens-before-or-is an anchor of `t` (`GK`), whatever is in `msg l` is a client write ordered
before the head of the line's current release sequence (`GM`).  Hence every accepted client read of a
value `v ≠ 0` happens-after a write of that value, and every overwriting client write happens-after a
write of the value it overwrites.

Event map: line `l` ↦ atomic `lineLoc l` with the memory order of the event; the model accepts only
releasing tripping stores / exchanges and acquiring loads (weaker orders are rejected by `step`);
client datum `d` ↦ plain location `d`; the first event `fork` of a thread `t` is its creation by the
main thread `0` (`(0, fork t)`, as in `Driver/HB.lean`). -/
namespace ConcVerif.TripWire
open HB (HBeq KnA lq_lt lq_mono lq_snoc lq_last)

def cvt : Ord → HB.Ord
  | .rlx => .rlx | .con => .con | .acq => .acq | .rel => .rel | .ar => .ar | .sc => .sc

theorem cvt_rel {o : Ord} (h : o.isRelease = true) : (cvt o).isRel = true := by
  cases o <;> simp_all [Ord.isRelease, cvt, HB.Ord.isRel]

theorem cvt_acq {o : Ord} (h : o.isAcquire = true) : (cvt o).isAcq = true := by
  cases o <;> simp_all [Ord.isAcquire, cvt, HB.Ord.isAcq]

def lineLoc : LineId → HB.Loc
  | .decl => 0
  | .idx k => 2 * k + 1
  | .expl k => 2 * k + 2

theorem lineLoc_inj {a b : LineId} (h : lineLoc a = lineLoc b) : a = b := by
  cases a <;> cases b <;> simp [lineLoc] at h <;> first | rfl | omega | (congr 1; omega)

def toHB : Tid × Ev → Tid × HB.Ev
  | (t, .fork) => (0, .fork t)
  | (t, .ld l o _) => (t, .ld (lineLoc l) (cvt o))
  | (t, .st l o _) => (t, .st (lineLoc l) (cvt o))
  | (t, .xchg l o _ _) => (t, .rmw (lineLoc l) (cvt o))
  | (t, .pwr d _) => (t, .wr d)
  | (t, .prd d _) => (t, .rd d)
  | (t, _) => (t, .nop)

def hbTrace (es : List (Tid × Ev)) : HB.Trace := es.map toHB

theorem hbTrace_snoc (es : List (Tid × Ev)) (x : Tid × Ev) : hbTrace (es ++ [x]) = hbTrace es ++ [toHB x] := by
  simp [hbTrace]

theorem hbTrace_append (es ext : List (Tid × Ev)) : hbTrace (es ++ ext) = hbTrace es ++ hbTrace ext := by
  simp [hbTrace]

@[simp] theorem hbTrace_length (es : List (Tid × Ev)) : (hbTrace es).length = es.length := by simp [hbTrace]

theorem hbTrace_get {es : List (Tid × Ev)} {i : Nat} {p : Tid × Ev} (h : es[i]? = some p) :
    (hbTrace es)[i]? = some (toHB p) := by simp [hbTrace, h]

/-- only a store of line `l` is mapped to a store of `lineLoc l` -/
theorem hbTrace_st_inv {es : List (Tid × Ev)} {k : Nat} {w : Tid} {l : LineId} {o : HB.Ord}
    (h : (hbTrace es)[k]? = some (w, .st (lineLoc l) o)) : ∃ o' v, es[k]? = some (w, Ev.st l o' v) := by
  simp only [hbTrace, List.getElem?_map] at h
  cases hk : es[k]? with
  | none => simp [hk] at h
  | some p =>
    obtain ⟨u, e⟩ := p
    simp [hk] at h
    cases e <;> simp [toHB] at h
    obtain ⟨h1, h2, _⟩ := h
    subst h1; rw [lineLoc_inj h2]; exact ⟨_, _, rfl⟩

section
variable {s s' : St} {t : Tid} {l : LineId} {o : Ord}

theorem xchg_inv {a b : Bool} (hs : step s t (.xchg l o a b) = some s') : o.isRelease = true := by
  have h := Step.of_step hs
  generalize s.pc t = p at h
  cases h with
  | tripX _ ho => exact ho

theorem pwr_inv {d v : Nat} (hs : step s t (.pwr d v) = some s') : s.data d = 0 ∨ (d, s.data d) ∈ s.know t := by
  have h := Step.of_step hs
  generalize s.pc t = p at h
  cases h with
  | pwr _ hk => exact hk

theorem prd_inv {d v : Nat} (hs : step s t (.prd d v) = some s') :
    v = 0 ∨ (d, v) ∈ s.know t := by
  have h := Step.of_step hs
  generalize s.pc t = p at h
  cases h with
  | prd _ hk => exact hk

end

/-! ### heads of release sequences on a line -/

def RelW (e : Ev) (l : LineId) : Prop :=
  (∃ o v, e = .st l o v ∧ o.isRelease = true) ∨ (∃ o a b, e = .xchg l o a b ∧ o.isRelease = true)

theorem relW_hb {t : Tid} {e : Ev} {l : LineId} (h : RelW e l) :
    ∃ he, toHB (t, e) = (t, he) ∧ HB.RelWrite he (lineLoc l) := by
  rcases h with ⟨o, v, rfl, ho⟩ | ⟨o, a, b, rfl, ho⟩
  · exact ⟨_, rfl, cvt o, cvt_rel ho, .inl rfl⟩
  · exact ⟨_, rfl, cvt o, cvt_rel ho, .inr rfl⟩

/-- position `q` holds a releasing write of `l` and no plain store of `l` follows it: every later
acquiring load of `l` reads from its release sequence -/
def HeadAt (es : List (Tid × Ev)) (l : LineId) (q : Nat) : Prop :=
  ∃ w e, es[q]? = some (w, e) ∧ RelW e l ∧ ∀ k w' o v, q < k → es[k]? ≠ some (w', Ev.st l o v)

theorem HeadAt.snoc {es : List (Tid × Ev)} {l : LineId} {q : Nat} (x : Tid × Ev) (h : HeadAt es l q)
    (hx : ∀ o v, x.2 ≠ .st l o v) : HeadAt (es ++ [x]) l q := by
  obtain ⟨w, e, h1, h2, h3⟩ := h
  refine ⟨w, e, lq_mono _ h1, h2, ?_⟩
  intro k w' o v hqk hk
  rcases lq_snoc hk with ⟨_, hk'⟩ | ⟨_, hp⟩
  · exact h3 k w' o v hqk hk'
  · rw [← hp] at hx; exact hx o v rfl

theorem HeadAt.last (es : List (Tid × Ev)) {t : Tid} {e : Ev} {l : LineId} (h : RelW e l) :
    HeadAt (es ++ [(t, e)]) l es.length := by
  refine ⟨t, e, lq_last _ _, h, ?_⟩
  intro k w' o v hk hc
  have := lq_lt hc
  simp at this; omega

theorem head_sw {es : List (Tid × Ev)} {l : LineId} {q : Nat} {t : Tid} {o : Ord} (h : HeadAt es l q)
    (ho : o.isAcquire = true) :
    HB.Sw (hbTrace es ++ [(t, .ld (lineLoc l) (cvt o))]) q (hbTrace es).length := by
  obtain ⟨w, e, hq, hr, hlast⟩ := h
  obtain ⟨he, h1, h2⟩ := relW_hb (t := w) hr
  have hlt : q < (hbTrace es).length := by simp; exact lq_lt hq
  refine .atomic (a := lineLoc l) hlt (HB.lq_mono _ (by rw [hbTrace_get hq, h1])) (HB.lq_last _ _) h2
    ⟨cvt o, cvt_acq ho, .inl rfl⟩ ?_
  intro k u od hk1 hk2 hc
  rw [List.getElem?_append_left hk2] at hc
  obtain ⟨o', v', hk⟩ := hbTrace_st_inv hc
  exact hlast k u o' v' hk1 hk

/-! ### soundness of the ghost -/

/-- every entry of `know t` is a client write that thread `t` knows in the happens-before sense -/
def GK (es : List (Tid × Ev)) (know : Tid → List Wr) : Prop :=
  ∀ t d v, (d, v) ∈ know t → ∃ i u, es[i]? = some (u, Ev.pwr d v) ∧ KnA (hbTrace es) t i

/-- every entry of `msg l` is a client write ordered before the head of the current release sequence of `l` -/
def GM (es : List (Tid × Ev)) (msg : LineId → List Wr) : Prop :=
  ∀ l d v, (d, v) ∈ msg l → ∃ i u, es[i]? = some (u, Ev.pwr d v) ∧ ∃ q, HeadAt es l q ∧ HBeq (hbTrace es) i q

theorem GK_snoc {es : List (Tid × Ev)} {know : Tid → List Wr} (x : Tid × Ev) (h : GK es know) : GK (es ++ [x]) know := by
  intro t d v hm
  obtain ⟨i, u, h1, h2⟩ := h t d v hm
  exact ⟨i, u, lq_mono _ h1, by rw [hbTrace_append]; exact h2.mono _⟩

theorem GM_snoc {es : List (Tid × Ev)} {msg : LineId → List Wr} (x : Tid × Ev) (h : GM es msg)
    (hx : x.2.isWrite = false) : GM (es ++ [x]) msg := by
  intro l d v hm
  obtain ⟨i, u, h1, q, h2, h3⟩ := h l d v hm
  refine ⟨i, u, lq_mono _ h1, q, h2.snoc x fun o v hc => ?_, by rw [hbTrace_append]; exact h3.mono _⟩
  rw [hc] at hx; cases hx

/-- the acting thread's knowledge is replaced by `new`, every entry of which is justified -/
theorem GK_upd {es : List (Tid × Ev)} {know : Tid → List Wr} {t : Tid} (x : Tid × Ev) {new : List Wr} (h : GK es know)
    (hnew : ∀ d v, (d, v) ∈ new → ∃ i u, (es ++ [x])[i]? = some (u, Ev.pwr d v) ∧ KnA (hbTrace (es ++ [x])) t i) :
    GK (es ++ [x]) (upd know t new) := by
  intro u d v hm
  by_cases hu : u = t
  · subst hu; rw [upd_same] at hm; exact hnew d v hm
  · rw [upd_other _ _ _ _ hu] at hm; exact GK_snoc x h u d v hm

theorem ghost_sound_step {es : List (Tid × Ev)} {s s' : St} {t : Tid} {e : Ev} (hk : GK es s.know) (hm : GM es s.msg)
    (hs : step s t e = some s') : GK (es ++ [(t, e)]) s'.know ∧ GM (es ++ [(t, e)]) s'.msg := by
  have h := Step.of_step hs
  generalize s.pc t = p at h
  -- only these five edges touch `know` or `msg`
  cases h with
  | fork =>
    refine ⟨GK_upd _ hk ?_, GM_snoc _ hm rfl⟩
    intro d v hmem
    rcases List.mem_append.1 hmem with h1 | h1
    · exact GK_snoc _ hk _ _ _ h1
    · obtain ⟨i, u, hi, hkn⟩ := hk 0 d v h1
      refine ⟨i, u, lq_mono _ hi, ?_⟩
      rw [hbTrace_snoc]
      exact KnA.of_last_fork (.inr (hkn.to_last _))
  | @load _ l _ o _ ho =>
    refine ⟨GK_upd _ hk ?_, GM_snoc _ hm rfl⟩
    intro d w hmem
    rcases List.mem_append.1 hmem with h1 | h1
    · exact GK_snoc _ hk _ _ _ h1
    · obtain ⟨i, u, hi, q, hq, hb⟩ := hm l d w h1
      refine ⟨i, u, lq_mono _ hi, ?_⟩
      rw [hbTrace_snoc]
      exact KnA.of_last ((hb.mono _).trans (.inr (.sw (head_sw hq ho))))
  | @trip _ l o ho =>
    refine ⟨GK_snoc _ hk, ?_⟩
    intro l' d w hmem
    change (d, w) ∈ set s.msg l _ l' at hmem
    by_cases hl : l' = l
    · subst hl
      rw [set_same] at hmem
      obtain ⟨i, u, hi, hkn⟩ := hk t d w hmem
      refine ⟨i, u, lq_mono _ hi, es.length, HeadAt.last es (.inl ⟨o, true, rfl, ho⟩), ?_⟩
      have h := hkn.to_last (.st (lineLoc l') (cvt o))
      rw [hbTrace_length] at h
      rw [hbTrace_snoc]; exact .inr h
    · rw [set_other _ _ _ _ hl] at hmem
      obtain ⟨i, u, h1, q, h2, h3⟩ := hm l' d w hmem
      refine ⟨i, u, lq_mono _ h1, q, h2.snoc _ ?_, by rw [hbTrace_append]; exact h3.mono _⟩
      intro o' v' hc; injection hc with hc; exact hl hc.symm
  | @tripX _ l o old _ ho =>
    refine ⟨GK_snoc _ hk, ?_⟩
    intro l' d w hmem
    change (d, w) ∈ set s.msg l _ l' at hmem
    by_cases hl : l' = l
    · subst hl
      rw [set_same] at hmem
      rcases List.mem_append.1 hmem with h1 | h1
      · obtain ⟨i, u, h1, q, h2, h3⟩ := hm l' d w h1
        exact ⟨i, u, lq_mono _ h1, q, h2.snoc _ nofun, by rw [hbTrace_append]; exact h3.mono _⟩
      · obtain ⟨i, u, hi, hkn⟩ := hk t d w h1
        refine ⟨i, u, lq_mono _ hi, es.length, HeadAt.last es (.inr ⟨o, true, old, rfl, ho⟩), ?_⟩
        have h := hkn.to_last (.rmw (lineLoc l') (cvt o))
        rw [hbTrace_length] at h
        rw [hbTrace_snoc]; exact .inr h
    · rw [set_other _ _ _ _ hl] at hmem
      obtain ⟨i, u, h1, q, h2, h3⟩ := hm l' d w hmem
      exact ⟨i, u, lq_mono _ h1, q, h2.snoc _ nofun, by rw [hbTrace_append]; exact h3.mono _⟩
  | pwr =>
    refine ⟨GK_upd _ hk ?_, GM_snoc _ hm rfl⟩
    intro d' w hmem
    rcases List.mem_cons.1 hmem with h1 | h1
    · cases h1
      refine ⟨es.length, t, lq_last _ _, ?_⟩
      rw [hbTrace_snoc]
      exact KnA.of_last (.inl (hbTrace_length es).symm)
    · exact GK_snoc _ hk _ _ _ h1
  | _ => exact ⟨GK_snoc _ hk, GM_snoc _ hm rfl⟩

theorem ghost_sound_run {n : Nat} {es : List (Tid × Ev)} {s : St} (h : run n es = some s) : GK es s.know ∧ GM es s.msg :=
  runFrom_trace_inv (P := fun es s => GK es s.know ∧ GM es s.msg) ⟨fun _ _ _ hm => (List.not_mem_nil hm).elim, fun _ _ _ hm => (List.not_mem_nil hm).elim⟩
    (fun _ _ _ _ _ _ hp hs => ghost_sound_step hp.1 hp.2 hs) h

/-! ### consequences for every accepted trace -/

/-- an accepted client read of `v ≠ 0`: a write of that value to that datum happens-before it -/
theorem tw_read_hb {n : Nat} {es : List (Tid × Ev)} {s s' : St} {t : Tid} {d v : Nat} (h : run n es = some s)
    (hs : step s t (.prd d v) = some s') (hv : v ≠ 0) :
    ∃ i u, es[i]? = some (u, Ev.pwr d v) ∧ HB.HB (hbTrace (es ++ [(t, .prd d v)])) i es.length := by
  rcases prd_inv hs with h0 | hm
  · exact absurd h0 hv
  · obtain ⟨i, u, hi, hkn⟩ := (ghost_sound_run h).1 t d v hm
    refine ⟨i, u, hi, ?_⟩
    have h := hkn.to_last (.rd d)
    rw [hbTrace_length] at h
    rw [hbTrace_snoc]; exact h

/-- an accepted client write over a value `≠ 0`: a write of the overwritten value happens-before it -/
theorem tw_write_hb {n : Nat} {es : List (Tid × Ev)} {s s' : St} {t : Tid} {d v : Nat} (h : run n es = some s)
    (hs : step s t (.pwr d v) = some s') (hd : s.data d ≠ 0) :
    ∃ i u, es[i]? = some (u, Ev.pwr d (s.data d)) ∧ HB.HB (hbTrace (es ++ [(t, .pwr d v)])) i es.length := by
  rcases pwr_inv hs with h0 | hm
  · exact absurd h0 hd
  · obtain ⟨i, u, hi, hkn⟩ := (ghost_sound_run h).1 t d _ hm
    refine ⟨i, u, hi, ?_⟩
    have h := hkn.to_last (.wr d)
    rw [hbTrace_length] at h
    rw [hbTrace_snoc]; exact h

/-- every write of a line in an accepted trace is releasing -/
theorem write_relW {n : Nat} {es : List (Tid × Ev)} {s : St} (h : run n es = some s) {k : Nat} {t : Tid} {ek : Ev}
    {l : LineId} (hk : es[k]? = some (t, ek)) (hw : ek.isWrite = true) (hline : ek.line? = some l) : RelW ek l := by
  obtain ⟨s1, s2, _, st1⟩ := runFrom_at h hk
  cases ek <;> simp [Ev.isWrite] at hw
  · simp [Ev.line?] at hline; subst hline
    exact .inl ⟨_, _, rfl, (st_inv st1).2.1⟩
  · simp [Ev.line?] at hline; subst hline
    exact .inr ⟨_, _, _, rfl, xchg_inv st1⟩

/-- the tripping write at `k` synchronises with every later load of the line that reads from it or
from an exchange continuing its release sequence (no plain store of the line in between) -/
theorem tw_trip_sw {n : Nat} {es : List (Tid × Ev)} {s : St} (h : run n es = some s) {k j : Nat} {t r : Tid} {ek : Ev}
    {l : LineId} {o : Ord} {v : Bool} (hk : es[k]? = some (t, ek)) (hw : ek.isWrite = true) (hline : ek.line? = some l)
    (hj : es[j]? = some (r, .ld l o v)) (hkj : k < j)
    (hno : ∀ m w o' v', k < m → m < j → es[m]? ≠ some (w, Ev.st l o' v')) : HB.Sw (hbTrace es) k j := by
  obtain ⟨s3, s4, _, st2⟩ := runFrom_at h hj
  obtain ⟨he, h1, h2⟩ := relW_hb (t := t) (write_relW h hk hw hline)
  refine .atomic (a := lineLoc l) hkj (by rw [hbTrace_get hk, h1]) (hbTrace_get hj) h2
    ⟨cvt o, cvt_acq (ld_inv st2).2.1, .inl rfl⟩ ?_
  intro m u od h3 h4 hc
  obtain ⟨o', v', hm⟩ := hbTrace_st_inv hc
  exact hno m u o' v' h3 h4 hm

end ConcVerif.TripWire
