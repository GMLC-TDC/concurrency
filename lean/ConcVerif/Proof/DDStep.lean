import ConcVerif.Model.DD
/-! The accepted edges of the DelayedDestructor model as a relation: one constructor per edge, the successor state
written out.  Every per-step fact is proved by `cases` on `Step`.  The arms of `of_step` follow the order of the `match`
in `step`.

What the numbers in the model's edges transcribe (gmlc/concurrency/DelayedDestructor.hpp): `callDestroyD ms` starts with
`delayCount = (delay < 100ms) ? 1 : delay.count() / 50` (`if ms < 100 then 1 else ms / 50`, lines 157–159); the loop
`while (elementSize > 0 && cnt < delayCount)` with `if (cnt > 0)` sleep first is `gNext` / `gBody` (163–184); in
`~DelayedDestructor` `if (ii > 4) { destroyObjects(); break; }` and `if (ii % 2 == 0) sleep_for(100ms) else yield()`
are the tests of `xAfter` (48–68). -/
namespace ConcVerif.DD

/-- user-level markers and calls of thread `t` whose stack is `fs` (`stepUser` as a relation) -/
inductive UStep (s : St) (t : Tid) (fs : List Frame) : Ev → St → Prop
  | new {k} (hk : k ∉ s.created) :
      UStep s t fs (.new k) { s with ext := fun j => if j = k then 1 else s.ext j, created := k :: s.created }
  | dup {k} (hk : s.ext k > 0) :
      UStep s t fs (.dup k) { s with ext := fun j => if j = k then s.ext k + 1 else s.ext j }
  | dropLast {k} (hk : s.ext k > 0) (h0 : refs (s.decExt k) k = 0) :
      UStep s t fs (.drop k) ({ s.decExt k with pend := k :: s.pend }.setStk t (.dying k :: fs))
  | drop {k} (hk : s.ext k > 0) (h0 : ¬ refs (s.decExt k) k = 0) : UStep s t fs (.drop k) (s.decExt k)
  | callAddMv {k} (hm : s.mayCall t = true) (hk : s.ext k > 0) :
      UStep s t fs (.callAdd k true) (s.setStk t (.addCalled k true :: fs))
  | callAdd {k} (hm : s.mayCall t = true) (hk : s.ext k > 0 ∨ inCbOf k fs = true) :
      UStep s t fs (.callAdd k false)
        ({ s with ext := fun j => if j = k then s.ext k + 1 else s.ext j }.setStk t (.addCalled k false :: fs))
  | callSize (hm : s.mayCall t = true) : UStep s t fs .callSize (s.setStk t (.sizeCalled :: fs))
  | callDestroy (hm : s.mayCall t = true) : UStep s t fs .callDestroy (s.setStk t (.dCalled :: fs))
  | callDestroyD {ms} (hm : s.mayCall t = true) :
      UStep s t fs (.callDestroyD ms) (s.setStk t (.gCalled (if ms < 100 then 1 else ms / 50) :: fs))
  | callDtor (hfs : fs = []) (ha : s.act = []) (hd : s.dead = none) :
      UStep s t fs .callDtor (xTop { s with dead := some t } t 0 [])

theorem UStep.of_stepUser {s s' : St} {t : Tid} {fs : List Frame} {e : Ev} (h : stepUser s t fs e = some s') :
    UStep s t fs e s' := by
  cases e <;> simp only [stepUser, reduceCtorEq] at h
  case new k => split at h <;> cases h; exact .new ‹_›
  case dup k => split at h <;> cases h; exact .dup ‹_›
  case drop k =>
    split at h
    · split at h <;> cases h
      · exact .dropLast ‹_› ‹_›
      · exact .drop ‹_› ‹_›
    · cases h
  case callAdd k mv =>
    split at h
    · cases h
    · have hm : s.mayCall t = true := by simpa using ‹¬ (!s.mayCall t) = true›
      cases mv
      · simp only [Bool.false_eq_true, if_false] at h
        split at h <;> cases h
        exact .callAdd hm (((Bool.or_eq_true _ _).mp ‹_›).imp of_decide_eq_true id)
      · simp only [if_true] at h
        split at h <;> cases h
        exact .callAddMv hm ‹_›
  case callSize => split at h <;> cases h; exact .callSize ‹_›
  case callDestroy => split at h <;> cases h; exact .callDestroy ‹_›
  case callDestroyD ms => split at h <;> cases h; exact .callDestroyD ‹_›
  case callDtor =>
    split at h <;> cases h
    exact .callDtor (‹_ ∧ _ ∧ _›).1 (‹_ ∧ _ ∧ _›).2.1 (‹_ ∧ _ ∧ _›).2.2

/-- the accepted edges of thread `t` (`step` as a relation); `rest` is the stack below the top frame -/
inductive Step (s : St) (t : Tid) : List Frame → Ev → St → Prop
  | user {fs e s'} (hu : userLevel fs = true) (h : UStep s t fs e s') : Step s t fs e s'
  | addLock {k mv rest} (hl : s.lock = none) (hk : s.ext k > 0) :
      Step s t (.addCalled k mv :: rest) .mlk
        ({ s with lock := some t, vec := s.vec ++ [k], added := k :: s.added,
                  ext := fun j => if j = k then s.ext k - 1 else s.ext j }.setStk t (.addLocked mv :: rest))
  | addUnlock {mv rest} (hl : s.lock = some t) :
      Step s t (.addLocked mv :: rest) .mul ((unlock s).setStk t (.addRet mv :: rest))
  | addRet {mv rest} : Step s t (.addRet mv :: rest) (.retAdd mv) (s.setStk t rest)
  | sizeLock {rest} (hl : s.lock = none) :
      Step s t (.sizeCalled :: rest) .mlk ({ s with lock := some t }.setStk t (.sizeLocked :: rest))
  | sizeUnlock {rest} (hl : s.lock = some t) :
      Step s t (.sizeLocked :: rest) .mul ((unlock s).setStk t (.sizeRet s.vec.length :: rest))
  | sizeRet {n rest} : Step s t (.sizeRet n :: rest) (.retSize n) (s.setStk t rest)
  | dLock {skip rest} (hl : s.lock = none) :
      Step s t (.dCalled :: rest) (.mtf true skip) (select s t skip rest)
  | dTimeout {skip rest} : Step s t (.dCalled :: rest) (.mtf false skip) (dDone s t none rest)
  | dUnlock0 {rest} (hl : s.lock = some t) :
      Step s t (.dUnlock0 :: rest) .mul (dDone (unlock s) t (some s.vec.length) rest)
  | dUnlock1Cb {sz ec rest} (hl : s.lock = some t) (hcb : s.hasCb = true) :
      Step s t (.dUnlock1 sz ec :: rest) .mul ((unlock s).setStk t (.dCb sz ec [] ec :: rest))
  | dUnlock1 {sz ec rest} (hl : s.lock = some t) (hcb : ¬ s.hasCb = true) :
      Step s t (.dUnlock1 sz ec :: rest) .mul (drain (unlock s) t sz [] false rest ec)
  | cbStart {sz ec cbs k todo rest} :
      Step s t (.dCb sz ec cbs (k :: todo) :: rest) (.ucb k) (s.setStk t (.dInCb sz ec cbs k todo :: rest))
  | cbEndLast {sz ec cbs k rest} :
      Step s t (.dInCb sz ec cbs k [] :: rest) (.uce k) (drain s t sz (cbs ++ [k]) false rest ec)
  | cbEnd {sz ec cbs k todo rest} (hne : ¬ todo = []) :
      Step s t (.dInCb sz ec cbs k todo :: rest) (.uce k) (s.setStk t (.dCb sz ec (cbs ++ [k]) todo :: rest))
  | cbThrow {sz ec cbs k todo rest} :
      Step s t (.dInCb sz ec cbs k todo :: rest) (.uth k) (drain s t sz cbs true rest ec)
  | dRelock {sz skip rest} (hl : s.lock = none) :
      Step s t (.dRelock sz :: rest) (.mtf true skip) ({ s with lock := some t }.setStk t (.dUnlock2 :: rest))
  | dRelockTimeout {sz skip rest} :
      Step s t (.dRelock sz :: rest) (.mtf false skip) (dDone s t (some sz) rest)
  | dUnlock2 {rest} (hl : s.lock = some t) :
      Step s t (.dUnlock2 :: rest) .mul (dDone (unlock s) t (some s.vec.length) rest)
  | dRet {r rest} : Step s t (.dRet r :: rest) (.retDestroy r) (s.setStk t rest)
  | dtorStart {k rest} (hk : k ∈ s.pend) :
      Step s t (.dying k :: rest) (.pdt k) ({ s with pend := s.pend.erase k, destroyed := k :: s.destroyed }.setStk t (.inDt k :: rest))
  | dtorEnd {k rest} : Step s t (.inDt k :: rest) (.pde k) (resume s t rest)
  | gLock {dc skip rest} (hl : s.lock = none) :
      Step s t (.gCalled dc :: rest) (.mtf true skip) ({ s with lock := some t }.setStk t (gNext s.vec.length dc 0 s.vec.length :: rest))
  | gTimeout {dc skip rest} :
      Step s t (.gCalled dc :: rest) (.mtf false skip) (s.setStk t (.gRet none :: rest))
  | gUnlockS {dc cnt es rest} (hl : s.lock = some t) :
      Step s t (.gUnlockS dc cnt es :: rest) .mul ((unlock s).setStk t (.gSleep dc cnt es :: rest))
  | gSleep {dc cnt es rest} :
      Step s t (.gSleep dc cnt es :: rest) .slp (s.setStk t (.gRelockS dc cnt es :: rest))
  | gRelockS {dc cnt es skip rest} (hl : s.lock = none) :
      Step s t (.gRelockS dc cnt es :: rest) (.mtf true skip) ({ s with lock := some t }.setStk t (gBody s.vec.length dc cnt :: rest))
  | gRelockSTimeout {dc cnt es skip rest} :
      Step s t (.gRelockS dc cnt es :: rest) (.mtf false skip) (s.setStk t (.gRet (some es) :: rest))
  | gUnlockD {dc cnt es rest} (hl : s.lock = some t) :
      Step s t (.gUnlockD dc cnt es :: rest) .mul ((unlock s).setStk t (.dCalled :: .gInner dc cnt es :: rest))
  | gRelockD {dc cnt es skip rest} (hl : s.lock = none) :
      Step s t (.gRelockD dc cnt es :: rest) (.mtf true skip) ({ s with lock := some t }.setStk t (gNext s.vec.length dc cnt es :: rest))
  | gRelockDTimeout {dc cnt es skip rest} :
      Step s t (.gRelockD dc cnt es :: rest) (.mtf false skip) (s.setStk t (.gRet (some es) :: rest))
  | gUnlockE {rest} (hl : s.lock = some t) :
      Step s t (.gUnlockE :: rest) .mul ((unlock s).setStk t (.gRet (some s.vec.length) :: rest))
  | gRet {r rest} : Step s t (.gRet r :: rest) (.retDestroyD r) (s.setStk t rest)
  | xYield {ii rest} : Step s t (.xYield ii :: rest) .yld (xTop s t ii rest)
  | xSleep {ii rest} : Step s t (.xSleep ii :: rest) .slp (xTop s t ii rest)
  | xRet {rest} : Step s t (.xRet :: rest) .retDtor (s.setStk t rest)

theorem Step.of_step {s s' : St} {t : Tid} {e : Ev} (h : step s t e = some s') : Step s t (s.stk t) e s' := by
  unfold step at h
  split at h
  all_goals try rw [‹s.stk t = _›]
  · exact .user rfl (.of_stepUser h)
  · split at h <;> cases h; exact .addLock (‹_ ∧ _›).1 (‹_ ∧ _›).2
  · split at h <;> cases h; exact .addUnlock ‹_›
  · split at h <;> cases h; subst ‹_ = _›; exact .addRet
  · split at h <;> cases h; exact .sizeLock ‹_›
  · split at h <;> cases h; exact .sizeUnlock ‹_›
  · split at h <;> cases h; subst ‹_ = _›; exact .sizeRet
  · rename_i ok _ _
    cases ok <;> simp only [Bool.false_eq_true, ↓reduceIte] at h
    · cases h; exact .dTimeout
    · split at h <;> cases h; exact .dLock ‹_›
  · split at h <;> cases h; exact .dUnlock0 ‹_›
  · split at h
    · split at h <;> cases h
      · exact .dUnlock1Cb ‹_› ‹_›
      · exact .dUnlock1 ‹_› ‹_›
    · cases h
  · split at h <;> cases h; subst ‹_ = _›; exact .cbStart
  · split at h
    next hk =>
      subst hk
      split at h <;> cases h
      next h0 => subst h0; exact .cbEndLast
      next h0 => exact .cbEnd h0
    next => cases h
  · split at h <;> cases h; subst ‹_ = _›; exact .cbThrow
  · exact .user rfl (.of_stepUser h)
  · rename_i ok _ _
    cases ok <;> simp only [Bool.false_eq_true, ↓reduceIte] at h
    · cases h; exact .dRelockTimeout
    · split at h <;> cases h; exact .dRelock ‹_›
  · split at h <;> cases h; exact .dUnlock2 ‹_›
  · split at h <;> cases h; subst ‹_ = _›; exact .dRet
  · split at h <;> cases h; cases (‹_ ∧ _›).1; exact .dtorStart (‹_ ∧ _›).2
  · split at h <;> cases h; subst ‹_ = _›; exact .dtorEnd
  · exact .user rfl (.of_stepUser h)
  · rename_i ok _ _
    cases ok <;> simp only [Bool.false_eq_true, ↓reduceIte] at h
    · cases h; exact .gTimeout
    · split at h <;> cases h; exact .gLock ‹_›
  · split at h <;> cases h; exact .gUnlockS ‹_›
  · cases h; exact .gSleep
  · rename_i ok _ _
    cases ok <;> simp only [Bool.false_eq_true, ↓reduceIte] at h
    · cases h; exact .gRelockSTimeout
    · split at h <;> cases h; exact .gRelockS ‹_›
  · split at h <;> cases h; exact .gUnlockD ‹_›
  · rename_i ok _ _
    cases ok <;> simp only [Bool.false_eq_true, ↓reduceIte] at h
    · cases h; exact .gRelockDTimeout
    · split at h <;> cases h; exact .gRelockD ‹_›
  · split at h <;> cases h; exact .gUnlockE ‹_›
  · split at h <;> cases h; subst ‹_ = _›; exact .gRet
  · cases h; exact .xYield
  · cases h; exact .xSleep
  · cases h; exact .xRet
  · cases h

theorem Step.inv {s s' : St} {t : Tid} {e : Ev} (h : step s t e = some s') : ∃ fs, s.stk t = fs ∧ Step s t fs e s' :=
  ⟨_, rfl, .of_step h⟩

end ConcVerif.DD
