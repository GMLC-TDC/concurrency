import ConcVerif.Model.Trigger
/-! The accepted steps of the TriggerVariable model as an inductive predicate (`Step.of_step`).  Every fact about one
step is proved by `cases` on it: source and target pc are indices, so fixing either leaves only the edges that match. -/
namespace ConcVerif.Trigger

/-- `Step s t p e p' s₁`: in state `s` thread `t`, at pc `p`, may perform `e`; it moves to `p'` and the rest of the
state becomes `s₁`.  One constructor per edge of the methods' control flow; the guard of the edge is
the constructor's hypotheses. -/
inductive Step (s : St) (t : Tid) : Pc → Ev → Pc → St → Prop
  | callActivate : Step s t .idle (.call .activate) .aCalled s
  | callTrigger : Step s t .idle (.call .trigger) (.tCalled .top) s
  | callWait : Step s t .idle (.call .wait) (.wCalled .wait) { s with obs := upd s.obs t none }
  | callWaitFor : Step s t .idle (.call .waitFor) (.wCalled .waitFor) { s with obs := upd s.obs t none }
  | callWaitAct : Step s t .idle (.call .waitAct) (.wLock .waitAct) { s with obs := upd s.obs t none }
  | callWaitForAct : Step s t .idle (.call .waitForAct) (.wLock .waitForAct) { s with obs := upd s.obs t none }
  | callReset : Step s t .idle (.call .reset) .rCalled s
  | callIsActive : Step s t .idle (.call .isActive) (.oCalled .act) s
  | callIsTriggered : Step s t .idle (.call .isTriggered) (.oCalled .trig) s
  -- activate
  | aSawActive (hf : s.flag .act = true) : Step s t .aCalled (.ld .act .sc true) (.aRet false) s
  | aSawInactive (hf : s.flag .act = false) : Step s t .aCalled (.ld .act .sc false) .aLockT s
  | aLockT (hl : s.lock .trig = none) :
      Step s t .aLockT (.mlk .trig) .aClear { s with lock := updS s.lock .trig (some t) }
  | aClear : Step s t .aClear (.st .trig false) .aUnlockT
        { s with flag := updS s.flag .trig false, hist := s.hist ++ [HEv.clear t], lastClear := s.hist.length,
                 myClear := upd s.myClear t s.hist.length }
  | aUnlockT (hl : s.lock .trig = some t) :
      Step s t .aUnlockT (.mul .trig) .aLockA { s with lock := updS s.lock .trig none }
  | aLockA (hl : s.lock .act = none) :
      Step s t .aLockA (.mlk .act) (.aHold false false) { s with lock := updS s.lock .act (some t) }
  | aStore {nt : Bool} : Step s t (.aHold false nt) (.st .act true) (.aHold true nt)
        { s with flag := updS s.flag .act true, hist := s.hist ++ [HEv.setActive t], actClear := s.myClear t }
  | aNotify {st : Bool} : Step s t (.aHold st false) (.cna .act) (.aHold st true) { s with ws := updS s.ws .act [] }
  | aUnlockA (hl : s.lock .act = some t) :
      Step s t (.aHold true true) (.mul .act) (.aRet true) { s with lock := updS s.lock .act none }
  | aRet {r : Bool} : Step s t (.aRet r) (.ret .activate r) .idle s
  -- trigger
  | tSawActive {x : Ctx} (hf : s.flag .act = true) : Step s t (.tCalled x) (.ld .act .sc true) (.tLock x) s
  | tSawInactive (hf : s.flag .act = false) : Step s t (.tCalled .top) (.ld .act .sc false) (.tRet false) s
  | tSawInactiveNested (hf : s.flag .act = false) : Step s t (.tCalled .inReset) (.ld .act .sc false) .rRelock s
  | tLock {x : Ctx} (hl : s.lock .trig = none) :
      Step s t (.tLock x) (.mlk .trig) (.tHold x false false) { s with lock := updS s.lock .trig (some t) }
  | tStore {x : Ctx} {nt : Bool} : Step s t (.tHold x false nt) (.st .trig true) (.tHold x true nt)
        { s with flag := updS s.flag .trig true, hist := s.hist ++ [HEv.setTrig t] }
  | tNotify {x : Ctx} {st : Bool} :
      Step s t (.tHold x st false) (.cna .trig) (.tHold x st true) { s with ws := updS s.ws .trig [] }
  | tUnlock (hl : s.lock .trig = some t) :
      Step s t (.tHold .top true true) (.mul .trig) (.tRet true) { s with lock := updS s.lock .trig none }
  | tUnlockNested (hl : s.lock .trig = some t) :
      Step s t (.tHold .inReset true true) (.mul .trig) .rRelock { s with lock := updS s.lock .trig none }
  | tRet {r : Bool} : Step s t (.tRet r) (.ret .trigger r) .idle s
  -- the four waits
  | wSawActive {k : WKind} (hf : s.flag .act = true) :
      Step s t (.wCalled k) (.ld .act .sc true) (.wLock k) { s with obs := upd s.obs t (some s.actClear) }
  | wSawInactive {k : WKind} (hf : s.flag .act = false) :
      Step s t (.wCalled k) (.ld .act .sc false) (.wRet k true) { s with obs := upd s.obs t none }
  | wLock {k : WKind} {m : Side} (hm : m = k.side) (hl : s.lock m = none) :
      Step s t (.wLock k) (.mlk m) (.wHold k false) { s with lock := updS s.lock m (some t) }
  | wSawTrue {k : WKind} {f : Bool} {m : Side} (hm : m = k.side) (hf : s.flag m = true) :
      Step s t (.wHold k f) (.ld m .sc true) (.wUnlock k true) s
  | wSawFalse {k : WKind} {f : Bool} {m : Side} (hm : m = k.side) (hf : s.flag m = false) :
      Step s t (.wHold k f) (.ld m .sc false) (.wHold k true) s
  | wSleep {k : WKind} {m : Side} (hm : m = k.side) (hl : s.lock m = some t) :
      Step s t (.wHold k true) (.cwt m) (.wSleep k)
        { s with lock := updS s.lock m none, ws := updS s.ws m (t :: s.ws m) }
  | wNotified {k : WKind} {m : Side} (hm : m = k.side) (hl : s.lock m = none) (hw : t ∉ s.ws m) :
      Step s t (.wSleep k) (.cwk m .notified) (.wHold k false) { s with lock := updS s.lock m (some t) }
  | wSpurious {k : WKind} {m : Side} (hm : m = k.side) (hl : s.lock m = none) (hw : t ∈ s.ws m) :
      Step s t (.wSleep k) (.cwk m .spurious) (.wHold k false)
        { s with lock := updS s.lock m (some t), ws := updS s.ws m ((s.ws m).erase t) }
  | wTimeout {k : WKind} {m : Side} (hm : m = k.side) (hl : s.lock m = none) (hw : t ∈ s.ws m) (hk : k.timed = true) :
      Step s t (.wSleep k) (.cwk m .timeout) (.wTimedOut k)
        { s with lock := updS s.lock m (some t), ws := updS s.ws m ((s.ws m).erase t) }
  | wLateWake {k : WKind} {m : Side} (hm : m = k.side) (hl : s.lock m = none) (hw : t ∉ s.ws m) (hk : k.timed = true) :
      Step s t (.wSleep k) (.cwk m .late) (.wLate k) { s with lock := updS s.lock m (some t) }
  | wTimedOut {k : WKind} {m : Side} {v : Bool} (hm : m = k.side) (hv : v = s.flag m) :
      Step s t (.wTimedOut k) (.ld m .sc v) (.wUnlock k v) s
  | wLate {k : WKind} {m : Side} {v : Bool} (hm : m = k.side) (hv : v = s.flag m) :
      Step s t (.wLate k) (.ld m .sc v) (.wUnlock k v) s
  | wUnlock {k : WKind} {r : Bool} {m : Side} (hm : m = k.side) (hl : s.lock m = some t) :
      Step s t (.wUnlock k r) (.mul m) (.wRet k r) { s with lock := updS s.lock m none }
  | wRet {k : WKind} {r : Bool} {k' : Kind} (hk : k' = k.toKind) : Step s t (.wRet k r) (.ret k' r) .idle s
  -- reset
  | rLock (hl : s.lock .act = none) :
      Step s t .rCalled (.mlk .act) .rLocked { s with lock := updS s.lock .act (some t) }
  | rSawActive (hf : s.flag .act = true) : Step s t .rLocked (.ld .act .sc true) .rLoop s
  | rSawInactive (hf : s.flag .act = false) : Step s t .rLocked (.ld .act .sc false) (.rUnlock false) s
  | rSawTriggered {o : Ord} (hf : s.flag .trig = true) : Step s t .rLoop (.ld .trig o true) .rStore s
  | rSawUntriggered {o : Ord} (hf : s.flag .trig = false) : Step s t .rLoop (.ld .trig o false) .rRelease s
  | rRelease (hl : s.lock .act = some t) :
      Step s t .rRelease (.mul .act) (.tCalled .inReset) { s with lock := updS s.lock .act none }
  | rRelock (hl : s.lock .act = none) :
      Step s t .rRelock (.mlk .act) .rLoop { s with lock := updS s.lock .act (some t) }
  | rStore : Step s t .rStore (.st .act false) (.rUnlock true)
        { s with flag := updS s.flag .act false, hist := s.hist ++ [HEv.setInactive t] }
  | rUnlock {b : Bool} (hl : s.lock .act = some t) :
      Step s t (.rUnlock b) (.mul .act) .rRet { s with lock := updS s.lock .act none }
  | rRet : Step s t .rRet (.ret .reset true) .idle s
  -- isActive / isTriggered
  | oLoad {a : Side} {v : Bool} (hv : v = s.flag a) : Step s t (.oCalled a) (.ld a .sc v) (.oRet a v) s
  | oRet {a : Side} {v : Bool} {k : Kind} (hk : k = obsKind a) : Step s t (.oRet a v) (.ret k v) .idle s

section
variable {s s' s₁ : St} {t u : Tid} {m : Side} {p p' : Pc} {e : Ev}

theorem acquire_some (h : s.acquire m t p = some s') :
    s.lock m = none ∧ { s with lock := updS s.lock m (some t) }.setPc t p = s' :=
  ite_some h

theorem release_some (h : s.release m t p = some s') :
    s.lock m = some t ∧ { s with lock := updS s.lock m none }.setPc t p = s' :=
  ite_some h

theorem Step.ex (h : Step s t p e p' s₁) :
    ∃ q s₂, Step s t p e q s₂ ∧ s₁.setPc t p' = s₂.setPc t q :=
  ⟨_, _, h, rfl⟩

theorem Step.of_step (hs : step s t e = some s') :
    ∃ p' s₁, Step s t (s.pc t) e p' s₁ ∧ s' = s₁.setPc t p' := by
  unfold step at hs
  generalize s.pc t = p at hs ⊢
  -- one bullet per arm of the `match` in `step`, in that order
  split at hs
  · cases hs; exact Step.callActivate.ex
  · cases hs; exact Step.callTrigger.ex
  · cases hs; exact Step.callWait.ex
  · cases hs; exact Step.callWaitFor.ex
  · cases hs; exact Step.callWaitAct.ex
  · cases hs; exact Step.callWaitForAct.ex
  · cases hs; exact Step.callReset.ex
  · cases hs; exact Step.callIsActive.ex
  · cases hs; exact Step.callIsTriggered.ex
  next v =>
    obtain ⟨hv, rfl⟩ := ite_some hs
    cases v
    · exact (Step.aSawInactive hv.symm).ex
    · exact (Step.aSawActive hv.symm).ex
  · obtain ⟨hl, rfl⟩ := acquire_some hs; exact (Step.aLockT hl).ex
  · cases hs; exact Step.aClear.ex
  · obtain ⟨hl, rfl⟩ := release_some hs; exact (Step.aUnlockT hl).ex
  · obtain ⟨hl, rfl⟩ := acquire_some hs; exact (Step.aLockA hl).ex
  · cases hs; exact Step.aStore.ex
  · cases hs; exact Step.aNotify.ex
  · obtain ⟨hl, rfl⟩ := release_some hs; exact (Step.aUnlockA hl).ex
  · obtain ⟨rfl, rfl⟩ := ite_some hs; exact Step.aRet.ex
  next x v =>
    obtain ⟨hv, rfl⟩ := ite_some hs
    cases v
    · cases x
      · exact (Step.tSawInactive hv.symm).ex
      · exact (Step.tSawInactiveNested hv.symm).ex
    · exact (Step.tSawActive hv.symm).ex
  · obtain ⟨hl, rfl⟩ := acquire_some hs; exact (Step.tLock hl).ex
  · cases hs; exact Step.tStore.ex
  · cases hs; exact Step.tNotify.ex
  next x =>
    obtain ⟨hl, rfl⟩ := release_some hs
    cases x
    · exact (Step.tUnlock hl).ex
    · exact (Step.tUnlockNested hl).ex
  · obtain ⟨rfl, rfl⟩ := ite_some hs; exact Step.tRet.ex
  next k v =>
    obtain ⟨hv, rfl⟩ := ite_some hs
    cases v
    · exact (Step.wSawInactive hv.symm).ex
    · exact (Step.wSawActive hv.symm).ex
  · split at hs
    next hm => obtain ⟨hl, rfl⟩ := acquire_some hs; exact (Step.wLock hm hl).ex
    · cases hs
  next k f a v =>
    obtain ⟨⟨hm, hv⟩, rfl⟩ := ite_some hs
    cases v
    · exact (Step.wSawFalse hm hv.symm).ex
    · exact (Step.wSawTrue hm hv.symm).ex
  · obtain ⟨⟨hm, hl⟩, rfl⟩ := ite_some hs; exact (Step.wSleep hm hl).ex
  · split at hs
    next hg =>
      obtain ⟨hm, hl⟩ := hg
      split at hs
      · split at hs
        · cases hs
        next hw => cases hs; exact (Step.wNotified hm hl hw).ex
      · obtain ⟨hw, rfl⟩ := ite_some hs; exact (Step.wSpurious hm hl hw).ex
      · obtain ⟨⟨hw, hk⟩, rfl⟩ := ite_some hs; exact (Step.wTimeout hm hl hw hk).ex
      · obtain ⟨⟨hw, hk⟩, rfl⟩ := ite_some hs; exact (Step.wLateWake hm hl hw hk).ex
    · cases hs
  · obtain ⟨⟨hm, hv⟩, rfl⟩ := ite_some hs; exact (Step.wTimedOut hm hv).ex
  · split at hs
    next hm => obtain ⟨hl, rfl⟩ := release_some hs; exact (Step.wUnlock hm hl).ex
    · cases hs
  · obtain ⟨⟨hk, rfl⟩, rfl⟩ := ite_some hs; exact (Step.wRet hk).ex
  · obtain ⟨hl, rfl⟩ := acquire_some hs; exact (Step.rLock hl).ex
  next v =>
    obtain ⟨hv, rfl⟩ := ite_some hs
    cases v
    · exact (Step.rSawInactive hv.symm).ex
    · exact (Step.rSawActive hv.symm).ex
  next o v =>
    obtain ⟨hv, rfl⟩ := ite_some hs
    cases v
    · exact (Step.rSawUntriggered hv.symm).ex
    · exact (Step.rSawTriggered hv.symm).ex
  · obtain ⟨hl, rfl⟩ := release_some hs; exact (Step.rRelease hl).ex
  · obtain ⟨hl, rfl⟩ := acquire_some hs; exact (Step.rRelock hl).ex
  · cases hs; exact Step.rStore.ex
  · obtain ⟨hl, rfl⟩ := release_some hs; exact (Step.rUnlock hl).ex
  · cases hs; exact Step.rRet.ex
  · obtain ⟨⟨rfl, hv⟩, rfl⟩ := ite_some hs; exact (Step.oLoad hv).ex
  · obtain ⟨⟨hk, rfl⟩, rfl⟩ := ite_some hs; exact (Step.oRet hk).ex
  · obtain ⟨⟨hm, hv⟩, rfl⟩ := ite_some hs; exact (Step.wLate hm hv).ex
  · cases hs

theorem Step.pc_eq (h : Step s t p e p' s₁) : s₁.pc = s.pc := by
  cases h <;> rfl

theorem Step.flag (h : Step s t p e p' s₁) :
    s₁.flag = match e with
      | .st a v => updS s.flag a v
      | _ => s.flag := by
  cases h <;> rfl

theorem Step.ld_flag {a : Side} {o : Ord} {v : Bool}
    (h : Step s t p (.ld a o v) p' s₁) : v = s.flag a := by
  cases h <;> simp_all

end

end ConcVerif.Trigger
