/-! Generic transition-system scaffolding shared by every component model.

A model is an executable `step : St → Tid → Ev → Option St` (`none` = the model does not
allow this event here).  `runFrom` folds a trace; invariants proved for one step lift to every
accepted trace by `runFrom_inv`. -/
namespace ConcVerif

abbrev Tid := Nat

def runFrom {St Ev : Type} (step : St → Tid → Ev → Option St) (s : St) : List (Tid × Ev) → Option St
  | [] => some s
  | (t, e) :: es => (step s t e).bind (fun s' => runFrom step s' es)

@[simp] theorem runFrom_nil {St Ev : Type} (step : St → Tid → Ev → Option St) (s : St) :
    runFrom step s [] = some s := rfl

variable {St Ev : Type}

theorem runFrom_cons (step : St → Tid → Ev → Option St) (s : St) (t : Tid) (e : Ev) (es : List (Tid × Ev)) :
    runFrom step s ((t, e) :: es) = (step s t e).bind (fun s' => runFrom step s' es) := rfl

theorem runFrom_append (step : St → Tid → Ev → Option St) (s : St) (es fs : List (Tid × Ev)) :
    runFrom step s (es ++ fs) = (runFrom step s es).bind (fun s' => runFrom step s' fs) := by
  induction es generalizing s with
  | nil => rfl
  | cons x xs ih => simp only [List.cons_append, runFrom, Option.bind_assoc, ih]

theorem runFrom_snoc (step : St → Tid → Ev → Option St) (s : St) (es : List (Tid × Ev)) (t : Tid) (e : Ev) :
    runFrom step s (es ++ [(t, e)]) = (runFrom step s es).bind (fun s' => step s' t e) := by
  simp only [runFrom_append, runFrom, Option.bind_fun_some]

variable {step : St → Tid → Ev → Option St}

theorem runFrom_cons_eq_some {s s' : St} {t : Tid} {e : Ev} {es : List (Tid × Ev)} :
    runFrom step s ((t, e) :: es) = some s' ↔ ∃ s1, step s t e = some s1 ∧ runFrom step s1 es = some s' :=
  Option.bind_eq_some_iff

theorem runFrom_append_eq_some {s s' : St} {es fs : List (Tid × Ev)} :
    runFrom step s (es ++ fs) = some s' ↔ ∃ s1, runFrom step s es = some s1 ∧ runFrom step s1 fs = some s' := by
  rw [runFrom_append]; exact Option.bind_eq_some_iff

theorem runFrom_snoc_eq_some {s s' : St} {es : List (Tid × Ev)} {t : Tid} {e : Ev} :
    runFrom step s (es ++ [(t, e)]) = some s' ↔ ∃ s1, runFrom step s es = some s1 ∧ step s1 t e = some s' := by
  rw [runFrom_snoc]; exact Option.bind_eq_some_iff

/-- an invariant that may mention the trace accepted so far: it holds of the empty trace and the start state, and
each accepted step carries it from the trace to the trace with that event appended -/
theorem runFrom_trace_inv {P : List (Tid × Ev) → St → Prop} {s0 : St} (h0 : P [] s0)
    (hstep : ∀ es s t e s', runFrom step s0 es = some s → P es s → step s t e = some s' → P (es ++ [(t, e)]) s')
    {es : List (Tid × Ev)} {s : St} (hr : runFrom step s0 es = some s) : P es s := by
  suffices h : ∀ (fs pre : List (Tid × Ev)) (s1 : St), runFrom step s0 pre = some s1 → P pre s1 →
      runFrom step s1 fs = some s → P (pre ++ fs) s from h es [] s0 rfl h0 hr
  intro fs
  induction fs with
  | nil => intro pre s1 _ hp hr; cases hr; rw [List.append_nil]; exact hp
  | cons x fs ih =>
    intro pre s1 hpre hp hr
    obtain ⟨s2, h1, h2⟩ := runFrom_cons_eq_some.mp hr
    rw [List.append_cons]
    exact ih _ s2 (runFrom_snoc_eq_some.mpr ⟨s1, hpre, h1⟩) (hstep pre s1 x.1 x.2 s2 hpre hp h1) h2

theorem runFrom_inv {Inv : St → Prop}
    (hstep : ∀ s t e s', Inv s → step s t e = some s' → Inv s')
    {s s' : St} {es : List (Tid × Ev)} (h0 : Inv s) (hr : runFrom step s es = some s') : Inv s' :=
  runFrom_trace_inv (P := fun _ => Inv) h0 (fun _ s t e s' _ => hstep s t e s') hr

/-- a relation between consecutive states that is reflexive and transitive and preserved by each
step holds between the start and the end of every accepted trace (monotonicity lemmas) -/
theorem runFrom_rel {R : St → St → Prop}
    (hrefl : ∀ s, R s s) (htrans : ∀ a b c, R a b → R b c → R a c)
    (hstep : ∀ s t e s', step s t e = some s' → R s s')
    {s s' : St} {es : List (Tid × Ev)} (hr : runFrom step s es = some s') : R s s' :=
  runFrom_inv (Inv := R s) (fun a t e b ha hs => htrans s a b ha (hstep a t e b hs)) (hrefl s) hr

/-- an accepted run splits at each of its positions: the prefix is accepted, the event there is accepted by `step`
in the state the prefix leads to, and the rest is accepted from the state reached -/
theorem runFrom_split_at {s0 s : St} {es : List (Tid × Ev)} {r : Nat} {t : Tid} {e : Ev}
    (h : runFrom step s0 es = some s) (hr : es[r]? = some (t, e)) :
    ∃ s1 s2, runFrom step s0 (es.take r) = some s1 ∧ step s1 t e = some s2 ∧
      runFrom step s2 (es.drop (r + 1)) = some s := by
  obtain ⟨hrl, hget⟩ := List.getElem?_eq_some_iff.1 hr
  rw [← List.take_append_drop r es, List.drop_eq_getElem_cons hrl, hget] at h
  obtain ⟨s1, h1, h2⟩ := runFrom_append_eq_some.mp h
  obtain ⟨s2, h2, h3⟩ := runFrom_cons_eq_some.mp h2
  exact ⟨s1, s2, h1, h2, h3⟩

theorem runFrom_at {s0 s : St} {es : List (Tid × Ev)} {r : Nat} {t : Tid} {e : Ev}
    (h : runFrom step s0 es = some s) (hr : es[r]? = some (t, e)) :
    ∃ s1 s2, runFrom step s0 (es.take r) = some s1 ∧ step s1 t e = some s2 :=
  let ⟨s1, s2, h1, h2, _⟩ := runFrom_split_at h hr; ⟨s1, s2, h1, h2⟩

theorem ite_eq_some {α : Type} {c : Prop} [Decidable c] {x : Option α} {b : α} (h : (if c then x else none) = some b) :
    c ∧ x = some b := by
  split at h
  · exact ⟨‹c›, h⟩
  · cases h

theorem ite_some {α : Type} {c : Prop} [Decidable c] {a b : α} (h : (if c then some a else none) = some b) :
    c ∧ a = b :=
  (ite_eq_some h).imp id Option.some.inj

def upd {α : Type} (f : Tid → α) (t : Tid) (a : α) : Tid → α := fun u => if u = t then a else f u

@[simp] theorem upd_same {α : Type} (f : Tid → α) (t : Tid) (a : α) : upd f t a t = a := by simp [upd]
@[simp] theorem upd_other {α : Type} (f : Tid → α) (t u : Tid) (a : α) (h : u ≠ t) : upd f t a u = f u := by
  simp [upd, h]
theorem upd_self {α : Type} (f : Tid → α) (t : Tid) : upd f t (f t) = f := by
  funext u; by_cases hu : u = t
  · subst hu; exact upd_same _ _ _
  · exact upd_other _ _ _ _ hu
theorem upd_apply {α : Type} (f : Tid → α) (t u : Tid) (a : α) : upd f t a u = if u = t then a else f u := rfl

theorem upd_eq {α : Type} {f : Tid → α} {t u : Tid} {b q : α} (h : upd f t b u = q) :
    u = t ∧ b = q ∨ u ≠ t ∧ f u = q := by
  by_cases hu : u = t
  · subst hu; exact .inl ⟨rfl, by simpa using h⟩
  · exact .inr ⟨hu, by simpa [hu] using h⟩

theorem upd_ne {α : Type} {f : Tid → α} {t u : Tid} {b q : α} (h : upd f t b u = q) (hb : b ≠ q) :
    u ≠ t ∧ f u = q :=
  (upd_eq h).resolve_left fun h' => hb h'.2

theorem upd_forall {α : Type} {P : Tid → α → Prop} {f : Tid → α} {t : Tid} {a : α}
    (ht : P t a) (ho : ∀ u, u ≠ t → P u (f u)) : ∀ u, P u (upd f t a u) := by
  intro u
  by_cases hu : u = t
  · subst hu; rw [upd_same]; exact ht
  · rw [upd_other _ _ _ _ hu]; exact ho u hu

theorem upd_forall₂ {α β : Type} {P : Tid → α → β → Prop} {f : Tid → α} {g : Tid → β} {t : Tid} {a : α} {b : β}
    (ht : P t a b) (ho : ∀ u, u ≠ t → P u (f u) (g u)) : ∀ u, P u (upd f t a u) (upd g t b u) := by
  intro u
  by_cases hu : u = t
  · subst hu; rw [upd_same, upd_same]; exact ht
  · rw [upd_other _ _ _ _ hu, upd_other _ _ _ _ hu]; exact ho u hu

theorem upd_proj {α β : Type} (g : α → β) (f : Tid → α) (t : Tid) (a : α) (h : g a = g (f t)) (u : Tid) :
    g (upd f t a u) = g (f u) := by
  by_cases e : u = t
  · subst e; rw [upd_same, h]
  · rw [upd_other _ _ _ _ e]

end ConcVerif
