import ConcVerif.Base.TS
/-! Termination of executions from a ranking function, without any fairness assumption.  The events are split into
those the environment decides (calls into the library, the client's own accesses, spurious wake-ups: a predicate `isCall` / `isEnv` on events, or the complement of a
relation `Lib` on steps) and the library's own steps, and inside a set `Good` of states every library step of a thread
lowers a rank without raising the rank of another thread.  Hence an execution with finitely many environment events
is finite, whatever the scheduler does; with deadlock-freedom (proved per component) every maximal execution ends with
every thread returned.

`no_infinite_descent` is the general statement; four forms instantiate it:
* `Ranked`, with `bounded_run`, the only quantitative result:
  `length + Σ_{t ∈ ts} μ s' t ≤ Σ_{t ∈ ts} μ s t + (K+1) · #environment events`.  It follows a trace through its
  environment events as well (each may raise the rank of its thread by at most `K`), so `Ranked.good` asks that `Good`
  is closed under ALL steps;
* `RankedLex`, `RankedG`, `RankedRel`: nothing is asked of environment steps (the conclusion speaks only of executions
  that make none from some point on), so their `good` is needed for library steps only.
`calls p es` counts the events of `es` that satisfy `p`; the components pass their environment predicate, so it counts
client accesses and spurious wake-ups too, not only calls. -/
namespace ConcVerif.Live

variable {St Ev : Type}

def total (μ : St → Tid → Nat) (ts : List Tid) (s : St) : Nat := (ts.map (μ s)).sum

theorem total_cons (μ : St → Tid → Nat) (a : Tid) (ts : List Tid) (s : St) :
    total μ (a :: ts) s = μ s a + total μ ts s := by
  simp [total]

/-- a step of `t` that does not raise the rank of any other thread changes the total over a duplicate-free list by
at most the change of `t`'s own rank.  The induction over the list also carries the case `t ∉ ts`, where the total
does not grow at all: it is what the tail of the list needs once `t` has been found at its head. -/
theorem total_step (μ : St → Tid → Nat) (ts : List Tid) (hnd : ts.Nodup) (s s' : St) (t : Tid)
    (ht : t ∈ ts) (hf : ∀ u, u ≠ t → μ s' u ≤ μ s u) :
    total μ ts s' + μ s t ≤ total μ ts s + μ s' t := by
  suffices h : (t ∉ ts → total μ ts s' ≤ total μ ts s) ∧
      (t ∈ ts → total μ ts s' + μ s t ≤ total μ ts s + μ s' t) from h.2 ht
  clear ht
  induction ts with
  | nil => exact ⟨fun _ => Nat.le_refl _, nofun⟩
  | cons a as ih =>
    have ⟨hn, hnd'⟩ := List.nodup_cons.mp hnd
    have ⟨ih1, ih2⟩ := ih hnd'
    rw [total_cons, total_cons]
    by_cases hat : a = t
    · subst hat
      have := ih1 hn
      exact ⟨fun h => absurd List.mem_cons_self h, fun _ => by omega⟩
    · have := hf a hat
      refine ⟨fun h => ?_, fun h => ?_⟩
      · have := ih1 fun h' => h (List.mem_cons_of_mem _ h')
        omega
      · have := ih2 ((List.mem_cons.mp h).resolve_left (Ne.symm hat))
        omega

structure Ranked (step : St → Tid → Ev → Option St) (Good : St → Prop) (isCall : Ev → Bool)
    (μ : St → Tid → Nat) (K : Nat) : Prop where
  good : ∀ s t e s', Good s → step s t e = some s' → Good s'
  dec : ∀ s t e s', Good s → step s t e = some s' → isCall e = false → μ s' t < μ s t
  call : ∀ s t e s', Good s → step s t e = some s' → isCall e = true → μ s' t ≤ μ s t + K
  frame : ∀ s t e s' u, Good s → step s t e = some s' → u ≠ t → μ s' u ≤ μ s u

def calls (isCall : Ev → Bool) (es : List (Tid × Ev)) : Nat := es.countP (fun x => isCall x.2)

theorem bounded_run {step : St → Tid → Ev → Option St} {Good : St → Prop} {isCall : Ev → Bool}
    {μ : St → Tid → Nat} {K : Nat} (R : Ranked step Good isCall μ K)
    (ts : List Tid) (hnd : ts.Nodup) {s s' : St} {es : List (Tid × Ev)} (h0 : Good s)
    (hts : ∀ x ∈ es, x.1 ∈ ts) (hr : runFrom step s es = some s') :
    es.length + total μ ts s' ≤ total μ ts s + (K + 1) * calls isCall es := by
  induction es generalizing s with
  | nil => cases hr; simp [calls]
  | cons x xs ih =>
    obtain ⟨t, e⟩ := x
    obtain ⟨s1, h, hr⟩ := runFrom_cons_eq_some.mp hr
    have hrest := ih (R.good s t e s1 h0 h) (fun y hy => hts y (List.mem_cons_of_mem _ hy)) hr
    have htot := total_step μ ts hnd s s1 t (hts (t, e) List.mem_cons_self) (fun u => R.frame s t e s1 u h0 h)
    simp only [calls, List.countP_cons, List.length_cons] at hrest ⊢
    cases hc : isCall e with
    | false => have := R.dec s t e s1 h0 h hc; simp only [Bool.false_eq_true, if_false, Nat.add_zero]; omega
    | true => have := R.call s t e s1 h0 h hc; simp only [if_true, Nat.mul_add]; omega

structure Exec (step : St → Tid → Ev → Option St) where
  σ : Nat → St
  who : Nat → Tid
  ev : Nat → Ev
  ok : ∀ n, step (σ n) (who n) (ev n) = some (σ (n + 1))

theorem no_lex_descent (a b : Nat → Nat)
    (h : ∀ n, a (n + 1) < a n ∨ (a (n + 1) ≤ a n ∧ b (n + 1) < b n)) : False := by
  suffices key : ∀ A B n, a n = A → b n = B → False from key _ _ 0 rfl rfl
  intro A
  induction A using Nat.strongRecOn with | _ A ihA => ?_
  intro B
  induction B using Nat.strongRecOn with | _ B ihB => ?_
  intro n ha hb
  rcases h n with h1 | ⟨h1, h2⟩
  · exact ihA _ (ha ▸ h1) _ (n + 1) rfl rfl
  · rcases Nat.lt_or_eq_of_le h1 with h1 | h1
    · exact ihA _ (ha ▸ h1) _ (n + 1) rfl rfl
    · exact ihB _ (hb ▸ h2) (n + 1) (h1.trans ha) rfl

/-- **The general form.**  The steps that count are described by a relation `Lib s t e s'`; inside `Good` (closed
under such steps) each of them lowers the pair `(A, B)` lexicographically.  Then an execution all of whose steps from
some point `N` on are `Lib` steps, with `Good` at `N`, cannot be infinite — for EVERY scheduler, no fairness needed.
The four forms below choose `Lib`, `A` and `B`. -/
theorem no_infinite_descent {step : St → Tid → Ev → Option St} {Good : St → Prop}
    {Lib : St → Tid → Ev → St → Prop} (A B : St → Nat)
    (hgood : ∀ s t e s', Good s → step s t e = some s' → Lib s t e s' → Good s')
    (hdec : ∀ s t e s', Good s → step s t e = some s' → Lib s t e s' → A s' < A s ∨ (A s' ≤ A s ∧ B s' < B s))
    (x : Exec step) (N : Nat) (hg : Good (x.σ N))
    (hlib : ∀ n, N ≤ n → Lib (x.σ n) (x.who n) (x.ev n) (x.σ (n + 1))) : False := by
  have hG : ∀ k, Good (x.σ (N + k)) := by
    intro k
    induction k with
    | zero => exact hg
    | succ k ih => exact hgood _ _ _ _ ih (x.ok _) (hlib _ (Nat.le_add_right N k))
  exact no_lex_descent (fun k => A (x.σ (N + k))) (fun k => B (x.σ (N + k)))
    (fun k => hdec _ _ _ _ (hG k) (x.ok _) (hlib _ (Nat.le_add_right N k)))

/-- **No infinite execution with finitely many calls** — for EVERY scheduler (no fairness needed):
if from step `N` on no `call` event occurs, all stepping threads lie in the finite list `ts`
and the state at `N` is `Good`, the execution cannot go on forever. -/
theorem no_infinite_run {step : St → Tid → Ev → Option St} {Good : St → Prop} {isCall : Ev → Bool}
    {μ : St → Tid → Nat} {K : Nat} (R : Ranked step Good isCall μ K)
    (ts : List Tid) (hnd : ts.Nodup) (x : Exec step) (N : Nat) (hg : Good (x.σ N))
    (hts : ∀ n, N ≤ n → x.who n ∈ ts) (hnc : ∀ n, N ≤ n → isCall (x.ev n) = false) : False :=
  no_infinite_descent (Lib := fun _ t e _ => t ∈ ts ∧ isCall e = false) (total μ ts) (fun _ => 0)
    (fun s t e s' g hs _ => R.good s t e s' g hs)
    (fun s t e s' g hs hl => .inl (by
      have := total_step μ ts hnd s s' t hl.1 (fun u => R.frame s t e s' u g hs)
      have := R.dec s t e s' g hs hl.2
      omega))
    x N hg (fun n hn => ⟨hts n hn, hnc n hn⟩)

/-! ## Two-level (lexicographic) form

For components in which the remaining work of a thread is fixed only once it has taken the lock (a scan
over a map other threads may still enlarge): a first-level rank `α` (e.g. "has not taken the lock yet")
that no library step raises, and a second-level rank `μ` that strictly decreases whenever the stepping
thread's `α` stays the same.  When `α` of the stepping thread decreases, `μ` may change arbitrarily.  No
linear bound on the length exists in this setting, but there is still no infinite execution. -/

structure RankedLex (step : St → Tid → Ev → Option St) (Good : St → Prop) (isEnv : Ev → Bool)
    (α μ : St → Tid → Nat) : Prop where
  good : ∀ s t e s', Good s → step s t e = some s' → isEnv e = false → Good s'
  dec : ∀ s t e s', Good s → step s t e = some s' → isEnv e = false →
    α s' t < α s t ∨ (α s' t = α s t ∧ μ s' t < μ s t ∧ ∀ u, u ≠ t → μ s' u ≤ μ s u)
  frame : ∀ s t e s' u, Good s → step s t e = some s' → isEnv e = false → u ≠ t → α s' u ≤ α s u

theorem no_infinite_run_lex {step : St → Tid → Ev → Option St} {Good : St → Prop} {isEnv : Ev → Bool}
    {α μ : St → Tid → Nat} (R : RankedLex step Good isEnv α μ)
    (ts : List Tid) (hnd : ts.Nodup) (x : Exec step) (N : Nat) (hg : Good (x.σ N))
    (hts : ∀ n, N ≤ n → x.who n ∈ ts) (hnc : ∀ n, N ≤ n → isEnv (x.ev n) = false) : False :=
  no_infinite_descent (Lib := fun _ t e _ => t ∈ ts ∧ isEnv e = false) (total α ts) (total μ ts)
    (fun s t e s' g hs hl => R.good s t e s' g hs hl.2)
    (fun s t e s' g hs hl => by
      have := total_step α ts hnd s s' t hl.1 (fun u => R.frame s t e s' u g hs hl.2)
      rcases R.dec s t e s' g hs hl.2 with h1 | ⟨h1, h2, h3⟩
      · exact .inl (by omega)
      · have := total_step μ ts hnd s s' t hl.1 h3
        exact .inr ⟨by omega, by omega⟩)
    x N hg (fun n hn => ⟨hts n hn, hnc n hn⟩)

/-! ## Form with a shared potential

For components in which work is handed over through a shared container (an element pushed by one thread is
processed later by another): a global potential `G` (e.g. a constant times the size of the container) plus
the per-thread ranks.  Every library step of `t` strictly lowers `G + μ · t` and does not raise the rank of
another thread. -/

structure RankedG (step : St → Tid → Ev → Option St) (Good : St → Prop) (isEnv : Ev → Bool)
    (G : St → Nat) (μ : St → Tid → Nat) : Prop where
  good : ∀ s t e s', Good s → step s t e = some s' → isEnv e = false → Good s'
  dec : ∀ s t e s', Good s → step s t e = some s' → isEnv e = false → G s' + μ s' t < G s + μ s t
  frame : ∀ s t e s' u, Good s → step s t e = some s' → isEnv e = false → u ≠ t → μ s' u ≤ μ s u

theorem no_infinite_runG {step : St → Tid → Ev → Option St} {Good : St → Prop} {isEnv : Ev → Bool}
    {G : St → Nat} {μ : St → Tid → Nat} (R : RankedG step Good isEnv G μ)
    (ts : List Tid) (hnd : ts.Nodup) (x : Exec step) (N : Nat) (hg : Good (x.σ N))
    (hts : ∀ n, N ≤ n → x.who n ∈ ts) (hnc : ∀ n, N ≤ n → isEnv (x.ev n) = false) : False :=
  no_infinite_descent (Lib := fun _ t e _ => t ∈ ts ∧ isEnv e = false) (fun s => G s + total μ ts s) (fun _ => 0)
    (fun s t e s' g hs hl => R.good s t e s' g hs hl.2)
    (fun s t e s' g hs hl => .inl (by
      have := total_step μ ts hnd s s' t hl.1 (fun u => R.frame s t e s' u g hs hl.2)
      have := R.dec s t e s' g hs hl.2
      omega))
    x N hg (fun n hn => ⟨hts n hn, hnc n hn⟩)

/-! ## Relational form

For components whose model lets a thread repeat idle steps at will (a spin loop whose exit depends on other
threads, redundant loads of a weakest-discipline model): the steps that must lower the rank are described by a
relation `Lib s t e s'` (e.g. "not an environment event and the thread's pc changes"); nothing is required of
the other steps.  An execution all of whose steps from some point on are `Lib` steps cannot be infinite. -/

structure RankedRel (step : St → Tid → Ev → Option St) (Good : St → Prop)
    (Lib : St → Tid → Ev → St → Prop) (μ : St → Tid → Nat) : Prop where
  good : ∀ s t e s', Good s → step s t e = some s' → Lib s t e s' → Good s'
  dec : ∀ s t e s', Good s → step s t e = some s' → Lib s t e s' → μ s' t < μ s t
  frame : ∀ s t e s' u, Good s → step s t e = some s' → Lib s t e s' → u ≠ t → μ s' u ≤ μ s u

theorem no_infinite_run_rel {step : St → Tid → Ev → Option St} {Good : St → Prop}
    {Lib : St → Tid → Ev → St → Prop} {μ : St → Tid → Nat} (R : RankedRel step Good Lib μ)
    (ts : List Tid) (hnd : ts.Nodup) (x : Exec step) (N : Nat) (hg : Good (x.σ N))
    (hts : ∀ n, N ≤ n → x.who n ∈ ts)
    (hlib : ∀ n, N ≤ n → Lib (x.σ n) (x.who n) (x.ev n) (x.σ (n + 1))) : False :=
  no_infinite_descent (Lib := fun s t e s' => t ∈ ts ∧ Lib s t e s') (total μ ts) (fun _ => 0)
    (fun s t e s' g hs hl => R.good s t e s' g hs hl.2)
    (fun s t e s' g hs hl => .inl (by
      have := total_step μ ts hnd s s' t hl.1 (fun u => R.frame s t e s' u g hs hl.2)
      have := R.dec s t e s' g hs hl.2
      omega))
    x N hg (fun n hn => ⟨hts n hn, hlib n hn⟩)

end ConcVerif.Live
