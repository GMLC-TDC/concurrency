import ConcVerif.Proof.RcuTrav
import ConcVerif.Proof.RcuSer
import ConcVerif.Proof.RcuVal
/-! # C12 — rcu_list traversals are consistent and writers are serialised

Model `Model/Rcu.lean` (any number of reader / writer threads, any client program, any interleaving).  `order` is the
model's ghost list of every node ever linked, in list order; `lst` is the ghost list of the currently linked nodes.
Two sets of history variables are added *outside* the model (they never block a step: `reachableH_fst / reachableH_of`,
`reachableW_fst / reachableW_of`):

* per thread, `base t` = the linked nodes at the moment its current traversal called `begin`, `seen t` = the nodes its
  iterator has pointed to since (newest first);
* `ncs` = number of acquisitions of the write mutex, `hist` = the mutations of the linked list, each tagged with the
  number of the critical section it happened in.

**Traversal** (DESIGN §8.C12 `C12_traversal`, from N1 / N2)
* `C12_traversal_sorted` — the visited nodes are strictly increasing in `order`: list order; `C12_traversal_nodup` — no
  node is visited twice; `C12_traversal_inserted`, `C12_order_grows`, `C12_value_stable`, `C12_deref_value` — only nodes
  that a `push` linked, whose value is the one that `push` was called with, and `*it` returns that value;
* `C12_traversal_begin` — a traversal starts at the first linked node; `C12_traversal_noskip`,
  `C12_traversal_complete` — a node linked when the traversal began and still linked (`C12_no_relink`: hence linked
  all the time) has been visited or is still ahead of the iterator; all of them are visited when the iterator reaches
  the end;
* `C12_list_order`, `C12_next_forward`, `C12_visible_list` — the structure behind it: the linked nodes are a sublist of
  `order`, every `next` pointer (also of an unlinked node) points strictly forward, and what a reader can walk from
  `head` is exactly `lst`.

**Writers** (`C12_serial`)
* `C12_mutex_events`, `C12_writer_unique` — `mlk` / `mul` bracket critical sections, at most one thread is inside;
* `C12_mutation_by_holder` — until the destructor runs, the linked list changes only by a step of the mutex holder and
  then by exactly one `push_front / push_back / erase` of the sequential reference (`applyW` on a `List`);
* `C12_serial`, `C12_serial_order`, `C12_push_linearised`, `C12_mutation_logged` — the linked list is the result of
  executing the logged mutations one after the other on the empty list; they are logged in acquisition order, at most
  one per critical section; a `push` that reaches its unlock, and an `erase` of a not yet erased node after its
  unlinking store, has logged exactly its own. -/
namespace ConcVerif.Rcu

/-! ## Traversal -/

/-- The nodes a traversal has visited (newest first) are strictly increasing in list order. -/
theorem C12_traversal_sorted {s : St} {g : Gh} (h : ReachableH (s, g)) (t : Tid) :
    (g.seen t).Pairwise (fun newer older => newer ∈ Below s.order older) :=
  ((invT_reachable h).g t).sorted

/-- No node is visited twice. -/
theorem C12_traversal_nodup {s : St} {g : Gh} (h : ReachableH (s, g)) (t : Tid) : (g.seen t).Nodup := by
  have hi := invT_reachable h
  have hond : s.order.Nodup := hi.x.i.c.ordNd
  refine (hi.g t).sorted.imp ?_
  intro a b hab e
  subst e
  exact not_mem_below_self hond hab

/-- Only nodes that were linked into the list are visited. -/
theorem C12_traversal_inserted {s : St} {g : Gh} (h : ReachableH (s, g)) {t : Tid} {c : Nat} (hc : c ∈ g.seen t) :
    c ∈ s.order :=
  ((invT_reachable h).g t).seenOrd c hc

/-- The iterator's node is the newest visited node. -/
theorem C12_traversal_current {s : St} {g : Gh} (h : ReachableH (s, g)) {t : Tid} {c : Nat}
    (hc : s.it t = some (some c)) : (g.seen t).head? = some c :=
  ((invT_reachable h).g t).newest c hc

/-- `begin` starts the traversal at the first linked node (or at the end if the list is empty). -/
theorem C12_traversal_begin {s s' : St} {g g' : Gh} {t : Tid} {o : Ord} {v : Option Nat} (h : ReachableH (s, g))
    (hs : stepH (s, g) t (.ald .head o v) = some (s', g')) (hpc : s.pc t = .called .beg) :
    v = s.lst.head? ∧ s'.it t = some v ∧ g'.base t = s.lst ∧ g'.seen t = v.toList := by
  have hi := invT_reachable h
  simp only [stepH] at hs
  cases h1 : step s t (.ald .head o v) with
  | none => rw [h1] at hs; cases hs
  | some s1 =>
    rw [h1] at hs; simp at hs
    obtain ⟨rfl, rfl⟩ := hs
    have hS := step_sound h1
    cases hS with
    | dtorHead o hpc' ho => rw [hpc] at hpc'; cases hpc'
    | beg w r o hpc' hh ho =>
      have hdt := hi.x.i.a.dt_false (t := t) (by rw [hh]; simp)
      have hhd : s.head = s.lst.head? := hi.x.i.c.hd hdt
      refine ⟨hhd, by simp, ?_, ?_⟩ <;> simp [ghUpd, hpc]
    | pLoadFrontNone em x n o hpc' ho hv => rw [hpc] at hpc'; cases hpc'
    | pLoadFrontSome em x n h0 o hpc' ho hv => rw [hpc] at hpc'; cases hpc'

/-- Mid-traversal: a node that was linked at `begin` and is still linked has been visited or is still ahead. -/
theorem C12_traversal_noskip {s : St} {g : Gh} (h : ReachableH (s, g)) {t : Tid} {c y : Nat}
    (hc : s.it t = some (some c)) (hb : y ∈ g.base t) (hl : y ∈ s.lst) : y ∈ g.seen t ∨ y ∈ Below s.order c := by
  have hi := invT_reachable h
  rcases (hi.g t).noskip (by rw [hc]; simp) y hb hl with f | ⟨c', f1, f2⟩
  · exact Or.inl f
  · rw [hc] at f1; injection f1 with f1; injection f1 with f1; subst f1
    rcases reach_below hi.f hi.x.i.c.ordNd (hi.x.i.c.itv t c hc) f2 with e | e
    · left; rw [e]; exact mem_of_head? ((hi.g t).newest c hc)
    · exact Or.inr e

/-- A complete traversal has visited every node that was linked when it began and is still linked. -/
theorem C12_traversal_complete {s : St} {g : Gh} (h : ReachableH (s, g)) {t : Tid} {y : Nat}
    (hend : s.it t = some none) (hb : y ∈ g.base t) (hl : y ∈ s.lst) : y ∈ g.seen t := by
  have hi := invT_reachable h
  rcases (hi.g t).noskip (by rw [hend]; simp) y hb hl with f | ⟨c', f1, _⟩
  · exact f
  · rw [hend] at f1; cases f1

/-- An unlinked node never comes back: "linked at `begin` and linked now" means linked all the time. -/
theorem C12_no_relink {s s' : St} {t : Tid} {e : Ev} {y : Nat} (h : Reachable s) (hs : step s t e = some s')
    (hy : y ∈ s.order) (hn : y ∉ s.lst) : y ∉ s'.lst := by
  have hS := step_sound hs
  have hod : s'.order.Nodup := (inv_step (inv_reachable h) hs).c.ordNd
  by_cases he : Edge s t e s'
  case neg => rw [(hS.quiet he).lst]; exact hn
  cases he
  -- a pushed node is new in `order`, which has no duplicates
  case pE1 k n o hpc | pF3 k n o hpc =>
    intro hm; rcases List.mem_cons.1 hm with e | e
    · exact (List.nodup_cons.1 hod).1 (e ▸ hy)
    · exact hn e
  case pB2 k n h0 o hpc =>
    intro hm; rcases List.mem_append.1 hm with e | e
    · exact hn e
    · exact (List.nodup_append.1 hod).2.2 y hy y e rfl
  case eUnlPrev | eUnlHead => intro hm; exact hn (List.mem_of_mem_erase hm)
  case dFreN m nx hpc =>
    intro hm
    have : y ∈ s.lst.erase m := by cases nx <;> exact hm
    exact hn (List.mem_of_mem_erase this)
  all_goals exact hn

/-- `order` grows only by the linking store of a `push` inside its critical section: the new node is the one this
`push` constructed, it carries the value the `push` was called with, and it goes to the front or to the back. -/
theorem C12_order_grows {s s' : St} {t : Tid} {e : Ev} (h : Reachable s) (hs : step s t e = some s') :
    s'.order = s.order ∨ ∃ x n, pushNode (s.pc t) = some (x, n) ∧ (s.nodes n).val = x ∧ n ∉ s.order ∧
      s.wmtx = some t ∧ (s'.order = n :: s.order ∨ s'.order = s.order ++ [n]) := by
  have hi := inv_reachable h
  have hv := invV_reachable h
  have hS := step_sound hs
  have hod : s'.order.Nodup := (inv_step hi hs).c.ordNd
  have hk := hi.a.opk t
  by_cases he : Edge s t e s'
  case neg => exact .inl (hS.quiet he).order
  cases he
  case pE1 k n o hpc | pF3 k n o hpc =>
    rw [hpc] at hk; obtain ⟨f, em, x, rfl⟩ := Op.eq_push hk
    have hp : pushNode (s.pc t) = some (x, n) := by rw [hpc]; rfl
    exact .inr ⟨x, n, hp, hv t x n hp, (List.nodup_cons.1 hod).1, (hi.a.wm t).1 (by rw [hpc]; rfl), .inl rfl⟩
  case pB2 k n h0 o hpc =>
    rw [hpc] at hk; obtain ⟨f, em, x, rfl⟩ := Op.eq_push hk
    have hp : pushNode (s.pc t) = some (x, n) := by rw [hpc]; rfl
    exact .inr ⟨x, n, hp, hv t x n hp, fun hn => (List.nodup_append.1 hod).2.2 n hn n (.head _) rfl,
      (hi.a.wm t).1 (by rw [hpc]; rfl), .inr rfl⟩
  case dFreN m nx hpc => cases nx <;> exact .inl rfl
  all_goals exact .inl rfl

/-- The value of a node that was ever linked never changes. -/
theorem C12_value_stable {s s' : St} {t : Tid} {e : Ev} {n : Nat} (h : Reachable s) (hs : step s t e = some s')
    (hn : n ∈ s.order) : (s'.nodes n).val = (s.nodes n).val := by
  have hi := inv_reachable h
  rcases val_step (step_sound hs) n with v | ⟨f, em, x, v1, _⟩
  · exact v
  · exfalso
    have wr := hi.c.wr t
    simp only [cview_vpc] at wr
    rw [v1] at wr; simp only [CView, WriterP, cview_order] at wr
    exact wr.1 hn

/-- `*it` reads the value of the iterator's node. -/
theorem C12_deref_value {s s' : St} {t : Tid} {n : Nat} {v : Int} (hs : step s t (.pldData n v) = some s') :
    s.it t = some (some n) ∧ v = (s.nodes n).val := by
  have hS := step_sound hs
  cases hS with
  | der w r n hpc hh hi => exact ⟨hi, rfl⟩

/-- The linked nodes are a sublist of `order` (which has no duplicates): sorted in `order` = list order. -/
theorem C12_list_order {s : St} (h : Reachable s) : s.lst.Sublist s.order ∧ s.order.Nodup :=
  ⟨(invF_reachable h).subl, (inv_reachable h).c.ordNd⟩

/-- Every `next` pointer — also that of an unlinked node — points strictly forward in `order`. -/
theorem C12_next_forward {s : St} (h : Reachable s) {c x : Nat} (hc : c ∈ s.order) (hn : (s.nodes c).next = some x) :
    x ∈ Below s.order c :=
  (invF_reachable h).fwd c hc x hn

/-- What a reader can walk from `head` along `next` is exactly the list `lst` (until the destructor runs). -/
theorem C12_visible_list {s : St} (h : Reachable s) (hdt : s.dt = false) :
    s.head = s.lst.head? ∧ ∀ a ∈ s.lst, (s.nodes a).next = (Below s.lst a).head? :=
  ⟨(inv_reachable h).c.hd hdt, (inv_reachable h).c.nx⟩

/-! ## Writers -/

/-- `mlk` is accepted only while the write mutex is free and gives it to the caller; `mul` only from the holder; no
other event changes the holder. -/
theorem C12_mutex_events {s s' : St} {t : Tid} {e : Ev} (hs : step s t e = some s') :
    (e = .mlk → s.wmtx = none ∧ s'.wmtx = some t) ∧ (e = .mul → s.wmtx = some t ∧ s'.wmtx = none) ∧
      (e ≠ .mlk → e ≠ .mul → s'.wmtx = s.wmtx) := by
  have hS := step_sound hs
  by_cases he : Edge s t e s'
  case neg =>
    exact ⟨fun h => absurd (h ▸ hS).mlk_edge (h ▸ he), fun h => absurd (h ▸ hS).mul_edge (h ▸ he), fun _ _ => (hS.quiet he).wmtx⟩
  cases he
  case pushLock f em v hpc hm | eraseLock adv c hpc hm => exact ⟨fun _ => ⟨hm, rfl⟩, nofun, fun h _ => absurd rfl h⟩
  case pThrownMul k hpc hm | pUnlock k hpc hm | eUnlock orig hpc hm =>
    exact ⟨nofun, fun _ => ⟨hm, rfl⟩, fun _ h => absurd rfl h⟩
  case dFreN m nx hpc => cases nx <;> exact ⟨nofun, nofun, fun _ _ => rfl⟩
  all_goals exact ⟨nofun, nofun, fun _ _ => rfl⟩

/-- At most one thread is inside a critical section of the write mutex. -/
theorem C12_writer_unique {s : St} (h : Reachable s) {t u : Tid} (ht : holdsW (s.pc t) = true)
    (hu : holdsW (s.pc u) = true) : t = u := by
  have hi := inv_reachable h
  have a := (hi.a.wm t).1 ht
  have b := (hi.a.wm u).1 hu
  rw [a] at b; injection b

/-- Until the destructor runs, the linked list changes only by a step of the thread that holds the write mutex, and then
by exactly one mutation of the sequential reference list. -/
theorem C12_mutation_by_holder {s s' : St} {t : Tid} {e : Ev} (h : Reachable s) (hs : step s t e = some s')
    (hdt : s.dt = false) (hne : s'.lst ≠ s.lst) :
    s.wmtx = some t ∧ ∃ op, linOf (s.pc t) = some op ∧ s'.lst = applyW s.lst op := by
  have hi := inv_reachable h
  have wr := hi.c.wr t
  simp only [cview_vpc] at wr
  have hS := step_sound hs
  by_cases he : Edge s t e s'
  case neg => exact absurd (hS.quiet he).lst hne
  cases he
  case pE1 k n o hpc =>
    rw [hpc] at wr; simp only [CView, WriterP, cview_lst] at wr
    refine ⟨(hi.a.wm t).1 (by rw [hpc]; rfl), _, by rw [hpc]; rfl, ?_⟩
    simp only [setPc_lst]; rw [wr.2.1]; split <;> rfl
  case pF3 k n o hpc | pB2 k n h0 o hpc | eUnlPrev c orig pp x o hpc | eUnlHead c orig x o hpc =>
    exact ⟨(hi.a.wm t).1 (by rw [hpc]; rfl), _, by rw [hpc]; rfl, rfl⟩
  case dFreN m nx hpc =>
    have := hi.a.dtd t (by rw [hpc]; rfl)
    rw [hdt] at this; cases this
  all_goals exact absurd rfl hne

/-- The linked list is what the logged mutations produce when executed one after the other, in the order in which
they were logged, on the empty sequential reference list. -/
theorem C12_serial {s : St} {w : Wh} (h : ReachableW (s, w)) (hdt : s.dt = false) : s.lst = seqOf w.hist :=
  (invW_reachable h).seq hdt

/-- The mutations are logged in the order in which their critical sections acquired the mutex, at most one per
critical section. -/
theorem C12_serial_order {s : St} {w : Wh} (h : ReachableW (s, w)) :
    w.hist.Pairwise (fun a b => a.1 < b.1) ∧ ∀ x ∈ w.hist, x.1 ≤ w.ncs := by
  have hi := invW_reachable h
  exact ⟨hi.tags, hi.le⟩

/-- A `push` that reaches the release of the mutex has performed its mutation in this critical section. -/
theorem C12_push_linearised {s : St} {w : Wh} (h : ReachableW (s, w)) {t : Tid} {k : Op} (hp : s.pc t = .pUnlock k) :
    ∃ x ∈ w.hist, x.1 = w.ncs :=
  (invW_reachable h).done t (by rw [hp]; rfl)

/-- More generally: a `push` after its linking store, and an `erase` that found its node not yet erased, after its
unlinking store (`pushDone`: the pcs from there up to the release of the mutex), has logged its mutation in this
critical section. -/
theorem C12_mutation_logged {s : St} {w : Wh} (h : ReachableW (s, w)) {t : Tid} (hp : pushDone (s.pc t) = true) :
    ∃ x ∈ w.hist, x.1 = w.ncs :=
  (invW_reachable h).done t hp

/-! ## Non-vacuity: a real trace (harness seed 201, sticky-random scheduler) of
`int-d;lw,pb=1,pb=2,pb=3,rel,lw,eri=1,rel;lr,all,rel`.  The reader (thread 2) starts while the third push is
still running and sits on node `N1` while the writer (thread 1) erases it. -/
def witness12 : List (Tid × Ev) :=
  [(2, .call (.lock false)),
   (2, .ret (.lock false)),
   (2, .call .beg),
   (2, .alo true 0),
   (2, .pstZn 0 true),
   (2, .conR 0 (some 2) none),
   (2, .ald .zhead .rlx none),
   (1, .call (.lock true)),
   (1, .ret (.lock true)),
   (1, .call (.push false false 1)),
   (1, .alo true 1),
   (1, .pstZn 1 true),
   (1, .conR 1 (some 1) none),
   (1, .ald .zhead .rlx none),
   (1, .ast (.rnext 1) .rlx none),
   (1, .cas .sc none (some 1) true none),
   (1, .mlk),
   (1, .alo false 0),
   (1, .pstDel 0 false),
   (1, .pstData 0 1),
   (1, .conN 0 1),
   (1, .ald .tail .rlx none),
   (1, .ast .head .sc (some 0)),
   (1, .ast .tail .sc (some 0)),
   (1, .mul),
   (1, .ret (.push false false 1)),
   (1, .call (.push false false 2)),
   (1, .mlk),
   (1, .alo false 1),
   (1, .pstDel 1 false),
   (1, .pstData 1 2),
   (1, .conN 1 2),
   (1, .ald .tail .rlx (some 0)),
   (1, .ast (.nback 1) .sc (some 0)),
   (1, .ast (.nnext 0) .sc (some 1)),
   (1, .ast .tail .sc (some 1)),
   (1, .mul),
   (1, .ret (.push false false 2)),
   (1, .call (.push false false 3)),
   (1, .mlk),
   (1, .alo false 2),
   (1, .pstDel 2 false),
   (1, .pstData 2 3),
   (1, .conN 2 3),
   (1, .ald .tail .rlx (some 1)),
   (2, .ast (.rnext 0) .rlx none),
   (2, .cas .sc none (some 0) false (some 1)),
   (2, .ast (.rnext 0) .rlx (some 1)),
   (2, .cas .sc (some 1) (some 0) true (some 1)),
   (2, .ald .head .sc (some 0)),
   (2, .ret .beg),
   (2, .call .der),
   (2, .pldData 0 1),
   (2, .ret .der),
   (2, .call .nxt),
   (1, .ast (.nback 2) .sc (some 1)),
   (1, .ast (.nnext 1) .sc (some 2)),
   (1, .ast .tail .sc (some 2)),
   (1, .mul),
   (1, .ret (.push false false 3)),
   (1, .call .rel),
   (1, .ald (.rnext 1) .sc none),
   (1, .ast (.rnext 1) .sc none),
   (1, .ast (.rowner 1) .sc none),
   (1, .ret .rel),
   (1, .call (.lock true)),
   (1, .ret (.lock true)),
   (1, .call .beg),
   (1, .alo true 2),
   (1, .pstZn 2 true),
   (1, .conR 2 (some 1) none),
   (1, .ald .zhead .rlx (some 0)),
   (2, .ald (.nnext 0) .sc (some 1)),
   (2, .ret .nxt),
   (2, .call .der),
   (2, .pldData 1 2),
   (2, .ret .der),
   (2, .call .nxt),
   (1, .ast (.rnext 2) .rlx (some 0)),
   (1, .cas .sc (some 0) (some 2) true (some 0)),
   (1, .ald .head .sc (some 0)),
   (1, .ret .beg),
   (1, .call .nxt),
   (1, .ald (.nnext 0) .sc (some 1)),
   (1, .ret .nxt),
   (1, .call (.erase true)),
   (1, .mlk),
   (1, .ald (.nnext 1) .sc (some 2)),
   (1, .pldDel 1 false),
   (1, .alo true 3),
   (1, .pstZn 3 false),
   (1, .conR 3 none (some 1)),
   (1, .pstDel 1 true),
   (1, .ald (.nback 1) .sc (some 0)),
   (1, .ald (.nnext 1) .sc (some 2)),
   (1, .ast (.nnext 0) .sc (some 2)),
   (1, .ast (.nback 2) .sc (some 0)),
   (1, .ald .zhead .sc (some 2)),
   (1, .ast (.rnext 3) .sc (some 2)),
   (1, .cas .sc (some 2) (some 3) true (some 2)),
   (1, .mul),
   (1, .ret (.erase true)),
   (1, .call .rel),
   (1, .ald (.rnext 2) .sc (some 0)),
   (1, .ald (.rowner 0) .sc (some 2)),
   (1, .ast (.rowner 2) .sc none),
   (1, .ret .rel),
   (2, .ald (.nnext 1) .sc (some 2)),
   (2, .ret .nxt),
   (2, .call .der),
   (2, .pldData 2 3),
   (2, .ret .der),
   (2, .call .nxt),
   (2, .ald (.nnext 2) .sc none),
   (2, .ret .nxt),
   (2, .call .rel),
   (2, .ald (.rnext 0) .sc (some 1)),
   (2, .ald (.rowner 1) .sc none),
   (2, .ald (.rnext 1) .sc none),
   (2, .pldZn 1 true),
   (2, .ald (.rnext 1) .sc none),
   (2, .des true 1),
   (2, .fre true 1),
   (2, .ast (.rnext 0) .sc none),
   (2, .ast (.rowner 0) .sc none),
   (2, .ret .rel),
   (0, .call .dtor),
   (0, .ald .head .sc (some 0)),
   (0, .ald (.nnext 0) .sc (some 2)),
   (0, .des false 0),
   (0, .fre false 0),
   (0, .ald (.nnext 2) .sc none),
   (0, .des false 2),
   (0, .fre false 2),
   (0, .ald .zhead .sc (some 3)),
   (0, .ald (.rowner 3) .sc none),
   (0, .ald (.rnext 3) .sc (some 2)),
   (0, .pldZn 3 false),
   (0, .des false 1),
   (0, .pldZn 3 false),
   (0, .fre false 1),
   (0, .des true 3),
   (0, .fre true 3),
   (0, .ald (.rowner 2) .sc none),
   (0, .ald (.rnext 2) .sc (some 0)),
   (0, .pldZn 2 true),
   (0, .des true 2),
   (0, .fre true 2),
   (0, .ald (.rowner 0) .sc none),
   (0, .ald (.rnext 0) .sc none),
   (0, .pldZn 0 true),
   (0, .des true 0),
   (0, .fre true 0),
   (0, .ret .dtor)]

/-- after event 102, `(1, .ret (.erase true))`: the writer's `erase` has returned; the reader still stands on the unlinked
node 1; node 2 is still ahead -/
example : ∃ s g, ReachableH (s, g) ∧ s.it 2 = some (some 1) ∧ s.lst = [0, 2] ∧ s.order = [0, 1, 2] ∧
    g.base 2 = [0, 1] ∧ g.seen 2 = [1, 0] ∧ 2 ∈ Below s.order 1 :=
  have ⟨s, g, hr, hp⟩ := ghost_witness ghUpd gh0 (witness12.take 102) _ (by decide +kernel)
  ⟨s, g, ⟨_, hr⟩, hp⟩

/-- after event 114, the reader's `(2, .ald (.nnext 2) .sc none)`: it has reached the end, having visited 0, the erased 1,
and 2 (which was pushed after the traversal began) -/
example : ∃ s g, ReachableH (s, g) ∧ s.it 2 = some none ∧ s.lst = [0, 2] ∧ g.base 2 = [0, 1] ∧ g.seen 2 = [2, 1, 0] :=
  have ⟨s, g, hr, hp⟩ := ghost_witness ghUpd gh0 (witness12.take 114) _ (by decide +kernel)
  ⟨s, g, ⟨_, hr⟩, hp⟩

/-- at the same point: four critical sections, four mutations, and the list they produce -/
example : ∃ s w, ReachableW (s, w) ∧ w.ncs = 4 ∧ w.hist = [(1, .back 0), (2, .back 1), (3, .back 2), (4, .erase 1)] ∧
    s.lst = [0, 2] ∧ s.dt = false :=
  have ⟨s, w, hr, hp⟩ := ghost_witness whUpd wh0 (witness12.take 114) _ (by decide +kernel)
  ⟨s, w, ⟨_, hr⟩, hp⟩

/-- the whole run, including the list destructor, is accepted -/
example : (run witness12).isSome = true := by decide +kernel

end ConcVerif.Rcu
