import ConcVerif.Proof.RcuAll
import ConcVerif.Proof.RcuFail
/-! # C13 — rcu_list destroys and frees everything it allocated exactly once, for any T

All statements are over `Reachable s`: every accepted event sequence of the model in `Model/Rcu.lean`,
i.e. any number of threads, any client program built from `lock_read / lock_write / begin / ++ / * /
push_front / push_back / emplace_* / erase / release / ~rcu_list`, any interleaving of their primitive
steps, spurious `compare_exchange_weak` failures, throwing element constructors and allocation failures (the allocator
throws at the registration of a handle, in `push_* / emplace_*`, in `erase`) included; there is no bound on threads or steps.

The model does not *check* the allocation ledger: `nled` / `rled` are ghost fields that `alo / con /
des / fre` events update unconditionally.  The theorems say that in every reachable state such an event
finds the block in the right ledger state — so `destroy` / `deallocate` are never applied to a block
that is not constructed / allocated (a null or phantom node has no ledger entry at all: the event
vocabulary of the model has no `des null`, the driver rejects it), and never twice. -/
namespace ConcVerif.Rcu

/-- `allocate`: the block is new. -/
theorem C13_alo {s s' : St} {t : Tid} {z : Bool} {b : Nat} (h : Reachable s) (hs : step s t (.alo z b) = some s') :
    s.led z b = .none ∧ s'.led z b = .alloc :=
  led_alo h hs

/-- `construct` of a node: the block is allocated and not yet constructed. -/
theorem C13_con_node {s s' : St} {t : Tid} {n : Nat} {v : Int} (h : Reachable s) (hs : step s t (.conN n v) = some s') :
    s.nled n = .alloc ∧ s'.nled n = .cons :=
  led_con_node h hs

/-- `construct` of a log record: the block is allocated and not yet constructed. -/
theorem C13_con_rec {s s' : St} {t : Tid} {r : Nat} {o : Option Tid} {zn : Option Nat} (h : Reachable s)
    (hs : step s t (.conR r o zn) = some s') : s.rled r = .alloc ∧ s'.rled r = .cons :=
  led_con_rec h hs

/-- `destroy`: the block is constructed (in particular it exists: never a null / unconstructed /
already destroyed one). -/
theorem C13_des {s s' : St} {t : Tid} {z : Bool} {b : Nat} (h : Reachable s) (hs : step s t (.des z b) = some s') :
    s.led z b = .cons ∧ s'.led z b = .dest :=
  led_des h hs

/-- `deallocate`: the block has been destroyed — or was never constructed because the element
constructor threw inside `allocate_unique` (the thread is at `pCons`, between `allocate` and
`construct`).  It is never freed twice (`freed` has no successor, `C13_ledger_step`). -/
theorem C13_fre {s s' : St} {t : Tid} {z : Bool} {b : Nat} (h : Reachable s) (hs : step s t (.fre z b) = some s') :
    (s.led z b = .dest ∨ (s.led z b = .alloc ∧ ∃ k, s.pc t = .pCons k b)) ∧ s'.led z b = .freed :=
  led_fre h hs

/-- Exactly once, in order: a step leaves the ledger state of a block as it is or moves it to the successor
state (that only the block the event names moves: `ledger_other` in Proof/RcuAll.lean).  Since `LedNext` is acyclic and `freed` has no successor, every block goes
through `alo`, `con`, `des`, `fre` at most once each and in this order. -/
theorem C13_ledger_step {s s' : St} {t : Tid} {e : Ev} (h : Reachable s) (hs : step s t e = some s') (z : Bool) (b : Nat) :
    s'.led z b = s.led z b ∨ LedNext (s.led z b) (s'.led z b) :=
  ledger_step h hs z b

/-- Nothing that was never constructed is destroyed, nothing that was never allocated is freed. -/
theorem C13_no_phantom {s s' : St} {t : Tid} {z : Bool} {b : Nat} (h : Reachable s) :
    (step s t (.des z b) = some s' → s.led z b = .cons) ∧
    (step s t (.fre z b) = some s' → s.led z b ≠ .none ∧ s.led z b ≠ .freed) := by
  refine ⟨fun hs => (C13_des h hs).1, fun hs => ?_⟩
  rcases (C13_fre h hs).1 with h1 | ⟨h1, _⟩ <;> rw [h1] <;> simp

/-- After the list destructor (which the client may only start when no handle is alive) every block
ever allocated — element nodes and log records — is freed. -/
theorem C13_complete {s : St} {t : Tid} (h : Reachable s) (hpc : s.pc t = .retp .dtor) :
    (∀ n, n < s.nN → s.nled n = .freed) ∧ (∀ r, r < s.nR → s.rled r = .freed) := by
  have hi := inv_reachable h
  have hdt := hi.a.dtd t (by simp [hpc, inDtor])
  have hidB := others_idle (t := t) hi.a hdt (by simp [hpc, inDtor])
  have hidD := others_didle_dt hi.a hpc rfl
  have hlog : s.log = [] := by
    have := hi.b.dtr t; simpa [hpc, BView, DtorP] using this
  have hlst : s.lst = [] := by
    have := hi.c.wr t; simpa [hpc, CView, WriterP] using this
  have hrec : ∀ r, r < s.nR → s.rled r = .freed := by
    intro r hr
    rcases hi.b.cls r hr with f | f | ⟨u, hu⟩
    · exact f
    · simp only [bview_log] at f; rw [hlog] at f; cases f
    · simp only [bview_vpc] at hu
      by_cases hut : u = t
      · subst hut; rw [hpc] at hu; simp [BView, privRec] at hu
      · rw [hidB u hut] at hu; simp [privRec] at hu
  refine ⟨?_, hrec⟩
  intro n hn
  rcases hi.d.cls n hn with f | f | ⟨u, k, hu⟩ | ⟨x, hx1, hx2⟩ | ⟨u, hu⟩
  · exact f
  · simp only [dview_lst] at f; rw [hlst] at f; cases f
  · simp only [dview_vpc] at hu
    by_cases hut : u = t
    · subst hut; rw [hpc] at hu; simp [DView] at hu
    · rw [hidD u hut] at hu; rcases hu with hu | hu <;> cases hu
  · simp only [dview_rled] at hx1
    have hxr : x < s.nR := by
      apply Classical.byContradiction
      intro hc
      have := (hi.b.cntR x).2 (by simp only [bview_nR]; omega)
      simp only [bview_rled] at this; rw [this] at hx1; cases hx1
    rw [hrec x hxr] at hx1; cases hx1
  · simp only [dview_vpc] at hu
    by_cases hut : u = t
    · subst hut; rw [hpc] at hu; simp [DView] at hu
    · rw [hidD u hut] at hu; cases hu

/-- … and this is still so when the destructor has returned. -/
theorem C13_complete_ret {s s' : St} {t : Tid} (h : Reachable s) (hs : step s t (.ret .dtor) = some s') :
    (∀ n, n < s'.nN → s'.nled n = .freed) ∧ (∀ r, r < s'.nR → s'.rled r = .freed) := by
  have hS := step_sound hs
  cases hS
  rename_i hpc
  exact C13_complete (s := s) h hpc

/-- Taking and releasing handles with nothing erased destroys and frees only the handles' own records:
a release (`rcu_guard::unlock`, pcs with `myRec`) destroys / frees a node only if some node has been
erased (its `deleted` flag is set). -/
theorem C13_handles_only {s s' : St} {t : Tid} {d : Nat} {r : Nat} (h : Reachable s)
    (hrel : myRec (s.pc t) = some r)
    (hs : step s t (.des false d) = some s' ∨ step s t (.fre false d) = some s') :
    (s.nodes d).deleted = true := by
  have hi := inv_reachable h
  obtain ⟨m, hpc⟩ := release_node_pc hrel hs
  have hpr : privRec (BView (s.pc t)) = some m := by rcases hpc with e | e <;> rw [e] <;> rfl
  have hc : s.rled m = .cons := by rcases hpc with e | e <;> exact (invB_priv hi.b e rfl).2
  have hz : (s.recs m).znode = some d := by rcases hpc with e | e <;> exact (invD_held hi.d e : _ ∧ _).1
  exact (zdel_priv hi hpr (by rcases hpc with e | e <;> rw [e] <;> nofun) hc hz).1

/-! ## Allocation failures

The allocator may throw instead of allocating (`afl`): a log record at the registration of a handle or inside `erase`, a
node inside `push_* / emplace_*`.  Every step on the resulting exception path changes nothing but the pc of the thread
and the holder of the write mutex (`C13_alloc_failure_frame`), so when the exception reaches the client the list, the
log, both ledgers, the handles and the iterators are exactly what they were before the call: nothing is lost, nothing
leaks.  (`C13_complete`, `C13_ledger_step` … are statements over all reachable states, i.e. also over the traces with
allocation failures.) -/

/-- Any step on an exception path caused by an allocation failure — from the `call` to the `exc` — leaves every field of
the state except the pcs and the mutex holder unchanged; in particular `afl` itself allocates and changes nothing. -/
theorem C13_alloc_failure_frame {s s' : St} {t : Tid} {e : Ev} (hs : step s t e = some s')
    (hp : onFailPath (s.pc t) e = true) : SameData s s' ∧ ∀ u, u ≠ t → s'.pc u = s.pc u :=
  failPath_frame (step_sound hs) hp

/-- `erase` whose zombie-record allocation fails (the thread runs alone from the call to the exception): the state is
exactly the state before the call. -/
theorem C13_erase_alloc_failure {s s' : St} {t : Tid} {adv : Bool} {c : Nat} {o : Ord} {v : Option Nat}
    (h : runFrom step s [(t, .call (.erase adv)), (t, .mlk), (t, .ald (.nnext c) o v), (t, .pldDel c false), (t, .afl true),
      (t, .mul), (t, .exc (.erase true))] = some s') : s' = s := by
  obtain ⟨s1, h1, h⟩ := run_cons_some h
  obtain ⟨s2, h2, h⟩ := run_cons_some h
  obtain ⟨s3, h3, h⟩ := run_cons_some h
  obtain ⟨s4, h4, h⟩ := run_cons_some h
  obtain ⟨s5, h5, h⟩ := run_cons_some h
  obtain ⟨s6, h6, h⟩ := run_cons_some h
  obtain ⟨s7, h7, h⟩ := run_cons_some h
  simp [runFrom_nil] at h; subst h
  have p0 := call_idle h1
  obtain ⟨p1, w1, f1⟩ := shape_call (by simp) p0 h1
  obtain ⟨⟨c0, p2⟩, w2, w2', f2⟩ := shape_mlk_erase p1 h2
  obtain ⟨⟨orig, p3⟩, w3, f3⟩ := shape_eOrig p2 h3
  obtain ⟨p4, w4, f4⟩ := shape_eDel_fresh p3 h4
  obtain ⟨p5, w5, f5⟩ := shape_eAlloc_fail p4 h5
  obtain ⟨p6, w6, f6⟩ := shape_pThrown p5 h6
  obtain ⟨p7, w7, f7⟩ := shape_pExc p6 h7
  refine st_eq_of_frame (frame_trans (frame_trans (frame_trans (frame_trans (frame_trans (frame_trans f1 f2) f3) f4) f5) f6) f7) ?_ ?_
  · rw [w7, w6, ← w1, w2]
  · rw [p7, p0]

/-- `push_front / push_back / emplace_*` whose node allocation fails: the state is exactly the state before the call. -/
theorem C13_push_alloc_failure {s s' : St} {t : Tid} {f em : Bool} {x : Int}
    (h : runFrom step s [(t, .call (.push f em x)), (t, .mlk), (t, .afl false), (t, .mul), (t, .exc (.push f em x))] = some s') :
    s' = s := by
  obtain ⟨s1, h1, h⟩ := run_cons_some h
  obtain ⟨s2, h2, h⟩ := run_cons_some h
  obtain ⟨s3, h3, h⟩ := run_cons_some h
  obtain ⟨s4, h4, h⟩ := run_cons_some h
  obtain ⟨s5, h5, h⟩ := run_cons_some h
  simp [runFrom_nil] at h; subst h
  have p0 := call_idle h1
  obtain ⟨p1, w1, f1⟩ := shape_call (by simp) p0 h1
  obtain ⟨p2, w2, w2', f2⟩ := shape_mlk_push p1 h2
  obtain ⟨p3, w3, f3⟩ := shape_pAlloc_fail p2 h3
  obtain ⟨p4, w4, f4⟩ := shape_pThrown p3 h4
  obtain ⟨p5, w5, f5⟩ := shape_pExc p4 h5
  refine st_eq_of_frame (frame_trans (frame_trans (frame_trans (frame_trans f1 f2) f3) f4) f5) ?_ ?_
  · rw [w5, w4, ← w1, w2]
  · rw [p5, p0]

/-- The first use of a handle (`begin`, `push_*`, `emplace_*`) whose registration fails to allocate its log record: the
state is exactly the state before the call; the handle is still unregistered. -/
theorem C13_register_alloc_failure {s s' : St} {t : Tid} {k : Op} (hk : k ≠ .dtor)
    (h : runFrom step s [(t, .call k), (t, .afl true), (t, .exc k)] = some s') : s' = s := by
  obtain ⟨s1, h1, h⟩ := run_cons_some h
  obtain ⟨s2, h2, h⟩ := run_cons_some h
  obtain ⟨s3, h3, h⟩ := run_cons_some h
  simp [runFrom_nil] at h; subst h
  have p0 := call_idle h1
  obtain ⟨p1, w1, f1⟩ := shape_call hk p0 h1
  obtain ⟨p2, w2, f2⟩ := shape_reg_fail p1 h2
  obtain ⟨p3, w3, f3⟩ := shape_rExc p2 h3
  refine st_eq_of_frame (frame_trans (frame_trans f1 f2) f3) ?_ ?_
  · rw [w3, w2, w1]
  · rw [p3, p0]

/-! ## Non-vacuity

`witness` is a primitive-level trace of the REAL code (script `obj-a;lw,pf=7,beg,erc,rel,lr,beg,rel`, recorded by the
harness and accepted by the driver): a write handle pushes 7, erases it and is released; a read handle registers and,
on release, reclaims the zombie record `Z1` with its node `N0` and the old handle record `Z0`; then the list is destroyed.
Prefixes of it reach the hypotheses of the theorems above. -/
def witness : List (Tid × Ev) :=
  [(1, .call (.lock true)),
   (1, .ret (.lock true)),
   (1, .call (.push true false 7)),
   (1, .alo true 0),
   (1, .pstZn 0 true),
   (1, .conR 0 (some 1) none),
   (1, .ald .zhead .rlx none),
   (1, .ast (.rnext 0) .rlx none),
   (1, .cas .sc none (some 0) false none),
   (1, .ast (.rnext 0) .rlx none),
   (1, .cas .sc none (some 0) true none),
   (1, .mlk),
   (1, .alo false 0),
   (1, .pstDel 0 false),
   (1, .conN 0 7),
   (1, .ald .head .sc none),
   (1, .ast .head .sc (some 0)),
   (1, .ast .tail .sc (some 0)),
   (1, .mul),
   (1, .ret (.push true false 7)),
   (1, .call .beg),
   (1, .ald .head .sc (some 0)),
   (1, .ret .beg),
   (1, .call (.erase true)),
   (1, .mlk),
   (1, .ald (.nnext 0) .sc none),
   (1, .pldDel 0 false),
   (1, .alo true 1),
   (1, .pstZn 1 false),
   (1, .conR 1 none (some 0)),
   (1, .pstDel 0 true),
   (1, .ald (.nback 0) .sc none),
   (1, .ald (.nnext 0) .sc none),
   (1, .ast .head .sc none),
   (1, .ast .tail .sc none),
   (1, .ald .zhead .sc (some 0)),
   (1, .ast (.rnext 1) .sc (some 0)),
   (1, .cas .sc (some 0) (some 1) true (some 0)),
   (1, .mul),
   (1, .ret (.erase true)),
   (1, .call .rel),
   (1, .ald (.rnext 0) .sc none),
   (1, .ast (.rnext 0) .sc none),
   (1, .ast (.rowner 0) .sc none),
   (1, .ret .rel),
   (1, .call (.lock false)),
   (1, .ret (.lock false)),
   (1, .call .beg),
   (1, .alo true 2),
   (1, .pstZn 2 true),
   (1, .conR 2 (some 1) none),
   (1, .ald .zhead .rlx (some 1)),
   (1, .ast (.rnext 2) .rlx (some 1)),
   (1, .cas .sc (some 1) (some 2) true (some 1)),
   (1, .ald .head .sc none),
   (1, .ret .beg),
   (1, .call .rel),
   (1, .ald (.rnext 2) .sc (some 1)),
   (1, .ald (.rowner 1) .sc none),
   (1, .ald (.rnext 1) .sc (some 0)),
   (1, .ald (.rowner 0) .sc none),
   (1, .ald (.rnext 0) .sc none),
   (1, .pldZn 1 false),
   (1, .des false 0),
   (1, .fre false 0),
   (1, .ald (.rnext 1) .sc (some 0)),
   (1, .des true 1),
   (1, .fre true 1),
   (1, .pldZn 0 true),
   (1, .ald (.rnext 0) .sc none),
   (1, .des true 0),
   (1, .fre true 0),
   (1, .ast (.rnext 2) .sc none),
   (1, .ast (.rowner 2) .sc none),
   (1, .ret .rel),
   (0, .call .dtor),
   (0, .ald .head .sc none),
   (0, .ald .zhead .sc (some 2)),
   (0, .ald (.rowner 2) .sc none),
   (0, .ald (.rnext 2) .sc none),
   (0, .pldZn 2 true),
   (0, .des true 2),
   (0, .fre true 2),
   (0, .ret .dtor)]

/-- the node is destroyed by a handle release (not the destructor): a reachable state just before `des N0` -/
example : ∃ s, Reachable s ∧ s.pc 1 = .rDesN 2 1 0 ∧ s.nled 0 = .cons ∧ (s.nodes 0).deleted = true ∧
    (step s 1 (.des false 0)).isSome = true ∧ myRec (s.pc 1) = some 2 :=
  ⟨_, ⟨witness.take 63, rfl⟩, by decide, by decide, by decide, by decide, by decide⟩

/-- after the destructor everything (1 node, 3 records) is freed, and the hypothesis of `C13_complete` is reachable -/
example : ∃ s, Reachable s ∧ s.pc 0 = .retp .dtor ∧ s.nN = 1 ∧ s.nR = 3 ∧ s.nled 0 = .freed ∧ s.rled 0 = .freed ∧
    s.rled 1 = .freed ∧ s.rled 2 = .freed :=
  ⟨_, ⟨witness.take 83, rfl⟩, by decide, by decide, by decide, by decide, by decide, by decide, by decide⟩

/-- the `alloc → freed` branch of `C13_fre` (throwing element constructor) is reachable -/
def witnessThrow : List (Tid × Ev) :=
  [(1, .call (.lock true)), (1, .ret (.lock true)), (1, .call (.push true false 1)), (1, .alo true 0), (1, .pstZn 0 true),
   (1, .conR 0 (some 1) none), (1, .ald .zhead .rlx none), (1, .ast (.rnext 0) .rlx none), (1, .cas .sc none (some 0) true none),
   (1, .mlk), (1, .alo false 0), (1, .pstDel 0 false)]

example : ∃ s, Reachable s ∧ s.pc 1 = .pCons (.push true false 1) 0 ∧ s.nled 0 = .alloc ∧
    (step s 1 (.fre false 0)).isSome = true :=
  ⟨_, ⟨witnessThrow, rfl⟩, by decide, by decide, by decide⟩

/-- a real trace with allocation failures (script `obj-d;lw,pf=1!n,beg!z,pf=1,beg,erc!z,rel`): the node allocation of the
first push fails, the second push succeeds, the record allocation inside `erase` fails, the handle is released, the list
destroyed -/
def witnessFail : List (Tid × Ev) :=
  [(1, .call (.lock true)),
   (1, .ret (.lock true)),
   (1, .call (.push true false 1)),
   (1, .alo true 0),
   (1, .pstZn 0 true),
   (1, .conR 0 (some 1) none),
   (1, .ald .zhead .rlx none),
   (1, .ast (.rnext 0) .rlx none),
   (1, .cas .sc none (some 0) true none),
   (1, .mlk),
   (1, .afl false),
   (1, .mul),
   (1, .exc (.push true false 1)),
   (1, .call .beg),
   (1, .ald .head .sc none),
   (1, .ret .beg),
   (1, .call (.push true false 1)),
   (1, .mlk),
   (1, .alo false 0),
   (1, .pstDel 0 false),
   (1, .conN 0 1),
   (1, .ald .head .sc none),
   (1, .ast .head .sc (some 0)),
   (1, .ast .tail .sc (some 0)),
   (1, .mul),
   (1, .ret (.push true false 1)),
   (1, .call .beg),
   (1, .ald .head .sc (some 0)),
   (1, .ret .beg),
   (1, .call (.erase true)),
   (1, .mlk),
   (1, .ald (.nnext 0) .sc none),
   (1, .pldDel 0 false),
   (1, .afl true),
   (1, .mul),
   (1, .exc (.erase true)),
   (1, .call .rel),
   (1, .ald (.rnext 0) .sc none),
   (1, .ast (.rnext 0) .sc none),
   (1, .ast (.rowner 0) .sc none),
   (1, .ret .rel),
   (0, .call .dtor),
   (0, .ald .head .sc (some 0)),
   (0, .ald (.nnext 0) .sc none),
   (0, .des false 0),
   (0, .fre false 0),
   (0, .ald .zhead .sc (some 0)),
   (0, .ald (.rowner 0) .sc none),
   (0, .ald (.rnext 0) .sc none),
   (0, .pldZn 0 true),
   (0, .des true 0),
   (0, .fre true 0),
   (0, .ret .dtor)]

/-- the hypothesis of `C13_push_alloc_failure` is reachable -/
example : ∃ s, Reachable s ∧ (runFrom step s [(1, .call (.push true false 1)), (1, .mlk), (1, .afl false), (1, .mul),
    (1, .exc (.push true false 1))]).isSome = true :=
  ⟨_, ⟨witnessFail.take 13, rfl⟩, by decide⟩

/-- the hypothesis of `C13_erase_alloc_failure` is reachable, with the element linked -/
example : ∃ s, Reachable s ∧ s.lst = [0] ∧ (runFrom step s [(1, .call (.erase true)), (1, .mlk), (1, .ald (.nnext 0) .sc none),
    (1, .pldDel 0 false), (1, .afl true), (1, .mul), (1, .exc (.erase true))]).isSome = true :=
  ⟨_, ⟨witnessFail.take 29, rfl⟩, by decide, by decide⟩

/-- after the failed erase: nothing was allocated, the element is still linked and is freed by the destructor -/
example : ∃ s, Reachable s ∧ s.pc 1 = .idle ∧ s.lst = [0] ∧ s.nR = 1 ∧ s.nled 0 = .cons ∧ (s.nodes 0).deleted = false :=
  ⟨_, ⟨witnessFail.take 36, rfl⟩, by decide, by decide, by decide, by decide, by decide⟩

example : ∃ s, Reachable s ∧ s.pc 0 = .retp .dtor ∧ s.nN = 1 ∧ s.nR = 1 ∧ s.nled 0 = .freed ∧ s.rled 0 = .freed :=
  ⟨_, ⟨witnessFail.take 52, rfl⟩, by decide, by decide, by decide, by decide, by decide⟩

/-- the hypothesis of `C13_register_alloc_failure` is reachable -/
example : ∃ s, Reachable s ∧ (runFrom step s [(1, .call .beg), (1, .afl true), (1, .exc .beg)]).isSome = true :=
  ⟨_, ⟨witnessFail.take 2, rfl⟩, by decide⟩

end ConcVerif.Rcu
