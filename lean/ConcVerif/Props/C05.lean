import ConcVerif.Proof.RcuAll
/-! # C05 — rcu_list never frees an element (or a log record) a live handle may still reach

All statements are over `Reachable s` (model `Model/Rcu.lean`): any number of reader / writer threads, any
client program, any interleaving of primitive steps.  The model does not consult the allocation ledger
(`nled`, `rled` are ghost); "live" = ledger state `cons` (constructed, not yet destroyed).

Layering as in DESIGN §7.4 / §8.C05.

**Log layer** (R1–R5, from invariant layer B):
* `C05_record_safe`  — every access to a field of a log record (`next`, `owner`, `zombie_node`) hits a
  constructed record (the constructor's own plain stores hit the freshly allocated one);
* `C05_record_once`  — a record is deallocated only in state `dest`, i.e. at most once;
* `C05_reclaimer_unique` — at most one thread is in the reclaim phase of `rcu_guard::unlock`;
* `C05_grace` — a node is destroyed / freed by a handle release only while every record older than the
  reclaimer's own record is inactive (`owner == nullptr`), the reclaimer's record is still active, and the
  node is named by the zombie record the reclaimer has just taken off the log.

**List layer** (N2–N4, invariant layer E):
* `C05_reach` — every node a registered handle can name (its iterator; the node `erase` works on / returns) is
  *protected*: linked, or being erased (zombie record not yet pushed), or named by a zombie record that lies on the log
  above the handle's own record; and the `next` of a protected unlinked node is protected again;
* `C05_deref_live` — every access to the memory of a list node (`next`, `back`, `deleted`, `data`) by any thread — reader
  traversal, writer, destructor — hits a node whose ledger state is `cons`: constructed and neither destroyed nor freed
  (the element constructor's own stores hit the freshly allocated node). -/
namespace ConcVerif.Rcu

/-- the log record whose memory an event reads or writes -/
def Ev.recTouched : Ev → Option Nat
  | .ald (.rnext r) _ _ | .ald (.rowner r) _ _ | .ast (.rnext r) _ _ | .ast (.rowner r) _ _ => some r
  | .pldZn r _ | .pstZn r _ => some r
  | _ => none

/-- Every access to the memory of a log record hits a live record. -/
theorem C05_record_safe {s s' : St} {t : Tid} {e : Ev} {r : Nat} (h : Reachable s) (hs : step s t e = some s')
    (hr : e.recTouched = some r) : s.rled r = .cons ∨ (s.rled r = .alloc ∧ ∃ b, e = .pstZn r b) := by
  have hi := inv_reachable h
  have hS := step_sound hs
  cases hS with
  | relSome _ _ _ _ _ hh | relNone _ _ _ _ hh => cases hr; exact Or.inl (own_live hi hh)
  | regPst _ _ hpc | ePst _ _ _ hpc => cases hr; exact Or.inr ⟨(invB_priv hi.b hpc rfl).2, _, rfl⟩
  | pushStore _ _ _ _ hpc | rZnNode _ _ _ hpc | rZnNull _ _ hpc | rNext _ _ _ hpc | dOwner _ _ hpc | dRNext _ _ hpc
  | dZnNode _ _ _ hpc | dZnNull _ _ hpc | dDesZNpld _ _ _ hpc | dFreZNpld _ _ _ hpc =>
    cases hr; exact Or.inl (invB_priv hi.b hpc rfl).2
  | uOwnerActive _ _ _ _ _ hpc | uOwnerInactive _ _ _ _ hpc => cases hr; exact Or.inl (scan_cursor_live hi (Or.inl hpc))
  | uNextSome _ _ _ _ _ hpc | uNextNone _ _ _ _ hpc => cases hr; exact Or.inl (scan_cursor_live hi (Or.inr hpc))
  | uTrunc _ _ hpc => cases hr; exact Or.inl (hi.b.logCons _ (hi.b.thr_at hpc).reap.1)
  | uClear _ _ hpc =>
    cases hr
    obtain ⟨w, hw⟩ := hi.a.myr t r (by rw [hpc]; rfl)
    exact Or.inl (own_live hi hw)
  | _ => cases hr

/-- A record is deallocated only in ledger state `dest`: at most once, and only after it was destroyed. -/
theorem C05_record_once {s s' : St} {t : Tid} {r : Nat} (h : Reachable s) (hs : step s t (.fre true r) = some s') :
    s.rled r = .dest ∧ s'.rled r = .freed := by
  have hi := inv_reachable h
  have hS := step_sound hs
  cases hS with
  | rFreZ a m nx hpc =>
    exact ⟨(invB_priv hi.b hpc rfl).2, by cases nx <;> exact upd_same ..⟩
  | dFreZ m nx hpc =>
    exact ⟨(invB_priv hi.b hpc rfl).2, by cases nx <;> exact upd_same ..⟩

/-- Reclaimer uniqueness: two threads in the reclaim phase of `unlock` are the same thread. -/
theorem C05_reclaimer_unique {s : St} {t u : Tid} {a a' : Nat} (h : Reachable s)
    (ht : reaper (BView (s.pc t)) = some a) (hu : reaper (BView (s.pc u)) = some a') : t = u := by
  have hi := inv_reachable h
  obtain ⟨t1, t2, t3⟩ := reaper_facts hi ht
  obtain ⟨u1, u2, u3⟩ := reaper_facts hi hu
  by_cases e : a = a'
  · subst e; rw [t2] at u2; injection u2
  · rcases below_total t1 u1 e with h' | h'
    · have := u3 a h'; rw [t2] at this; cases this
    · have := t3 a' h'; rw [u2] at this; cases this

/-- Grace period: when a handle release destroys (`des N d`) or frees (`fre N d`) a node, the node is named by the zombie
record `m` the reclaimer has taken off the log, the reclaimer's own record `a` is still on the log and active, and every
record older than `a` — every handle that registered before — is inactive. -/
theorem C05_grace {s s' : St} {t : Tid} {d a : Nat} (h : Reachable s) (hrel : myRec (s.pc t) = some a)
    (hs : step s t (.des false d) = some s' ∨ step s t (.fre false d) = some s') :
    (∃ m, (s.recs m).znode = some d ∧ s.rled m = .cons ∧ m ∉ s.log) ∧ a ∈ s.log ∧ (s.recs a).owner = some t ∧
      ∀ x ∈ Below s.log a, (s.recs x).owner = none := by
  have hi := inv_reachable h
  obtain ⟨m, hpc⟩ := release_node_pc hrel hs
  have hre : reaper (BView (s.pc t)) = some a := by rcases hpc with e | e <;> rw [e] <;> rfl
  have hp : m ∉ s.log ∧ s.rled m = .cons := by rcases hpc with e | e <;> exact invB_priv hi.b e rfl
  have hz : (s.recs m).znode = some d := by rcases hpc with e | e <;> exact (invD_held hi.d e : _ ∧ _).1
  exact ⟨⟨m, hz, hp.2, hp.1⟩, reaper_facts hi hre⟩

/-- the list node whose memory an event reads or writes -/
def Ev.nodeTouched : Ev → Option Nat
  | .ald (.nnext n) _ _ | .ald (.nback n) _ _ | .ast (.nnext n) _ _ | .ast (.nback n) _ _ => some n
  | .pldDel n _ | .pstDel n _ | .pldData n _ | .pstData n _ => some n
  | _ => none

/-- N4 (reachability): what a registered handle can name is protected. -/
theorem C05_reach {s : St} {t : Tid} {w : Bool} {r : Nat} (h : Reachable s) (hh : s.hnd t = .reg w r) :
    (∀ c, s.it t = some (some c) → Safe s.eview r c) ∧
    (∀ x, x ∈ origOf (EView (s.pc t)) → Safe s.eview r x) ∧
    (∀ c ∈ s.order, c ∉ s.lst → ∀ x, (s.nodes c).next = some x → Safe s.eview r c → Safe s.eview r x) := by
  have hx := invX_reachable h
  exact ⟨fun c hc => hx.e.cur t w r c hh hc, fun x hxo => hx.e.org t w r x hh hxo, hx.e.edge t w r hh⟩

/-- a protected node is live (constructed, not destroyed, not freed) -/
theorem C05_protected_live {s : St} {t : Tid} {w : Bool} {r c : Nat} (h : Reachable s) (hh : s.hnd t = .reg w r)
    (hs : Safe s.eview r c) : s.nled c = .cons :=
  safe_live (invX_reachable h).i hh hs

/-- Every access to the memory of a list node hits a live node. -/
theorem C05_deref_live {s s' : St} {t : Tid} {e : Ev} {n : Nat} (h : Reachable s) (hs : step s t e = some s')
    (hn : e.nodeTouched = some n) : s.nled n = .cons ∨ (s.nled n = .alloc ∧ ((∃ b, e = .pstDel n b) ∨ ∃ v, e = .pstData n v)) := by
  have hx := invX_reachable h
  have hi := hx.i
  have hS := step_sound hs
  -- the node is protected for the handle of `t`, or `t` holds it privately, or it is linked while `t` holds the mutex
  cases hS with
  | nxt w r n' _ hpc hh hi' | der w r n' hpc hh hi' =>
    cases hn; exact Or.inl (safe_live hi hh (hx.e.cur t w r _ hh hi'))
  | eOrig c _ _ hpc | eDelDeleted c _ hpc | eDelFresh c _ hpc =>
    cases hn
    obtain ⟨r0, hr0⟩ := hi.a.wrW t (by rw [hpc]; rfl)
    exact Or.inl (safe_live hi hr0 (hx.e.org t true r0 _ hr0 (by rw [eview_vpc, hpc]; exact List.mem_cons_self)))
  | eMark _ _ _ hpc | eBack _ _ _ _ hpc | eNext _ _ _ _ _ hpc => cases hn; exact Or.inl (invD_held hi.d hpc : _ ∧ _).2
  | eUnlPrev c _ pp _ _ _ hpc =>
    cases hn
    have wr : _ ∧ _ ∧ _ ∧ NextIs s.lst (some _) (some c) ∧ _ := invC_wr hi.c hpc
    exact Or.inl (lst_live hi (others_cidle hi.a hpc rfl).1 wr.2.2.2.1.1)
  | eFixNext c _ p xx _ _ hpc =>
    cases hn
    have wr : _ ∧ _ ∧ _ ∧ _ ∧ NextIs s.lst p (some _) ∧ _ := invC_wr hi.c hpc
    have hxl : n ∈ s.lst := by
      have := wr.2.2.2.2.1
      cases p with
      | none => exact mem_of_head? this
      | some a => exact mem_of_mem_below (head_mem_below this.2)
    exact Or.inl (lst_live hi (others_cidle hi.a hpc rfl).1 hxl)
  | pPstDel _ _ _ _ hpc => cases hn; exact Or.inr ⟨invD_held hi.d hpc, Or.inl ⟨_, rfl⟩⟩
  | pPstData _ _ _ _ hpc => cases hn; exact Or.inr ⟨invD_held hi.d hpc, Or.inr ⟨_, rfl⟩⟩
  | pF1 _ _ _ _ hpc | pB1 _ _ _ _ hpc | dNext _ _ hpc => cases hn; exact Or.inl (invD_held hi.d hpc)
  | pF2 _ _ h0 _ hpc =>
    cases hn
    have wr : _ ∧ s.lst.head? = some _ := invC_wr hi.c hpc
    exact Or.inl (lst_live hi (others_cidle hi.a hpc rfl).1 (mem_of_head? wr.2))
  | pB2 _ _ h0 _ hpc =>
    cases hn
    have wr : _ ∧ NextIs s.lst (some _) none ∧ _ := invC_wr hi.c hpc
    exact Or.inl (lst_live hi (others_cidle hi.a hpc rfl).1 wr.2.1.1)
  | _ => cases hn

/-! ## Non-vacuity

A reader parked on an element while a writer erases it and then releases its own handle: the release scans, finds the
parked reader's record active and does NOT reclaim (`uOwner/active`); the parked reader then dereferences the erased
node (still live).  Recorded from the real code (script
`int-a;lw,pb=1,pb=2,rel;lr,beg;lw,eri=0,rel` under a schedule that interleaves as described) — here hand-ordered. -/
def witness05 : List (Tid × Ev) :=
  [-- thread 1: write handle, push_back 1, push_back 2, release
   (1, .call (.lock true)), (1, .ret (.lock true)), (1, .call (.push false false 1)), (1, .alo true 0),
   (1, .conR 0 (some 1) none), (1, .ald .zhead .rlx none), (1, .ast (.rnext 0) .rlx none), (1, .cas .sc none (some 0) true none),
   (1, .mlk), (1, .alo false 0), (1, .conN 0 1), (1, .ald .tail .rlx none), (1, .ast .head .sc (some 0)),
   (1, .ast .tail .sc (some 0)), (1, .mul), (1, .ret (.push false false 1)),
   (1, .call (.push false false 2)), (1, .mlk), (1, .alo false 1), (1, .conN 1 2), (1, .ald .tail .rlx (some 0)),
   (1, .ast (.nback 1) .sc (some 0)), (1, .ast (.nnext 0) .sc (some 1)), (1, .ast .tail .sc (some 1)), (1, .mul),
   (1, .ret (.push false false 2)),
   (1, .call .rel), (1, .ald (.rnext 0) .sc none), (1, .ast (.rnext 0) .sc none), (1, .ast (.rowner 0) .sc none), (1, .ret .rel),
   -- thread 2: read handle, parks its iterator on N0
   (2, .call (.lock false)), (2, .ret (.lock false)), (2, .call .beg), (2, .alo true 1), (2, .conR 1 (some 2) none),
   (2, .ald .zhead .rlx (some 0)), (2, .ast (.rnext 1) .rlx (some 0)), (2, .cas .sc (some 0) (some 1) true (some 0)),
   (2, .ald .head .sc (some 0)), (2, .ret .beg),
   -- thread 3: write handle, erases N0, releases (cannot reclaim: Z1 is active)
   (3, .call (.lock true)), (3, .ret (.lock true)), (3, .call .beg), (3, .alo true 2), (3, .conR 2 (some 3) none),
   (3, .ald .zhead .rlx (some 1)), (3, .ast (.rnext 2) .rlx (some 1)), (3, .cas .sc (some 1) (some 2) true (some 1)),
   (3, .ald .head .sc (some 0)), (3, .ret .beg),
   (3, .call (.erase true)), (3, .mlk), (3, .ald (.nnext 0) .sc (some 1)), (3, .pldDel 0 false),
   (3, .alo true 3), (3, .conR 3 none (some 0)), (3, .pstDel 0 true),
   (3, .ald (.nback 0) .sc none), (3, .ald (.nnext 0) .sc (some 1)), (3, .ast .head .sc (some 1)), (3, .ast (.nback 1) .sc none),
   (3, .ald .zhead .sc (some 2)), (3, .ast (.rnext 3) .sc (some 2)),
   (3, .cas .sc (some 2) (some 3) true (some 2)), (3, .mul), (3, .ret (.erase true)),
   (3, .call .rel), (3, .ald (.rnext 2) .sc (some 1)), (3, .ald (.rowner 1) .sc (some 2)), (3, .ast (.rowner 2) .sc none),
   (3, .ret .rel),
   -- thread 2 reads the erased element and moves on
   (2, .call .der)]

/-- the parked reader dereferences the erased (unlinked, zombie-logged) node: it is still constructed, protected by the
third disjunct of `Safe` (its zombie record `Z3` lies above the reader's record `Z1`) -/
example : ∃ s, Reachable s ∧ s.hnd 2 = .reg false 1 ∧ s.it 2 = some (some 0) ∧ 0 ∉ s.lst ∧ s.log = [3, 2, 1, 0] ∧
    (s.recs 3).znode = some 0 ∧ s.nled 0 = .cons ∧ (step s 2 (.pldData 0 1)).isSome = true :=
  ⟨_, ⟨witness05, rfl⟩, by decide, by decide, by decide, by decide, by decide, by decide, by decide⟩

end ConcVerif.Rcu
