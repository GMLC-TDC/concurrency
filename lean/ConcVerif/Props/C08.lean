import ConcVerif.Props.C01
import ConcVerif.Proof.LockFamCounts
/-! # C08 — a handle is non-null exactly when it holds the lock, and releases it once

Same model (`Model/LockFam.lean`): handle slots with `live / owns / nonnull / husk` (moved-from),
handle operations `destroy`, `unlock`, `movec` (move-construct), `movea` (move-assign).  The
deferred_guarded half of C08 is in `Props/C08_deferred.lean`. -/
namespace ConcVerif.LockFam

/-- The handle returned by any acquisition (blocking, try, timed; exclusive or shared) is non-null
exactly when the lock was obtained: at the `got` event the reported truth value equals "this thread
now holds the mutex". -/
theorem C08_null_iff {en cap : Bool} {s s' : St} {t : Tid} {i : Slot} {nn : Bool} (h : Reachable en cap s)
    (he : s.enabled = true) (hs : step s t (.got i nn) = some s') : (nn = true ↔ s.held t ≠ .none) := by
  have hl := (inv_reachable h).l t
  obtain ⟨p, hp, hst⟩ := Step.of_step_ex hs
  cases hst with
  | gotOff he' _ => rw [he] at he'; cases he'
  | got _ =>
    rw [hl.link]; simp only [ownMode, hp]
    exact hl.acqdOk _ _ hp

/-- The try / timed forms never block: whatever the other threads hold, their lock event is enabled
(with outcome "obtained" if the mutex allows it, "not obtained" otherwise). -/
theorem C08_try_nonblocking {en cap : Bool} {s : St} {t : Tid} {sd : Side} {how : How} (he : s.enabled = true)
    (hp : (s.loc t).pc = .acq sd how) (hh : how ≠ .block) :
    (step s t (.lk (effSide s.capable sd) how false)).isSome = true :=
  Step.isSome hp (.lkFail he rfl hh)

/-- A non-null handle keeps the lock: between handle operations a live, non-null, not moved-from
handle owns the lock (`C01_handle_holds`), and the lock is released only inside an operation on the
handle that owns it (destroy / unlock / being move-assigned over) or at the end of a whole-object
bracket — never spontaneously. -/
theorem C08_release_only_by_owner {s s' : St} {t : Tid} {sd : Side} (hs : step s t (.rel sd) = some s') :
    (∃ k, (s.loc t).pc = .hop k true ∧ modeSide ((s.loc t).get k.relSlot).owns = some sd) ∨
    (∃ w m a b c, (s.loc t).pc = .whole w m a b c ∧ modeSide m = some sd) := by
  obtain ⟨p, hp, hst⟩ := Step.of_step_ex hs
  cases hst with
  | rel hm _ => exact .inl ⟨_, hp, hm⟩
  | wRelExc hm _ | wRel hm _ _ _ | wRelOff hm _ _ => exact .inr ⟨_, _, _, _, _, hp, hm⟩

/-- Released exactly once: per thread, successful acquisition events = release events + (1 if it
holds the mutex now).  In particular every thread that is outside all operations has released
exactly as often as it acquired. -/
theorem C08_released_once {en cap : Bool} {s : St} (h : Reachable en cap s) (t : Tid) :
    s.acqs t = s.rels t + (if s.held t = .none then 0 else 1) :=
  ((inv_reachable h).l t).counts

theorem C08_released_once_idle {en cap : Bool} {s : St} (h : Reachable en cap s) {t : Tid}
    (hp : (s.loc t).pc = .idle) : s.acqs t = s.rels t := by
  have := C08_released_once h t
  rw [C01_no_leak h hp] at this; simpa using this

/-- An owning handle cannot be destroyed / unlocked / assigned over without the release happening:
after the operation begins on a slot that owns, the only accepted next event is the release. -/
theorem C08_op_must_release {s s' : St} {t : Tid} {k : HopK} {e : Ev} (hp : (s.loc t).pc = .hop k true)
    (hs : step s t e = some s') : ∃ sd, e = .rel sd := by
  cases Step.of_step_at hp hs with
  | rel => exact ⟨_, rfl⟩

/-- After `unlock()` the handle is null and owns nothing (the model accepts the end of an `unlock`
operation only if the real handle reported `false`). -/
theorem C08_unlock_null {s s' : St} {t : Tid} {i : Slot} {r : Option Bool}
    (hp : (s.loc t).pc = .hop (.unlock i) false) (hs : step s t (.hend r) = some s') :
    r = some false ∧ ((s'.loc t).get i).nonnull = false ∧ ((s'.loc t).get i).owns = .none := by
  cases Step.of_step_at hp hs with
  | heUnlock =>
    rw [setLoc_loc_self, get_set, if_pos rfl]
    exact ⟨rfl, rfl, rfl⟩
  | heMove hk => rcases hk with hk | hk <;> cases hk

/-- A moved-from handle owns nothing: destroying it releases nothing (no release event is accepted). -/
theorem C08_husk_destroy_silent {en cap : Bool} {s s' : St} {t : Tid} {i : Slot} (h : Reachable en cap s)
    (hp : (s.loc t).pc = .sess) (hh : ((s.loc t).get i).husk = true)
    (hs : step s t (.hbegin (.destroy i)) = some s') : (s'.loc t).pc = .hop (.destroy i) false := by
  have hl := (inv_reachable h).l t
  have hown : ((s.loc t).get i).owns = .none := by
    apply Classical.byContradiction; intro hne
    exact nomatch hh.symm.trans (slot_ok hl i hne).2.2
  cases Step.of_step_at hp hs
  rw [setPc_pc, hown]; rfl

/-- Locking disabled: every acquisition returns a usable (non-null) handle immediately — the `got`
event is enabled in every global state, whatever other threads hold — and performs no lock
operation at all (no lock event is accepted from an acquisition), so it never waits. -/
theorem C08_disabled {en cap : Bool} {s : St} (h : Reachable en cap s) (he : s.enabled = false) {t : Tid}
    {sd : Side} {how : How} (hp : (s.loc t).pc = .acq sd how) :
    (step s t (.got .a true)).isSome = true ∧ ∀ sd' how' ok, step s t (.lk sd' how' ok) = none := by
  refine ⟨Step.isSome hp (.gotOff he (((inv_reachable h).l t).dead (by rw [hp]; rfl)).1), fun sd' how' ok => ?_⟩
  cases hr : step s t (.lk sd' how' ok)
  · rfl
  · cases Step.of_step_at hp hr with
    | lkOk he' _ _ | lkFail he' _ _ => rw [he] at he'; cases he'

/-! Non-vacuity: a failed `try_lock` (thread 2, while thread 1 holds the lock) yields a null handle;
thread 1 unlocks its handle (release, then null). -/
example : ∃ s, Reachable true false s ∧ (s.loc 2).ha.nonnull = false ∧ (s.loc 2).ha.live = true ∧
    (s.loc 1).ha.nonnull = false ∧ s.acqs 1 = 1 ∧ s.rels 1 = 1 ∧ s.held 1 = .none :=
  ⟨_, ⟨[(1, .callSess), (1, .acq .X .block), (1, .lk .X .block true), (1, .got .a true),
        (2, .callSess), (2, .acq .X .try_), (2, .lk .X .try_ false), (2, .got .a false),
        (1, .hbegin (.unlock .a)), (1, .rel .X), (1, .hend (some false))], rfl⟩,
   by decide, by decide, by decide, by decide, by decide, by decide⟩

/-! ## The ghost counters are tied to the events of the trace

`C08_released_once` speaks about the ghost counters `acqs` / `rels`.  For every accepted trace they
are exactly the numbers of successful lock events and of unlock events the thread made. -/

theorem C08_counts_are_events {en cap : Bool} {es : List (Tid × Ev)} {s : St} (h : run en cap es = some s)
    (t : Tid) : s.acqs t = locksOf t es ∧ s.rels t = unlocksOf t es := by
  have := run_counts es h t
  simpa [init] using this

/-- "released exactly once", on the trace itself: in every accepted trace each thread's successful
lock events (mutex lock / successful try / timed / shared forms) exceed its unlock events by one
exactly while it holds the mutex, and are equal in number whenever it holds nothing. -/
theorem C08_released_once_trace {en cap : Bool} {es : List (Tid × Ev)} {s : St} (h : run en cap es = some s)
    (t : Tid) : locksOf t es = unlocksOf t es + (if s.held t = .none then 0 else 1) := by
  have h1 := C08_released_once ⟨es, h⟩ t
  have h2 := C08_counts_are_events h t
  omega

/-- a thread outside every operation has unlocked exactly as often as it locked -/
theorem C08_released_once_idle_trace {en cap : Bool} {es : List (Tid × Ev)} {s : St}
    (h : run en cap es = some s) {t : Tid} (hp : (s.loc t).pc = .idle) : locksOf t es = unlocksOf t es := by
  have h1 := C08_released_once_idle ⟨es, h⟩ hp
  have h2 := C08_counts_are_events h t
  omega

end ConcVerif.LockFam
