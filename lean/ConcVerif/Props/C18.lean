import ConcVerif.Proof.DObjConc
import ConcVerif.Proof.DObjLive
/-! # C18 — every DelayedObjects future is fulfilled exactly once and never hangs

Model: `Model/DObj.lean`.  Sequential specification `Seq.apply` (one pure function per public method,
quirks included) + concurrent layer `step` (every call is one critical section of `promiseLock`; the
specification is applied at the `mlk`, the `ret` must carry its result, the critical section must perform
exactly the `set_value` calls it prescribes).  `s.seq.promise p` is the state of promise `p`
(`unset` / `val v` / `broken`), `s.sets` the ghost log of every `set_value` call, `s.hist` the ghost
history in linearisation order.  "Requested once" is a hypothesis where the property has it: in the code,
`getFuture(k)` for a key that is still pending abandons the earlier promise (`broken_promise`). -/
namespace ConcVerif.DObj

/-! ## exactly once -/

/-- **At most once.**  In every reachable state no promise has been the target of two `set_value` calls,
and a promise holds value `v` exactly if the one call `set_value(v)` on it has been made. -/
theorem C18_exactly_once_at_most {s : St} (h : Reachable s) :
    (s.sets.map (·.1)).Nodup ∧ ∀ p v, s.seq.promise p = .val v ↔ (p, v) ∈ s.sets :=
  ⟨(inv_reachable h).setsNodup, (inv_reachable h).setsIff⟩

/-- **No `promise_already_satisfied`.**  Whenever a thread inside any method finds the lock free, its
critical section is defined by the specification: the methods never call `set_value` on a promise that
already holds a value (that is the only case the specification leaves undefined), whatever the
interleaving of setters, fulfillers and requesters. -/
theorem C18_exactly_once_no_throw {s : St} {t : Tid} {o : Op} (h : Reachable s) (hpc : s.pc t = .called o)
    (hl : s.lock = none) : ∃ s', step s t .mlk = some s' :=
  mlk_defined (inv_reachable h) hpc hl

/-- the specification is defined on every well-formed live container (sequential form of the above) -/
theorem C18_exactly_once_spec_defined {σ : Seq} (w : WF σ) (hd : σ.dead = false) (o : Op)
    (hf : ∀ k p, o = .get k p → p ∉ σ.handed) : ∃ x, σ.apply o = some x :=
  apply_defined w hd o hf

theorem C18_wf {s : St} (h : Reachable s) : WF s.seq := (inv_reachable h).wf

/-- **Value rule** (C18_value).  For every reachable state and every future handed out by a `getFuture(k)`
whose key is not requested again afterwards: its promise holds the value of the first operation after
the request, in linearisation order, that is a `setDelayedValue(k, v)` (value `v`), a
`fulfillAllPromises(v)` (value `v`) or the destructor (value `X{}` = 0) — and is still unset if there
was none.  `firstHit k after = after.findSome? (·.op.hits k)`, see `C18_value_reading`. -/
theorem C18_value {s : St} {k : Key} {p : Id} {before after : List HEntry} (h : Reachable s)
    (hh : Handed s k p before after) (honce : ∀ e ∈ after, ∀ q, e.op ≠ .get k q) :
    s.seq.promise p = (match firstHit k after with | some v => .val v | none => .unset) := by
  obtain ⟨σ, w, _, hl, hr⟩ := hh.state (inv_reachable h)
  exact value_rule after σ s.seq w hl honce hr

/-- how to read `firstHit`: the first entry for which `Op.hits k` is defined -/
theorem C18_value_reading (k : Key) (h : List HEntry) :
    (∀ v, firstHit k h = some v ↔
      ∃ l₁ e l₂, h = l₁ ++ e :: l₂ ∧ e.op.hits k = some v ∧ ∀ x ∈ l₁, x.op.hits k = none) ∧
    (firstHit k h = none ↔ ∀ x ∈ h, x.op.hits k = none) := by
  rw [firstHit_eq_findSome]
  exact ⟨fun v => List.findSome?_eq_some_iff, List.findSome?_eq_none_iff⟩

/-- `Op.hits`: a matching `setDelayedValue` gives its value, `fulfillAllPromises` its value, the destructor
the default; nothing else satisfies a pending promise -/
theorem C18_value_hits (k : Key) :
    (∀ v mv, (Op.set k v mv).hits k = some v) ∧ (∀ k' v mv, k' ≠ k → (Op.set k' v mv).hits k = none) ∧
    (∀ v, (Op.ful v).hits k = some v) ∧ Op.dtor.hits k = some 0 ∧
    (∀ k' q, (Op.get k' q).hits k = none) ∧ (∀ k', (Op.isRec k').hits k = none) ∧
    (∀ k', (Op.isComp k').hits k = none) ∧ (∀ k', (Op.fin k').hits k = none) := by
  refine ⟨?_, ?_, ?_, ?_, ?_, ?_, ?_, ?_⟩ <;> intros <;> simp_all [Op.hits]

/-- **Exactly once, at the latest by the destructor** (C18_exactly_once).  After the container's
destructor every future handed out for a key that was not requested again is ready with a value — the
one given by the value rule — and exactly one `set_value` call was made on its promise. -/
theorem C18_exactly_once_destroyed {s : St} {k : Key} {p : Id} {before after : List HEntry} (h : Reachable s)
    (hd : s.seq.dead = true) (hh : Handed s k p before after) (honce : ∀ e ∈ after, ∀ q, e.op ≠ .get k q) :
    ∃ v, firstHit k after = some v ∧ s.seq.promise p = .val v ∧ (s.sets.map (·.1)).count p = 1 := by
  have hi := inv_reachable h
  obtain ⟨σ, _, hd2, _, hr⟩ := hh.state hi
  -- the destructor is among the operations after the request, so there is a first hit
  have hsome := firstHit_dtor (k := k) (run_dead hr hd hd2)
  have hv := C18_value h hh honce
  cases hf : firstHit k after with
  | none => rw [hf] at hsome; cases hsome
  | some v =>
    rw [hf] at hv
    refine ⟨v, rfl, hv, ?_⟩
    have hm : p ∈ s.sets.map (·.1) := List.mem_map.2 ⟨(p, v), (hi.setsIff p v).1 hv, rfl⟩
    rw [hi.setsNodup.count]; simp [hm]

/-- **Never hangs** (safety form): once the destructor has run, every future ever handed out is ready —
with a value or, if its key was requested again while it was pending, with `broken_promise`.  (That a
blocked consumer is eventually scheduled after that is fair termination of the scheduler and `std::future`,
not mechanised.) -/
theorem C18_never_hangs_partial {s : St} (h : Reachable s) (hd : s.seq.dead = true) :
    ∀ p, p ∈ s.seq.handed → s.seq.promise p ≠ .unset := by
  intro p hp hu
  have w := (inv_reachable h).wf
  obtain ⟨k, hk⟩ := w.handedAcc p hp hu
  rw [(w.deadEmpty hd).1] at hk; cases hk

/-- the futures handed out are exactly the `getFuture` entries of the history -/
theorem C18_handed_iff {s : St} (h : Reachable s) (p : Id) :
    p ∈ s.seq.handed ↔ ∃ e ∈ s.hist, ∃ k, e.op = .get k p := by
  have := run_handed (inv_reachable h).lin p
  simpa [Seq.init] using this

/-- a satisfied promise keeps its value: a ready future never changes -/
theorem C18_value_stable {s s' : St} {t : Tid} {e : Ev} {p : Id} {v : Val}
    (hs : step s t e = some s') (hv : s.seq.promise p = .val v) : s'.seq.promise p = .val v := by
  induction step_tr hs with
  | mlk o σ r l hpc hl ha => exact apply_val_stable ha hv
  | _ => exact hv

/-- what a consumer reads from a future is the state of its promise -/
theorem C18_got_sound {s s' : St} {t : Tid} {p : Id} {x : PState} (hs : step s t (.got p x) = some s') :
    s.seq.promise p = x ∧ x ≠ .unset ∧ s' = s := by
  cases step_tr hs with
  | got p x hpc hx hp => exact ⟨hp, hx, rfl⟩

/-! ## no-op -/

/-- **No-op** (C18_noop).  `setDelayedValue` for a key that is unknown or completed (not pending) changes
nothing and sets no promise. -/
theorem C18_noop {σ : Seq} {k : Key} (v : Val) (mv : Bool) (hd : σ.dead = false)
    (hk : σ.phase k = .unknown ∨ σ.phase k = .completed) : σ.apply (.set k v mv) = some (σ, .unit, []) := by
  have : lookup k σ.pending = none := by
    unfold Seq.phase at hk
    split at hk <;> simp_all
  exact App.to_apply hd (.setNone k v mv this)

/-- the same under concurrency: the critical section of such a call leaves the container and the
`set_value` log untouched and has no `set_value` to perform -/
theorem C18_noop_concurrent {s s' : St} {t : Tid} {k : Key} {v : Val} {mv : Bool}
    (hpc : s.pc t = .called (.set k v mv)) (hk : s.seq.phase k = .unknown ∨ s.seq.phase k = .completed)
    (hs : step s t .mlk = some s') :
    s'.seq = s.seq ∧ s'.sets = s.sets ∧ s'.pc t = .locked (.set k v mv) .unit [] := by
  cases step_tr hs with
  | mlk o σ r l hpc' hl ha =>
    rw [hpc] at hpc'; cases hpc'
    rw [C18_noop v mv (apply_dead ha).1 hk] at ha
    cases ha
    simp

/-! ## queries and life cycle -/

/-- **Life-cycle automaton** (C18_queries).  Every method moves every key along the automaton
`Phase.after`: `getFuture(k)`: unknown → pending, completed → both (quirk: completed entry kept),
pending / both stay (the old pending promise is abandoned); `setDelayedValue(k)` and `fulfillAllPromises`:
pending / both → completed; `finishedWithValue(k)`: completed → unknown (forgotten), both → pending;
queries and operations on other keys change nothing. -/
theorem C18_queries_lifecycle {σ σ' : Seq} {o : Op} {r : Res} {l : List (Id × Val)}
    (h : σ.apply o = some (σ', r, l)) (k : Key) : σ'.phase k = Phase.after o k (σ.phase k) :=
  phase_step h k

/-- the automaton for a key requested once: unknown → pending → completed → forgotten -/
theorem C18_queries_once (k : Key) (p : Id) (v : Val) (mv : Bool) :
    Phase.after (.get k p) k .unknown = .pending ∧ Phase.after (.set k v mv) k .pending = .completed ∧
    Phase.after (.ful v) k .pending = .completed ∧ Phase.after (.fin k) k .completed = .unknown ∧
    Phase.after (.fin k) k .pending = .pending ∧ Phase.after (.set k v mv) k .completed = .completed ∧
    Phase.after (.set k v mv) k .unknown = .unknown := by
  simp [Phase.after]

/-- `isRecognized(k)` is true exactly when `k` is pending or completed; it changes nothing -/
theorem C18_queries_isRecognized {σ σ' : Seq} {k : Key} {r : Res} {l : List (Id × Val)}
    (h : σ.apply (.isRec k) = some (σ', r, l)) :
    σ' = σ ∧ l = [] ∧ ∃ b, r = .bool b ∧ (b = true ↔ σ.phase k ≠ .unknown) := by
  cases (App.of_apply h).2
  exact ⟨rfl, rfl, _, rfl, phase_unknown_iff σ k⟩

/-- `isCompleted(k)` is true exactly when `k` has a completed entry; it changes nothing -/
theorem C18_queries_isCompleted {σ σ' : Seq} {k : Key} {r : Res} {l : List (Id × Val)}
    (h : σ.apply (.isComp k) = some (σ', r, l)) :
    σ' = σ ∧ l = [] ∧ ∃ b, r = .bool b ∧ (b = true ↔ (σ.phase k = .completed ∨ σ.phase k = .both)) := by
  cases (App.of_apply h).2
  exact ⟨rfl, rfl, _, rfl, phase_completed_iff σ k⟩

/-- `finishedWithValue(k)` touches no promise and sets none -/
theorem C18_queries_finished {σ σ' : Seq} {k : Key} {r : Res} {l : List (Id × Val)}
    (h : σ.apply (.fin k) = some (σ', r, l)) :
    σ'.promise = σ.promise ∧ σ'.pending = σ.pending ∧ l = [] ∧ r = .unit := by
  cases (App.of_apply h).2
  exact ⟨rfl, rfl, rfl, rfl⟩

/-- what the phases mean for the futures, in every reachable state: the promise of a pending key is not
yet satisfied, the promise of a completed key holds a value (its future is ready) -/
theorem C18_queries_phase_promise {s : St} (h : Reachable s) (k : Key) :
    (∀ p, lookup k s.seq.pending = some p → s.seq.promise p = .unset) ∧
    (∀ p, lookup k s.seq.used = some p → ∃ v, s.seq.promise p = .val v) :=
  have w := (inv_reachable h).wf
  ⟨fun p h => w.pendUnset k p (lookup_mem h), fun p h => w.usedDone k p (lookup_mem h)⟩

/-! ## linearisability, mutual exclusion, progress -/

/-- **Linearisability.**  For every concurrent execution (any threads, any interleaving) the operations,
in the order of their linearisation points, form a legal sequential history of the specification with
exactly the recorded results, ending in the current state of the container. -/
theorem C18_linearizable {s : St} (h : Reachable s) : Seq.init.run s.hist = some s.seq :=
  (inv_reachable h).lin

/-- the result a caller receives is the one recorded at its linearisation point -/
theorem C18_result_recorded {s s' : St} {t : Tid} {o o' : Op} {r r' : Res} (h : Reachable s)
    (hpc : s.pc t = .unlocked o r) (hs : step s t (.ret o' r') = some s') :
    o' = o ∧ r' = r ∧ HEntry.mk t o r ∈ s.hist := by
  cases step_tr hs with
  | ret o2 r2 hpc' =>
    rw [hpc] at hpc'; cases hpc'
    exact ⟨rfl, rfl, (inv_reachable h).recorded t o r (.inl hpc)⟩

/-- the linearisation point lies inside the call: the entry is appended by the operation's own `mlk`,
after its `call` and before its `ret` -/
theorem C18_entry_inside_call {s s' : St} {t : Tid} {o : Op} (hpc : s.pc t = .called o)
    (hs : step s t .mlk = some s') :
    ∃ r td, s'.hist = s.hist ++ [HEntry.mk t o r] ∧ s'.pc t = .locked o r td := by
  cases step_tr hs with
  | mlk o2 σ r l hpc' hl ha =>
    rw [hpc] at hpc'; cases hpc'
    exact ⟨r, l.map Prod.snd, rfl, by simp⟩

/-- the history is append-only: real-time order and program order are respected -/
theorem C18_history_append_only {s s' : St} {t : Tid} {e : Ev} (hs : step s t e = some s') :
    ∃ l, s'.hist = s.hist ++ l := by
  induction step_tr hs with
  | mlk o σ r l hpc hl ha => exact ⟨_, rfl⟩
  | _ => exact ⟨[], by simp⟩

theorem C18_mutual_exclusion {s : St} {t u : Tid} {o o' : Op} {r r' : Res} {td td' : List Val} (h : Reachable s)
    (ht : s.pc t = .locked o r td) (hu : s.pc u = .locked o' r' td') : t = u := by
  have hi := inv_reachable h
  have h1 := (hi.lockPc t).2 ⟨o, r, td, ht⟩
  have h2 := (hi.lockPc u).2 ⟨o', r', td', hu⟩
  rw [h1] at h2; injection h2

/-- the maps are touched only under the lock (or by the destructor's member destruction) -/
theorem C18_access_locked {s s' : St} {t : Tid} (h : Reachable s) (hs : step s t .acc = some s') :
    s.lock = some t ∨ ∃ r, s.pc t = .unlocked .dtor r := by
  cases step_tr hs with
  | accL o r todo hpc => exact Or.inl (((inv_reachable h).lockPc t).2 ⟨o, r, todo, hpc⟩)
  | accD r hpc => exact Or.inr ⟨r, hpc⟩

theorem C18_idle_holds_nothing {s : St} {t : Tid} (h : Reachable s) (hpc : s.pc t = .idle) : s.lock ≠ some t := by
  intro hl
  obtain ⟨o, r, td, hp⟩ := ((inv_reachable h).lockPc t).1 hl
  rw [hpc] at hp; cases hp

/-- the lock holder has an enabled event.  Weak as stated: the stutter `acc`, always accepted under the lock, is a
witness.  The content is `holder_lib` (Proof/DObjLive.lean), which this follows from: its next `set_value`, or the
unlock — a library step — is enabled; that is the form `C18_progress` rests on. -/
theorem C18_holder_enabled {s : St} {t : Tid} (h : Reachable s) (hl : s.lock = some t) :
    ∃ e s', step s t e = some s' :=
  (holder_lib (inv_reachable h) hl).step

/-- a thread inside a call has an enabled event, or waits for the lock, whose holder has one.  For the holder this is
as weak as `C18_holder_enabled` (`acc` is a witness); deadlock-freedom proper, with library steps only, is
`lib_enabled_or_waits` (Proof/DObjLive.lean), of which this is a consequence, and `C18_progress`. -/
theorem C18_deadlock_free {s : St} {t : Tid} (h : Reachable s) (hpc : s.pc t ≠ .idle) :
    (∃ e s', step s t e = some s') ∨ (∃ u, u ≠ t ∧ s.lock = some u ∧ ∃ e s', step s u e = some s') :=
  (lib_enabled_or_waits (inv_reachable h) hpc).imp LibEnabled.step
    fun ⟨u, hu, hl, he⟩ => ⟨u, hu, hl, he.step⟩

/-! ## non-vacuity -/

/-- two consumers, a setter and a fulfiller: `getFuture(1)`→p0, `getFuture("s2")`→p1, `set(1,5)` and
`fulfillAll(7)` interleaved, then the destructor: p0 = 5 (the set came first), p1 = 7, both set once -/
def exTrace : List (Tid × Ev) :=
  [(1, .call (.get (.i 1) 0)), (2, .call (.get (.s 2) 1)), (2, .mlk), (2, .acc), (2, .mul),
   (1, .mlk), (1, .mul), (1, .ret (.get (.i 1) 0) .unit), (2, .ret (.get (.s 2) 1) .unit),
   (3, .call (.set (.i 1) 5 false)), (4, .call (.ful 7)), (3, .mlk), (3, .pset 5), (3, .mul),
   (4, .mlk), (4, .pset 7), (4, .mul), (1, .got 0 (.val 5)), (3, .ret (.set (.i 1) 5 false) .unit),
   (4, .ret (.ful 7) .unit), (3, .call (.isComp (.i 1))), (3, .mlk), (3, .mul), (3, .ret (.isComp (.i 1)) (.bool true)),
   (0, .call .dtor), (0, .mlk), (0, .mul), (0, .acc), (0, .ret .dtor .unit), (0, .got 1 (.val 7))]

example : ∃ s, Reachable s ∧ s.seq.dead = true ∧ s.seq.promise 0 = .val 5 ∧ s.seq.promise 1 = .val 7 ∧
    s.sets = [(0, 5), (1, 7)] ∧ s.hist.length = 6 ∧ s.seq.handed = [0, 1] :=
  ⟨_, ⟨exTrace, rfl⟩, by decide, by decide, by decide, by decide, by decide, by decide⟩

/-- the hypotheses of `C18_value` / `C18_exactly_once_destroyed` are satisfiable: promise 0 was handed out by
the second history entry (thread 1's `getFuture(1)`), key 1 is not requested again, the first hit is the `set` -/
example : ∃ s, Reachable s ∧ s.seq.dead = true ∧
    ∃ before after, Handed s (.i 1) 0 before after ∧ (∀ e ∈ after, ∀ q, e.op ≠ .get (.i 1) q) ∧
      firstHit (.i 1) after = some 5 :=
  ⟨_, ⟨exTrace, rfl⟩, by decide, [⟨2, .get (.s 2) 1, .unit⟩],
    [⟨3, .set (.i 1) 5 false, .unit⟩, ⟨4, .ful 7, .unit⟩, ⟨3, .isComp (.i 1), .bool true⟩, ⟨0, .dtor, .unit⟩],
    ⟨⟨⟨1, .get (.i 1) 0, .unit⟩, by decide, rfl⟩⟩,
    by intro e he q; simp at he; rcases he with rfl | rfl | rfl | rfl <;> simp, by decide⟩

/-- thread 1 requests key 1 (promise 0) and returns -/
def getOnce : List (Tid × Ev) := [(1, .call (.get (.i 1) 0)), (1, .mlk), (1, .mul), (1, .ret (.get (.i 1) 0) .unit)]

/-- … then takes the lock for `setDelayedValue(1, 5)` while thread 2, inside `fulfillAllPromises(7)`, waits for it -/
def waitTrace : List (Tid × Ev) := getOnce ++ [(1, .call (.set (.i 1) 5 true)), (2, .call (.ful 7)), (1, .mlk)]

/-- the quirk is reachable: requesting a pending key again breaks the first promise; after the destructor
the first future is ready with `broken_promise`, the second with the default value -/
example : ∃ s, Reachable s ∧ s.seq.dead = true ∧ s.seq.promise 0 = .broken ∧ s.seq.promise 1 = .val 0 ∧
    s.seq.handed = [1, 0] :=
  ⟨_, ⟨getOnce ++ [(1, .call (.get (.i 1) 1)), (1, .mlk), (1, .mul), (1, .ret (.get (.i 1) 1) .unit),
        (1, .got 0 .broken), (0, .call .dtor), (0, .mlk), (0, .pset 0), (0, .mul), (0, .ret .dtor .unit)], rfl⟩,
   by decide, by decide, by decide, by decide⟩

/-- a thread waiting for the lock while another is inside its critical section with a `set_value` to do
(hypotheses of `C18_exactly_once_no_throw`, `C18_holder_enabled`, `C18_deadlock_free`, `C18_mutual_exclusion`) -/
example : ∃ s, Reachable s ∧ s.pc 2 = .called (.ful 7) ∧ s.pc 1 = .locked (.set (.i 1) 5 true) .unit [5] ∧
    s.lock = some 1 :=
  ⟨_, ⟨waitTrace, rfl⟩, by decide, by decide, by decide⟩

/-- no-op cases are reachable: set on an unknown key, and on a completed key -/
example : ∃ s, Reachable s ∧ s.seq.phase (.i 9) = .unknown ∧ s.seq.phase (.i 1) = .completed ∧
    s.pc 1 = .called (.set (.i 1) 6 false) ∧ s.lock = none :=
  ⟨_, ⟨getOnce ++ [(1, .call (.set (.i 1) 5 true)), (1, .mlk), (1, .pset 5), (1, .mul), (1, .ret (.set (.i 1) 5 true) .unit),
        (1, .call (.set (.i 1) 6 false))], rfl⟩, by decide, by decide, by decide, by decide⟩

/-! ## Liveness: every call returns — for every scheduler

Environment events (`isEnv`, Proof/DObjLive.lean): `call`, the tap observation `acc`, a consumer's observation
`got`; library steps: `mlk`, each `set_value` (`pset`), `mul`, `ret`.
* `C18_terminates` (no livelock): an execution that makes no environment event from some point on cannot be
  infinite, whatever the scheduler does (two-level rank: "has not taken `promiseLock` yet", then
  `todo.length + 2` — the `set_value` calls of a critical section are fixed when the lock is taken).
* `C18_progress` / `C18_stuck_all_returned` (no deadlock): a reachable state without enabled library step has
  every thread returned.  With `C18_never_hangs_partial`: a maximal execution with finitely many calls that
  includes the destructor ends with every thread returned and every future handed out ready.
Not covered: starvation of one caller by infinitely many calls of others under an unfair mutex; a consumer
blocked inside `future::get` is not modelled as a thread state (`got` observes a ready future). -/

theorem C18_terminates (x : Live.Exec step) (N : Nat) (ts : List Tid) (hnd : ts.Nodup)
    (hts : ∀ n, N ≤ n → x.who n ∈ ts) (hnc : ∀ n, N ≤ n → isEnv (x.ev n) = false) : False :=
  Live.no_infinite_run_lex rankedLex ts hnd x N trivial hts hnc

/-- deadlock-freedom: if some thread is inside a call, some thread has an enabled library step -/
theorem C18_progress {s : St} (h : Reachable s) {t : Tid} (ht : s.pc t ≠ .idle) : ∃ u, LibEnabled s u := by
  rcases lib_enabled_or_waits (inv_reachable h) ht with he | ⟨u, _, _, he⟩
  · exact ⟨t, he⟩
  · exact ⟨u, he⟩

theorem C18_stuck_all_returned {s : St} (h : Reachable s) (hstuck : ∀ u, ¬ LibEnabled s u) (t : Tid) :
    s.pc t = .idle := by
  apply Classical.byContradiction
  intro ht
  obtain ⟨u, hu⟩ := C18_progress h ht
  exact hstuck u hu

/-- … and if the destructor was one of the calls, every future ever handed out is ready then -/
theorem C18_stuck_after_dtor_all_ready {s : St} (h : Reachable s) (hstuck : ∀ u, ¬ LibEnabled s u)
    (hd : s.seq.dead = true) : (∀ t, s.pc t = .idle) ∧ ∀ p ∈ s.seq.handed, s.seq.promise p ≠ .unset :=
  ⟨C18_stuck_all_returned h hstuck, C18_never_hangs_partial h hd⟩

/-- non-vacuity: thread 1 inside its critical section with one `set_value` to do (rank 3), thread 2 waiting
for the lock (first level 1) and unable to take it -/
example : ∃ s, Reachable s ∧ μ s 1 = 3 ∧ α s 2 = 1 ∧ step s 2 .mlk = none ∧ LibEnabled s 1 :=
  ⟨_, ⟨waitTrace, rfl⟩, by decide, by decide, by decide,
   ⟨.pset 5, rfl, by decide⟩⟩

end ConcVerif.DObj
