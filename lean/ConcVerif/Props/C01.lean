import ConcVerif.Proof.LockFam
import ConcVerif.Proof.LockFamLive
/-! # C01 — exclusive handles and whole-object operations are mutually exclusive

Statements are over `Reachable en cap s`: every accepted event sequence of the wrapper model in
`Model/LockFam.lean` (any number of threads, any client program mixing lock / try_lock /
try_lock_for / try_lock_until / load / store / operator= / modify / handle life-cycle operations,
any interleaving), for both kinds of mutex (`cap` = has a shared mode) — the four C++ mutex types
differ only in `cap` and in which try/timed events occur.  `s.held t` is the ghost record of what
thread `t` holds on the wrapper's mutex; the first theorems tie it to the observable events. -/
namespace ConcVerif.LockFam

/-- Every payload read the model accepts (locking enabled) is made while the reading thread holds the
mutex, and returns the current value. -/
theorem C01_read_protected {en cap : Bool} {s s' : St} {t : Tid} {v : Int} (h : Reachable en cap s)
    (he : s.enabled = true) (hs : step s t (.rd v) = some s') : s.held t ≠ .none ∧ v = s.val :=
  read_held (inv_reachable h) he hs

/-- Every payload write the model accepts (locking enabled) is made while the writing thread holds
the mutex exclusively. -/
theorem C01_write_exclusive {en cap : Bool} {s s' : St} {t : Tid} {v : Int} (h : Reachable en cap s)
    (he : s.enabled = true) (hs : step s t (.wr v) = some s') : s.held t = .X :=
  write_held (inv_reachable h) he hs

/-- Mutual exclusion: while one thread holds the mutex exclusively, no other thread holds it in any
mode. -/
theorem C01_excl {en cap : Bool} {s : St} (h : Reachable en cap s) {t u : Tid} (hx : s.held t = .X)
    (hne : u ≠ t) : s.held u = .none :=
  held_excl (inv_reachable h).g hx hne

/-- … hence while a thread holds an exclusive handle or is inside a modifying whole-object operation,
no access by any other thread is accepted. -/
theorem C01_no_concurrent_access {en cap : Bool} {s : St} (h : Reachable en cap s) (he : s.enabled = true)
    {t u : Tid} (hx : s.held t = .X) (hne : u ≠ t) (v : Int) :
    step s u (.rd v) = none ∧ step s u (.wr v) = none := by
  have hu := C01_excl h hx hne
  constructor
  · cases hr : step s u (.rd v) with
    | none => rfl
    | some s' => exact absurd hu (C01_read_protected h he hr).1
  · cases hr : step s u (.wr v) with
    | none => rfl
    | some s' => have := C01_write_exclusive h he hr; rw [hu] at this; cases this

/-- A live, non-null, not moved-from handle (between handle operations, locking enabled) owns the
lock, and its thread holds the mutex in exactly that mode. -/
theorem C01_handle_holds {en cap : Bool} {s : St} (h : Reachable en cap s) (he : s.enabled = true) {t : Tid}
    (hp : (s.loc t).pc = .sess) (i : Slot) (hlive : ((s.loc t).get i).live = true)
    (hnn : ((s.loc t).get i).nonnull = true) (hh : ((s.loc t).get i).husk = false) :
    ((s.loc t).get i).owns ≠ .none ∧ s.held t = ((s.loc t).get i).owns := by
  have hl := (inv_reachable h).l t
  have hk := hl.keeps he i (fun _ _ hk => Pc.noConfusion (hp.symm.trans hk)) hlive hnn hh
  exact ⟨hk, hl.held_of_owns (by rw [hp]; rfl) hk⟩

/-- No lost update: while `t` holds the mutex exclusively, no step of another thread changes the
wrapped value or takes the lock away — a read-modify-write made under a handle or inside `modify`
is atomic. -/
theorem C01_no_lost_update {en cap : Bool} {s s' : St} (h : Reachable en cap s) (he : s.enabled = true)
    {t u : Tid} {e : Ev} (hx : s.held t = .X) (hne : u ≠ t) (hs : step s u e = some s') :
    s'.val = s.val ∧ s'.held t = .X := by
  have hu := C01_excl h hx hne
  refine ⟨(Step.of_step hs).val_eq ?_, ((Step.of_step hs).held_other (Ne.symm hne)).trans hx⟩
  rintro v rfl
  have := C01_write_exclusive h he hs; rw [hu] at this; cases this

/-- No leaked lock: a thread that is outside every operation holds nothing, so a held mutex always
has a holder that is still inside an operation (with a live owning handle or inside a bracket). -/
theorem C01_no_leak {en cap : Bool} {s : St} (h : Reachable en cap s) {t : Tid}
    (hp : (s.loc t).pc = .idle) : s.held t = .none :=
  ((inv_reachable h).l t).plain_none (by rw [hp]; rfl)

theorem C01_holder_inside {en cap : Bool} {s : St} (h : Reachable en cap s) {t : Tid}
    (hx : s.excl = some t) : (s.loc t).pc ≠ .idle := by
  intro hp
  have := C01_no_leak h hp
  have h2 := ((inv_reachable h).g.exclHeld t).1 hx
  rw [this] at h2; cases h2

/-- (L2) A thread that holds the mutex always has an enabled step, of the library or of its client
(`C01_holder_moves_or_client` says which). -/
theorem C01_holder_enabled {en cap : Bool} {s : St} (h : Reachable en cap s) {t : Tid}
    (hh : s.held t ≠ .none) : ∃ e, (step s t e).isSome = true := by
  rcases holder_cases (inv_reachable h) hh with ⟨e, _, _, he⟩ | hc
  · exact ⟨e, he⟩
  · obtain ⟨e, _, he⟩ := client_can_move hc
    exact ⟨e, he⟩

/-- (L4) Deadlock-freedom: when nobody holds the mutex, every thread waiting in an acquisition of any
kind (handle or whole-object operation) can proceed — so a blocked acquirer proceeds once
the current holder releases, and holders always can (`C01_holder_enabled`). -/
theorem C01_free_acquirer_enabled {en cap : Bool} {s : St} (h : Reachable en cap s) (he : s.enabled = true)
    (hfree : s.excl = none ∧ s.shared = []) {t : Tid} :
    (∀ sd how, (s.loc t).pc = .acq sd how → (step s t (.lk (effSide s.capable sd) how true)).isSome = true) ∧
    (∀ w, (s.loc t).pc = .wCalled w → (step s t (.lk .X .block true)).isSome = true) := by
  have hi := inv_reachable h
  exact ⟨fun sd how hp => sess_lock_enabled hi hp he hfree.1 (fun _ => hfree.2),
    fun w hp => whole_lock_enabled hi hp hfree.1 .X (fun _ => hfree.2) Side.noConfusion⟩

/-! Non-vacuity: a concrete accepted trace in which thread 1 holds an exclusive handle (value read
0, written 1) while thread 2 is parked in a blocking `lock()`; the hypotheses of the theorems above
are met by reachable states. -/
def witness : List (Tid × Ev) :=
  [(1, .callSess), (1, .acq .X .block), (1, .lk .X .block true), (1, .got .a true),
   (2, .callSess), (2, .acq .X .block),
   (1, .rd 0), (1, .wr 1)]

example : ∃ s, Reachable true false s ∧ s.held 1 = .X ∧ (s.loc 1).pc = .sess ∧ (s.loc 2).pc = .acq .X .block ∧
    s.val = 1 ∧ (step s 2 (.lk .X .block true)) = none ∧ (step s 2 (.rd 1)) = none :=
  ⟨_, ⟨witness, rfl⟩, by decide, by decide, by decide, by decide, by decide, by decide⟩

/-! ## Liveness: no deadlock, no leaked lock, no livelock — for every scheduler

"Every blocked acquirer proceeds once the current holder releases" is proved without any fairness
assumption, in the vocabulary of `Proof/LockFamLive.lean` (`isEnv`: the client's decisions; `ClientTurn`, `Waiting`,
`Moves`, `LibEnabled`: who can move).

* `C01_terminates` (no livelock): an execution that makes no environment event from some point on cannot be
  infinite — every library step strictly lowers the summed rank, failed `try_lock`s and time-outs included.
* `C01_progress_cases` (no deadlock, no leaked lock): in every reachable state either some thread `Moves`,
  or the mutex is free and every waiting acquirer can take it now, or the mutex is held, EVERY holder is a
  client whose move it is, and every other thread inside an operation is such a client or a waiting acquirer.
* `C01_stuck_means_client_holds`, `C01_progress`, `C01_stuck_no_client_all_returned`: the same read as a
  statement about states without enabled library step.
What is NOT covered: an execution with infinitely many acquisitions by other threads in which the mutex
(C++ mutexes are not fair) never picks one particular waiter. -/

/-- no livelock: an execution which makes no environment event from step `N` on (threads drawn from any
finite list `ts`) cannot be infinite; no assumption on the state at `N` or on the scheduler -/
theorem C01_terminates (x : Live.Exec step) (N : Nat) (ts : List Tid) (hnd : ts.Nodup)
    (hts : ∀ n, N ≤ n → x.who n ∈ ts) (hnc : ∀ n, N ≤ n → isEnv (x.ev n) = false) : False :=
  Live.no_infinite_run ranked ts hnd x N trivial hts hnc

/-- quantitative form: a trace with `c` environment events has at most `(total rank) + 5·c` steps -/
theorem C01_bounded_run {s s' : St} (ts : List Tid) (hnd : ts.Nodup) {es : List (Tid × Ev)}
    (hts : ∀ y ∈ es, y.1 ∈ ts) (hrun : runFrom step s es = some s') :
    es.length + Live.total μ ts s' ≤ Live.total μ ts s + 5 * Live.calls isEnv es :=
  Live.bounded_run ranked ts hnd trivial hts hrun

/-- every thread of a reachable state is outside every operation, or has a library step nobody can
disable, or it is the client's move there, or it waits in a blocking acquisition -/
theorem C01_thread_cases {en cap : Bool} {s : St} (h : Reachable en cap s) (t : Tid) :
    (s.loc t).pc = .idle ∨ Moves s t ∨ ClientTurn s t ∨ Waiting s t :=
  thread_cases (inv_reachable h) t

/-- a holder of the mutex (handle or bracket) is never blocked by anybody: it has a library step nobody
can disable, or it is the client's move (and then the client has one: `C01_client_can_move`) -/
theorem C01_holder_moves_or_client {en cap : Bool} {s : St} (h : Reachable en cap s) {t : Tid}
    (hh : s.held t ≠ .none) : Moves s t ∨ ClientTurn s t :=
  holder_cases (inv_reachable h) hh

theorem C01_client_can_move {s : St} {t : Tid} (h : ClientTurn s t) :
    ∃ e, isEnv e = true ∧ (step s t e).isSome = true := client_can_move h

/-- when the mutex is free, every waiting acquirer can take it at once: a session on the side it asked
for, a whole-object operation on the exclusive side and, if the mutex has one, on the shared side -/
theorem C01_free_waiting_enabled {en cap : Bool} {s : St} (h : Reachable en cap s)
    (hfree : s.excl = none ∧ s.shared = []) {t : Tid} (hw : Waiting s t) :
    (∀ sd, (s.loc t).pc = .acq sd .block → (step s t (.lk (effSide s.capable sd) .block true)).isSome = true) ∧
    (∀ w, (s.loc t).pc = .wCalled w → (step s t (.lk .X .block true)).isSome = true ∧
      (s.capable = true → (step s t (.lk .S .block true)).isSome = true)) :=
  free_waiting_enabled (inv_reachable h) hfree hw

/-- **no deadlock, no leaked lock**: (1) some thread has a library step nobody can disable, or (2) the
mutex is free and every thread inside an operation is a client whose move it is or a waiting acquirer
that can take the mutex now, or (3) the mutex is held, every holder is a client whose move it is, and
every thread inside an operation is such a client or a waiting acquirer -/
theorem C01_progress_cases {en cap : Bool} {s : St} (h : Reachable en cap s) :
    (∃ u, Moves s u) ∨
    ((s.excl = none ∧ s.shared = []) ∧
      ∀ t, (s.loc t).pc = .idle ∨ ClientTurn s t ∨ (Waiting s t ∧ LibEnabled s t)) ∨
    ((∃ u, s.held u ≠ .none) ∧ (∀ u, s.held u ≠ .none → ClientTurn s u) ∧
      ∀ t, (s.loc t).pc = .idle ∨ ClientTurn s t ∨ Waiting s t) :=
  trichotomy (inv_reachable h)

/-- a reachable state without enabled library step: nobody is inside an operation except clients whose
move it is and acquirers waiting for a mutex that such a client holds (handle kept between operations, or
its code running inside a bracket) — "no deadlock, no leaked lock" -/
theorem C01_stuck_means_client_holds {en cap : Bool} {s : St} (h : Reachable en cap s)
    (hstuck : ∀ u, ¬ LibEnabled s u) (t : Tid) (ht : (s.loc t).pc ≠ .idle) :
    ClientTurn s t ∨ (Waiting s t ∧ ∃ u, u ≠ t ∧ s.held u ≠ .none ∧ ClientTurn s u) := by
  have hi := inv_reachable h
  rcases trichotomy hi with ⟨u, hm⟩ | ⟨_, hall⟩ | ⟨⟨u, hu⟩, hcl, hall⟩
  · exact absurd hm.lib (hstuck u)
  · rcases hall t with h1 | h1 | ⟨_, h1⟩
    · exact absurd h1 ht
    · exact Or.inl h1
    · exact absurd h1 (hstuck t)
  · rcases hall t with h1 | h1 | h1
    · exact absurd h1 ht
    · exact Or.inl h1
    · refine Or.inr ⟨h1, u, ?_, hu, hcl u hu⟩
      intro hut; subst hut
      exact hu (h1.holds_none hi)

/-- deadlock-freedom: if some thread is inside an operation, then some thread has an enabled library step,
or it is the clients' turn — every thread inside an operation is a client whose move it is or waits for a
mutex held by such a client -/
theorem C01_progress {en cap : Bool} {s : St} (h : Reachable en cap s) {t₀ : Tid} (_ht₀ : (s.loc t₀).pc ≠ .idle) :
    (∃ u, LibEnabled s u) ∨
    (∀ t, (s.loc t).pc ≠ .idle →
      ClientTurn s t ∨ (Waiting s t ∧ ∃ u, u ≠ t ∧ s.held u ≠ .none ∧ ClientTurn s u)) := by
  by_cases hl : ∃ u, LibEnabled s u
  · exact Or.inl hl
  · exact Or.inr (C01_stuck_means_client_holds h (fun u hu => hl ⟨u, hu⟩))

/-- … so when the library cannot move and no client keeps a handle or is inside a bracket body, every
thread has returned -/
theorem C01_stuck_no_client_all_returned {en cap : Bool} {s : St} (h : Reachable en cap s)
    (hstuck : ∀ u, ¬ LibEnabled s u) (hnc : ∀ u, ¬ ClientTurn s u) (t : Tid) : (s.loc t).pc = .idle := by
  apply Classical.byContradiction
  intro ht
  rcases C01_stuck_means_client_holds h hstuck t ht with h1 | ⟨_, u, _, _, h1⟩
  · exact hnc t h1
  · exact hnc u h1

/-! Non-vacuity.  In the state after `witness` case (3) holds: thread 1 is a client keeping an exclusive
handle, thread 2 waits and cannot acquire.  After the client destroys the handle (`witness2`) the mutex is
free and thread 2's acquisition is enabled — case (2); `witness3` runs both sessions to the end. -/
example : ∃ s, Reachable true false s ∧ ClientTurn s 1 ∧ Waiting s 2 ∧ s.held 1 = .X ∧
    step s 2 (.lk .X .block true) = none ∧ ¬ LibEnabled s 1 ∧ ¬ LibEnabled s 2 := by
  refine ⟨_, ⟨witness, rfl⟩, Or.inl ⟨by decide, Or.inl (by decide)⟩, Or.inl ⟨.X, by decide, by decide⟩, by decide,
    by decide, sess_live_not_lib (by decide) (Or.inl (by decide)), fun h => ?_⟩
  have := acq_block_lib (sd := .X) (by decide) (by decide) h
  revert this; decide

def witness2 : List (Tid × Ev) :=
  witness ++ [(1, .hbegin (.destroy .a)), (1, .rel .X), (1, .hend none)]

example : ∃ s, Reachable true false s ∧ (s.excl = none ∧ s.shared = []) ∧ Waiting s 2 ∧
    (step s 2 (.lk .X .block true)).isSome = true :=
  ⟨_, ⟨witness2, rfl⟩, by decide, Or.inl ⟨.X, by decide, by decide⟩, by decide⟩

def witness3 : List (Tid × Ev) :=
  witness2 ++ [(2, .lk .X .block true), (2, .got .a true), (1, .retSess), (2, .hbegin (.unlock .a)), (2, .rel .X),
    (2, .hend (some false)), (2, .hbegin (.destroy .a)), (2, .hend none), (2, .retSess)]

example : ∃ s, Reachable true false s ∧ (s.loc 1).pc = .idle ∧ (s.loc 2).pc = .idle ∧ s.excl = none :=
  ⟨_, ⟨witness3, rfl⟩, by decide, by decide, by decide⟩

end ConcVerif.LockFam
