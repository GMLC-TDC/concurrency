import ConcVerif.Props.C01
/-! # C20 (lock-based wrappers) — throwing user code never leaves a wrapper locked or half-modified

In the wrapper model (`Model/LockFam.lean`) user code (the wrapped type's copy / assignment /
comparison, a `modify` / `read` functor) may throw at any point inside a whole-object operation:
event `uth`, accepted in every state of the bracket.  The theorems below therefore quantify over
every choice of the throwing invocation and every interleaving.  (lr_guarded, cow_guarded,
deferred_guarded, DelayedDestructor and SearchableObjectHolder have their own C20 files.) -/
namespace ConcVerif.LockFam

/-- Whatever lock the operation took is released before the exception reaches the caller: at the
`exc` event the thread holds nothing, and it is back at rest. -/
theorem C20_lock_unwind_releases {en cap : Bool} {s s' : St} {t : Tid} (h : Reachable en cap s)
    (hs : step s t .exc = some s') : s.held t = .none ∧ s'.held t = .none ∧ (s'.loc t).pc = .idle := by
  obtain ⟨p, hp, hst⟩ := Step.of_step_ex hs
  cases hst with
  | exc =>
    have hn := ((inv_reachable h).l t).plain_none (by rw [hp]; rfl)
    exact ⟨hn, hn, setPc_pc _ _ _⟩

/-- A throw happens either in the call itself before any lock operation (user code that builds a by-value
parameter: value and mutex are untouched, the thread goes straight to the exceptional exit), or inside
the bracket, which from then on is marked as thrown. -/
theorem C20_lock_throw_inside {s s' : St} {t : Tid} (hs : step s t .uth = some s') :
    (∃ w, (s.loc t).pc = .wCalled w ∧ (s'.loc t).pc = .wExc ∧ s'.val = s.val ∧ s'.excl = s.excl ∧
      s'.shared = s.shared ∧ s'.held = s.held) ∨
    ∃ w m a b c, (s.loc t).pc = .whole w m a b c ∧ (s'.loc t).pc = .whole w m a b true := by
  obtain ⟨p, hp, hst⟩ := Step.of_step_ex hs
  cases hst with
  | wCalledUth => exact .inl ⟨_, hp, setPc_pc _ _ _, rfl, rfl, rfl, rfl⟩
  | wUth => exact .inr ⟨_, _, _, _, _, hp, setPc_pc _ _ _⟩

/-- Not half-modified: an operation that ends with an exception has not written the wrapped object
(the model accepts the closing release after a throw only then), so the value other threads see
afterwards is the value from before the failed operation. -/
theorem C20_lock_no_partial_write {s s' : St} {t : Tid} {sd : Side} {w : WOp} {m : Mode} {a b : Option Int}
    (hp : (s.loc t).pc = .whole w m a b true) (hs : step s t (.rel sd) = some s') :
    b = none ∧ s'.val = s.val ∧ (s'.loc t).pc = .wExc := by
  cases Step.of_step_at hp hs with
  | wRelExc _ hr => exact ⟨rfl, (release_untouched hr).val, setPc_pc _ _ _⟩

/-- The wrapper stays usable by all threads: after an exceptional exit the mutex is free again if the
failed operation was the only holder — every blocked or later acquirer is enabled (C01's
deadlock-freedom applies verbatim because all invariants hold on traces that contain throws). -/
theorem C20_lock_usable_after {en cap : Bool} {s s' : St} {t u : Tid} (h : Reachable en cap s)
    (he : s.enabled = true) (hs : step s t .exc = some s') (hfree : s'.excl = none ∧ s'.shared = [])
    {w : WOp} (hp : (s'.loc u).pc = .wCalled w) : (step s' u (.lk .X .block true)).isSome = true := by
  exact (C01_free_acquirer_enabled (h.step hs) ((Step.of_step hs).enabled_eq.trans he) hfree).2 w hp

/-! Non-vacuity: `store(v)` whose assignment throws (thread 1), then a successful `load` by thread 2
that sees the old value. -/
example : ∃ s, Reachable true false s ∧ s.val = 0 ∧ s.excl = none ∧ (s.loc 1).pc = .idle ∧
    (s.loc 2).pc = .wDone (.val 0) :=
  ⟨_, ⟨[(1, .callW (.st 5)), (1, .lk .X .block true), (1, .uth), (1, .rel .X), (1, .exc),
        (2, .callW .ld), (2, .lk .X .block true), (2, .rd 0), (2, .rel .X)], rfl⟩,
   by decide, by decide, by decide, by decide⟩

/-- the early throw: `exchange(lvalue)` whose parameter copy throws before the lock is taken (thread 1) -/
example : ∃ s, Reachable true false s ∧ s.val = 0 ∧ s.excl = none ∧ (s.loc 1).pc = .idle :=
  ⟨_, ⟨[(1, .callW (.xc 5)), (1, .uth), (1, .exc)], rfl⟩, by decide, by decide, by decide⟩

end ConcVerif.LockFam
