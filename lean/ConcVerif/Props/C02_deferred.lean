import ConcVerif.Props.C06
/-! # C02 (deferred_guarded part) — readers and modifications never overlap; readers can share

Model: `Model/Deferred.lean` (shared-capable mutex: `std::shared_timed_mutex`, `std::shared_mutex`).
A *reader* is a thread at a pc with `holdsS`: it owns a non-null shared handle (`idle true`), has just
acquired one (`sGot true`), or is copying the object inside `load()` (`ldHold`).  A *modification* is
the execution of a task's function (`running`), on the direct path or in a drain.  The lock-family
half of C02 is in `Props/C02.lean`. -/
namespace ConcVerif.Deferred

/-- A thread holding a shared handle (or copying inside `load`) never coexists with the application of
a modification, nor with any exclusive holder of `m`. -/
theorem C02_deferred_rw_excl {spur : Bool} {s : St} (h : Reachable spur s) {u : Tid} (hu : (s.pc u).holdsS = true)
    (t : Tid) : (s.pc t).running = none ∧ (s.pc t).holdsX = false ∧ s.mx = none := by
  have hL := (inv_reachable h).L
  have hin := (hL.shP u).2 hu
  have hmx : s.mx = none := by
    cases hm : s.mx with
    | none => rfl
    | some d => have := hL.xs (by rw [hm]; simp); rw [this] at hin; cases hin
  have hX : (s.pc t).holdsX = false := by
    cases hc : (s.pc t).holdsX with
    | false => rfl
    | true => have := (hL.mxP t).2 hc; rw [hmx] at this; cases this
  refine ⟨?_, hX, hmx⟩
  cases hr : (s.pc t).running with
  | none => rfl
  | some k => rw [Pc.running_holdsX hr] at hX; cases hX

/-- No modification is applied and the object is not written while a shared handle is alive: the model
accepts neither the entry of a task's function nor a write of the object. -/
theorem C02_deferred_no_apply_under_reader {spur : Bool} {s : St} (h : Reachable spur s) {u : Tid}
    (hu : (s.pc u).holdsS = true) (t : Tid) : (∀ k, step s t (.ucb k) = none) ∧ (∀ v, step s t (.pwr v) = none) := by
  have hin := ((inv_reachable h).L.shP u).2 hu
  constructor
  · intro k
    cases hs : step s t (.ucb k) with
    | none => rfl
    | some s' => have := (C06_exclusive h hs).2.1; rw [this] at hin; cases hin
  · intro v
    cases hs : step s t (.pwr v) with
    | none => rfl
    | some s' => have := (C06_exclusive_write h hs).2.1; rw [this] at hin; cases hin

/-- … and no exclusive acquisition of `m` (the only way to a modification) succeeds meanwhile. -/
theorem C02_deferred_no_writer_starts {spur : Bool} {s : St} (h : Reachable spur s) {u : Tid}
    (hu : (s.pc u).holdsS = true) (t : Tid) : step s t (.mtl true) = none := by
  have hin := ((inv_reachable h).L.shP u).2 hu
  cases hs : step s t (.mtl true) with
  | none => rfl
  | some s' =>
    generalize hp : s.pc t = p at hs
    cases Step.of_step hp hs with
    | mtlM _ hsh | mtlS _ hsh => rw [hsh] at hin; cases hin

/-- The wrapped object is only read under the lock (shared handle, `load`, or inside a task's
function under the exclusive lock), and a read returns the committed value. -/
theorem C02_deferred_read_under_lock {spur : Bool} {s s' : St} {t : Tid} {v : Int} (h : Reachable spur s)
    (hs : step s t (.prd v) = some s') :
    v = s.val ∧ ((t ∈ s.sh ∧ s.mx = none) ∨ (s.mx = some t ∧ s.sh = [])) := by
  have hL := (inv_reachable h).L
  have hcl : v = s.val ∧ ((s.pc t).holdsS = true ∨ (s.pc t).holdsX = true) := by
    generalize hp : s.pc t = p
    cases Step.of_step hp hs with
    | prdH | prdL => exact ⟨rfl, .inl rfl⟩
    | prdI | prdA => exact ⟨rfl, .inr rfl⟩
  refine ⟨hcl.1, ?_⟩
  rcases hcl.2 with hS | hX
  · exact Or.inl ⟨(hL.shP t).2 hS, (C02_deferred_rw_excl h hS t).2.2⟩
  · have hm := (hL.mxP t).2 hX
    exact Or.inr ⟨hm, hL.xs (by rw [hm]; simp)⟩

/-- A reader is never blocked merely by other readers: whenever nobody holds `m` exclusively the
blocking shared acquisition of `lock_shared` / `load` is enabled, and a try / timed one may succeed. -/
theorem C02_deferred_reader_not_blocked_by_readers {s : St} {t : Tid} (hm : s.mx = none) :
    (s.pc t = .sAcq (.acq .block) → (step s t .slk).isSome = true) ∧
    (s.pc t = .sAcq .load → (step s t .slk).isSome = true) ∧
    (s.pc t = .sAcq (.acq .try_) → (step s t (.stl true)).isSome = true) ∧
    (s.pc t = .sAcq (.acq .for_) → (step s t (.stf true)).isSome = true) ∧
    (s.pc t = .sAcq (.acq .until_) → (step s t (.stf true)).isSome = true) := by
  exact ⟨fun hp => Step.enabled hp (.slk hm), fun hp => Step.enabled hp (.slkL hm), fun hp => Step.enabled hp (.stl hm),
    fun hp => Step.enabled hp (.stf (.inl rfl) hm), fun hp => Step.enabled hp (.stf (.inr rfl) hm)⟩

/-- Two readers really can hold shared handles at the same time (constructive witness), while a
third thread's modification is deferred to the queue. -/
theorem C02_deferred_readers_share : ∃ s, Reachable false s ∧ s.pc 1 = .idle true ∧ s.pc 2 = .idle true ∧
    s.sh = [2, 1] ∧ s.queue = [5] ∧ s.applied = [] :=
  ⟨_, ⟨[(1, .callSh .block), (1, .fld false), (1, .slk), (1, .got true),
        (2, .callSh .try_), (2, .fld false), (2, .stl true), (2, .got true),
        (1, .prd 0), (2, .prd 0),
        (3, .callMod 5 false), (3, .mtl false), (3, .qlk), (3, .qul), (3, .fst true), (3, .ret)], rfl⟩,
   rfl, rfl, rfl, rfl, rfl⟩

end ConcVerif.Deferred
