import ConcVerif.Proof.LRStep
/-! # C03 — lr_guarded readers see only complete, current states

Theorems over the executable model `Model/LR.lean` (`step` is the function the trace driver runs on the traces of
the real `lr_guarded.hpp`).  All statements quantify over every `Reachable` state / every accepted trace: any
number of threads, calls and interleavings, throwing functors included.

Reading guide: `(s.pc r).held = some x` — thread `r` has a handle that points to copy `x` (from the load of
`m_readingLeft` that produced the handle until the deleter's decrement); `s.val x` — content of copy `x` (list of
operation ids applied); `s.committed` — the operations whose flip of `m_readingLeft` has happened, in that order
(linearisation order of `modify`); `(s.pc w).writing = some x` — the mutex holder is inside the functor or the
roll-back / roll-forward copy on `x`, or has left `x` torn by a functor that threw; `(s.pc w).vk = .mid op l` — `w` is
between its flip of `m_readingLeft` (to `¬l`) and the end of its second application of `op`; `VX committed base val k` —
the table of `Proof/LRVal.lean`: what `committed` and the two copies are, relative to `base`, at position `k` of `modify`. -/
namespace ConcVerif.LR

/-! ## no writer touches a copy while a handle points to it -/

/-- While the mutex holder `w` is writing copy `x` (user functor, roll-back / roll-forward copy, or a torn state
left by a throwing functor not yet repaired), no thread holds a handle to `x`. -/
theorem C03_no_touch {s : St} (h : Reachable s) {w r : Tid} {x : Side} (hw : (s.pc w).writing = some x) :
    (s.pc r).held ≠ some x :=
  (full_reachable h).inv.no_touch hw

/-- Step form: no step of any thread changes the content of a copy some handle points to. -/
theorem C03_held_value_constant {s s' : St} (h : Reachable s) {t r : Tid} {e : Ev} {x : Side}
    (hs : step s t e = some s') (hr : (s.pc r).held = some x) : s'.val x = s.val x := by
  rcases step_val x hs with hv | hw
  · exact hv
  · exact absurd hr (C03_no_touch h hw)

/-- Trace form: from the moment `lock_shared` has returned until the owner starts destroying the handle, the handle
keeps pointing to the same copy and that copy's content does not change, whatever all threads do in between
(writers may complete any number of `modify` calls on the other copy and block on this reader). -/
theorem C03_handle_stable {s s' : St} {es : List (Tid × Ev)} {r : Tid} {c x : Side} (h : Reachable s)
    (hr : s.pc r = .rdHold c x) (hrun : run s es = some s') (hno : (r, Ev.call .rel) ∉ es) :
    s'.pc r = .rdHold c x ∧ s'.val x = s.val x := by
  induction es generalizing s with
  | nil => simp [run] at hrun; subst hrun; exact ⟨hr, rfl⟩
  | cons a es ih =>
    obtain ⟨t, e⟩ := a
    simp only [run, runFrom_cons] at hrun
    cases hst : step s t e with
    | none => simp [hst] at hrun
    | some s1 =>
      simp [hst] at hrun
      have hv : s1.val x = s.val x := C03_held_value_constant (r := r) h hst (by simp [hr, Pc.held])
      have hr1 : s1.pc r = .rdHold c x := by
        by_cases htr : r = t
        · subst htr
          rcases step_hold hr hst with ⟨v, _, _, hp, _⟩ | ⟨he, _⟩
          · exact hp
          · subst he; simp at hno
        · rw [step_pc_other hst htr]; exact hr
      have := ih (reachable_step h hst) hr1 hrun (by intro hm; exact hno (List.mem_cons_of_mem _ hm))
      exact ⟨this.1, by rw [this.2, hv]⟩

/-! ## every modify takes effect atomically -/

/-- What a complete read through a handle returns is the content of the copy the handle points to. -/
theorem C03_read_observes {s s' : St} {r : Tid} {x : Side} {v : List OpId} (hs : step s r (.rd x v) = some s') :
    (s.pc r).held = some x ∧ v = s.val x := by
  cases Step.of_step hs with
  | rd hpc => exact ⟨hpc ▸ rfl, rfl⟩

/-- The content of a copy a handle points to is `committed` — all modifications linearised so far, completely
applied — or, only while the mutex holder `w` is between its flip and the end of its second application, `committed`
without its last element, which is `w`'s operation in progress.  Never a partial state, never anything else. -/
theorem C03_atomic {s : St} (h : Reachable s) {r : Tid} {x : Side} (hr : (s.pc r).held = some x) :
    s.val x = s.committed ∨
    ∃ w op l, s.mtx = some w ∧ (s.pc w).vk = .mid op l ∧ x = l ∧ s.val x ++ [op] = s.committed :=
  held_val (full_reachable h).inv (full_reachable h).vinv hr

/-- Event form of `C03_atomic`: every value a reader observes. -/
theorem C03_atomic_read {s s' : St} (h : Reachable s) {r : Tid} {x : Side} {v : List OpId}
    (hs : step s r (.rd x v) = some s') :
    v = s.committed ∨ ∃ w op l, s.mtx = some w ∧ (s.pc w).vk = .mid op l ∧ v ++ [op] = s.committed := by
  obtain ⟨hh, rfl⟩ := C03_read_observes hs
  rcases C03_atomic h hh with h1 | ⟨w, op, l, a, b, _, d⟩
  · exact Or.inl h1
  · exact Or.inr ⟨w, op, l, a, b, d⟩

/-! ## a lock_shared that starts after modify returned observes it and all earlier ones -/

/-- Invariant form: the copy a handle points to extends everything that was committed when its `lock_shared`
was called (`snap r` = `committed` at the call event). -/
theorem C03_realtime_inv {s : St} (h : Reachable s) {r : Tid} {x : Side} (hr : (s.pc r).held = some x) :
    s.snap r <+: s.val x :=
  ((full_reachable h).rinv.hold r x hr).1

/-- Trace form.  `modify(op)` of thread `w` returns (event `ret modify op`, leading from `s0` to `s1`); thread `r`
is idle at that point, so whatever `lock_shared` it makes is called later.  In every later state in which `r` has
a handle, the copy it points to contains `op` and has everything committed before that return as a prefix. -/
theorem C03_realtime {s0 s1 s2 : St} {es : List (Tid × Ev)} {w r : Tid} {op : OpId} {x : Side} (h0 : Reachable s0)
    (hret : step s0 w (.ret (.modify op)) = some s1) (hidle : s1.pc r = .idle)
    (hrun : run s1 es = some s2) (hh : (s2.pc r).held = some x) :
    op ∈ s2.val x ∧ s0.committed <+: s2.val x := by
  have hw : s0.pc w = .wRet op := by
    cases Step.of_step hret with
    | retMod hpc => exact hpc
  have hop : op ∈ s0.committed := ret_committed h0 w op (Or.inl hw)
  have h01 : s0.committed <+: s1.committed := step_committed_le hret
  have h1 : Reachable s1 := reachable_step h0 hret
  -- invariant along the run from s1
  have key := runFrom_inv
    (Inv := fun s => Reachable s ∧ s0.committed <+: s.committed ∧ ((s.pc r).inRead = true → s0.committed <+: s.snap r))
    (step := step) (s := s1) (s' := s2) (es := es)
    (by
      intro s t e s' ⟨hre, hc, hsn⟩ hst
      refine ⟨reachable_step hre hst, hc.trans (step_committed_le hst), ?_⟩
      intro hin
      rcases step_snap hst r with ⟨e1, e2⟩ | ⟨_, _, e3⟩
      · rw [e1]; exact hsn (e2 hin)
      · rw [e3]; exact hc)
    ⟨h1, h01, by simp [hidle, Pc.inRead]⟩ hrun
  obtain ⟨h2, _, hsn⟩ := key
  have hpre : s0.committed <+: s2.val x := (hsn (held_inRead hh)).trans (C03_realtime_inv h2 hh)
  exact ⟨hpre.subset hop, hpre⟩

/-! ## the values one reader observes never go backwards -/

/-- The copy a handle of thread `r` points to extends the value `r` last read (through this or an earlier handle). -/
theorem C03_monotone {s : St} (h : Reachable s) {r : Tid} {x : Side} (hr : (s.pc r).held = some x) :
    s.lastSeen r <+: s.val x :=
  ((full_reachable h).rinv.hold r x hr).2

/-- Event form: each value a thread reads extends the one it read before. -/
theorem C03_monotone_read {s s' : St} (h : Reachable s) {r : Tid} {x : Side} {v : List OpId}
    (hs : step s r (.rd x v) = some s') : s.lastSeen r <+: v ∧ s'.lastSeen r = v := by
  cases Step.of_step hs with
  | rd hpc => exact ⟨C03_monotone h (hpc ▸ rfl), upd_same ..⟩

/-- Across threads, in real-time order: the copy a new handle points to (chosen by the load of `m_readingLeft`
inside `lock_shared`) extends every value any thread has read so far, and all of `committed`. -/
theorem C03_monotone_global {s s' : St} (h : Reachable s) {r : Tid} {c v : Side} (hp : s.pc r = .rdInc c)
    (hs : step s r (.ldRL v) = some s') :
    s'.val v = s'.committed ∧ (s'.pc r).held = some v ∧ ∀ u, s'.lastSeen u <+: s'.val v := by
  have hf := full_reachable h
  cases Step.of_step hs with
  | ldRL hpc =>
    have hv : s.val s.rl = s.committed := val_rl hf.inv hf.vinv
    exact ⟨hv, by rw [setPc_pc_self]; rfl, fun u => hv.symm ▸ hf.rinv.seenLe u⟩
  | reRL hq => rw [hp] at hq; cases hq

/-! ## modifications of different threads are applied one at a time to the same sequence of states -/

/-- At most one thread is between `mlk` and `mul` of the write mutex. -/
theorem C03_serial_one_writer {s : St} (h : Reachable s) {w w' : Tid} (hw : (s.pc w).post = true)
    (hw' : (s.pc w').post = true) : w = w' := by
  have hi := (full_reachable h).inv
  exact hi.post_unique ((hi.holder w').1 hw') hw

/-- `committed` is append-only, and only the mutex holder appends — exactly its own operation, exactly at its flip. -/
theorem C03_serial_order {s s' : St} (h : Reachable s) {t : Tid} {e : Ev} (hs : step s t e = some s') :
    s'.committed = s.committed ∨
    ∃ op l, s.mtx = some t ∧ s.pc t = .wF1d op l ∧ s'.committed = s.committed ++ [op] := by
  rcases step_committed hs with h1 | ⟨op, l, hp, _, _, hc⟩
  · exact Or.inl h1
  · exact Or.inr ⟨op, l, ((full_reachable h).inv.holder t).1 (by simp [hp, Pc.post]), hp, hc⟩

/-- Both copies go through the same sequence of states: relative to `base` (= `committed` when the holder `w` took
the mutex) each copy is `base` or `base ++ [op]` as tabulated by `VX` for `w`'s position — in particular the
second application appends the same `op` to the other copy, and after a throw the intact copy is the source. -/
theorem C03_serial_copies {s : St} (h : Reachable s) {w : Tid} (hm : s.mtx = some w) :
    VX s.committed s.base s.val (s.pc w).vk :=
  (full_reachable h).vinv.vk w (((full_reachable h).inv.holder w).2 hm)

/-- Whenever nobody holds the write mutex the two copies are equal and equal to `committed`. -/
theorem C03_serial_quiescent {s : St} (h : Reachable s) (hm : s.mtx = none) :
    s.valL = s.committed ∧ s.valR = s.committed :=
  ⟨(full_reachable h).vinv.vquiet hm .L, (full_reachable h).vinv.vquiet hm .R⟩

/-- The end-of-run inspection of the two copies (`fin` event of the harness) is accepted only with both equal to
`committed`. -/
theorem C03_serial_final {s s' : St} (h : Reachable s) {t : Tid} {l r : List OpId} (hs : step s t (.fin l r) = some s') :
    l = s.committed ∧ r = s.committed := by
  cases Step.of_step hs with
  | fin _ hm => exact C03_serial_quiescent h hm

/-! ## non-vacuity: concrete reachable states meeting the hypotheses -/

/-- writer 0 inside its second application on the left copy while reader 1 holds the right copy (`C03_no_touch`) -/
example : ∃ s, Reachable s ∧ (s.pc 0).writing = some .L ∧ (s.pc 1).held = some .R :=
  ⟨_, ⟨false, [(0, .call (.modify 7)), (0, .lock), (0, .ldRL .L), (0, .fBegin .R), (0, .fEnd .R [7]), (0, .stRL .R), (0, .ldCL .L),
         (0, .ldCnt .R 0), (0, .stCL .R), (1, .call (.ls 0)), (1, .ldCL .R), (1, .inc .R 0), (1, .ldRL .R), (1, .ret (.ls 0)),
         (0, .ldCnt .L 0), (0, .fBegin .L)], rfl⟩, rfl, rfl⟩

/-- reader 1 holds the old copy while writer 0 has flipped and waits for it: the second disjunct of `C03_atomic`
(value = `committed` without the operation in progress); the reader reads `[]` while `committed = [7]` -/
example : ∃ s s', Reachable s ∧ (s.pc 1).held = some .L ∧ s.val .L ++ [7] = s.committed ∧ s.mtx = some 0 ∧
    step s 1 (.rd .L []) = some s' :=
  ⟨_, _, ⟨false, [(1, .call (.ls 0)), (1, .ldCL .L), (1, .inc .L 0), (1, .ldRL .L), (1, .ret (.ls 0)),
         (0, .call (.modify 7)), (0, .lock), (0, .ldRL .L), (0, .fBegin .R), (0, .fEnd .R [7]), (0, .stRL .R), (0, .ldCL .L),
         (0, .ldCnt .R 0), (0, .stCL .R), (0, .ldCnt .L 1), (0, .yld)], rfl⟩, rfl, rfl, rfl, rfl⟩

/-- `C03_realtime`: modify(7) returns, then thread 1 takes a handle: it points to a copy containing 7 -/
example : ∃ s0 s1 s2, Reachable s0 ∧ step s0 0 (.ret (.modify 7)) = some s1 ∧ s1.pc 1 = .idle ∧
    run s1 [(1, .call (.ls 0)), (1, .ldCL .R), (1, .inc .R 0), (1, .ldRL .R)] = some s2 ∧ (s2.pc 1).held = some .R ∧
    s2.val .R = [7] :=
  ⟨_, _, _, ⟨false, [(0, .call (.modify 7)), (0, .lock), (0, .ldRL .L), (0, .fBegin .R), (0, .fEnd .R [7]), (0, .stRL .R), (0, .ldCL .L),
         (0, .ldCnt .R 0), (0, .stCL .R), (0, .ldCnt .L 0), (0, .fBegin .L), (0, .fEnd .L [7]), (0, .unlock)], rfl⟩,
    rfl, rfl, rfl, rfl, rfl⟩

/-- `C03_monotone_read`: one thread reads `[]`, a modify completes, it takes a new handle and reads `[7]` -/
example : ∃ s s', Reachable s ∧ s.lastSeen 1 = [] ∧ step s 1 (.rd .R [7]) = some s' ∧ s'.lastSeen 1 = [7] :=
  ⟨_, _, ⟨false, [(1, .call (.ls 0)), (1, .ldCL .L), (1, .inc .L 0), (1, .ldRL .L), (1, .ret (.ls 0)), (1, .rd .L []),
         (1, .call .rel), (1, .dec .L 1), (1, .ret .rel),
         (0, .call (.modify 7)), (0, .lock), (0, .ldRL .L), (0, .fBegin .R), (0, .fEnd .R [7]), (0, .stRL .R), (0, .ldCL .L),
         (0, .ldCnt .R 0), (0, .stCL .R), (0, .ldCnt .L 0), (0, .fBegin .L), (0, .fEnd .L [7]), (0, .unlock), (0, .ret (.modify 7)),
         (1, .call (.ls 0)), (1, .ldCL .R), (1, .inc .R 0), (1, .ldRL .R), (1, .ret (.ls 0))], rfl⟩, rfl, rfl, rfl⟩

/-- `C03_serial_*`: two writers, the second one blocked until the first unlocks; afterwards both copies = `[7, 8]` -/
example : ∃ s, Reachable s ∧ s.mtx = none ∧ s.valL = [7, 8] ∧ s.valR = [7, 8] ∧ s.committed = [7, 8] ∧
    step s 0 (.fin [7, 8] [7, 8]) = some s :=
  ⟨_, ⟨false, [(0, .call (.modify 7)), (2, .call (.modify 8)), (0, .lock), (0, .ldRL .L), (0, .fBegin .R), (0, .fEnd .R [7]),
         (0, .stRL .R), (0, .ldCL .L), (0, .ldCnt .R 0), (0, .stCL .R), (0, .ldCnt .L 0), (0, .fBegin .L), (0, .fEnd .L [7]),
         (0, .unlock), (2, .lock), (0, .ret (.modify 7)), (2, .ldRL .R), (2, .fBegin .L), (2, .fEnd .L [7, 8]), (2, .stRL .L),
         (2, .ldCL .R), (2, .ldCnt .L 0), (2, .stCL .L), (2, .ldCnt .R 0), (2, .fBegin .R), (2, .fEnd .R [7, 8]), (2, .unlock),
         (2, .ret (.modify 8))], rfl⟩, rfl, rfl, rfl, rfl, rfl⟩

/-- the model rejects what the theorems exclude: a second `lock` while the mutex is held, a functor on the side
readers are directed to, a read of the other copy, a torn / wrong value -/
example : ∃ s, Reachable s ∧ step s 2 .lock = none ∧ step s 0 (.fBegin .L) = none ∧ step s 1 (.rd .R []) = none ∧
    step s 1 (.rd .L [9]) = none :=
  ⟨_, ⟨false, [(0, .call (.modify 7)), (2, .call (.modify 8)), (0, .lock), (0, .ldRL .L),
         (1, .call (.ls 0)), (1, .ldCL .L), (1, .inc .L 0), (1, .ldRL .L), (1, .ret (.ls 0))], rfl⟩, rfl, rfl, rfl, rfl⟩

end ConcVerif.LR
