import ConcVerif.Props.C06
/-! # C20 (deferred_guarded part) — throwing user code never leaves the wrapper locked

In the model (`Model/Deferred.lean`) a task's function may throw at any point of its execution
(`uth k`, accepted in every state inside the function, before or after it has written the object),
on the direct path and inside a drain, and the copy made by `load()` may throw under the shared lock.
The theorems therefore quantify over every choice of the throwing invocation and every interleaving.
What the code does with the exception (and the model with it):
* direct path of `modify_detach`: it propagates to the caller, after `m` has been released;
* direct path of `modify_async`: it is captured in the returned future, the call returns normally;
* queued task (either kind) run by a drain: it is captured by the `packaged_task` — delivered through
  the future of a `modify_async`, dropped for a `modify_detach` — and the drain goes on with the rest
  of the batch;
* `load()`: it propagates after the shared lock has been released.
All invariants (C06, C02) are proved for traces that contain throws, so the wrapper stays usable. -/
namespace ConcVerif.Deferred

/-- When an exception reaches the caller (`exc`) the thread holds none of the wrapper's locks and is
back at rest. -/
theorem C20_deferred_unwind_releases {spur : Bool} {s s' : St} {t : Tid} (h : Reachable spur s)
    (hs : step s t .exc = some s') :
    s.mx ≠ some t ∧ t ∉ s.sh ∧ s.qm ≠ some t ∧ s'.pc t = .idle false ∧ s'.mx = s.mx ∧ s'.sh = s.sh := by
  have hL := (inv_reachable h).L
  have key : (s.pc t).holdsX = false ∧ (s.pc t).holdsS = false ∧ (s.pc t).holdsQ = false ∧
      s'.pc t = .idle false ∧ s'.mx = s.mx ∧ s'.sh = s.sh := by
    generalize hp : s.pc t = p
    cases Step.of_step hp hs <;> exact ⟨rfl, rfl, rfl, upd_same _ _ _, rfl, rfl⟩
  obtain ⟨hX, hS, hQ, h4, h5, h6⟩ := key
  refine ⟨?_, ?_, ?_, h4, h5, h6⟩
  · intro hm; have := (hL.mxP t).1 hm; rw [hX] at this; cases this
  · intro hin; have := (hL.shP t).1 hin; rw [hS] at this; cases this
  · intro hq; have := (hL.qmP t).1 hq; rw [hQ] at this; cases this

/-- A thread at rest never holds `m` exclusively nor the queue mutex, and holds `m` shared exactly when
it owns a handle: no operation — in particular no drain, whatever threw inside it — leaves a lock
behind. -/
theorem C20_deferred_rest_holds_nothing {spur : Bool} {s : St} {t : Tid} {hh : Bool} (h : Reachable spur s)
    (hp : s.pc t = .idle hh) : s.mx ≠ some t ∧ s.qm ≠ some t ∧ (t ∈ s.sh ↔ hh = true) := by
  have hL := (inv_reachable h).L
  refine ⟨?_, ?_, ?_⟩
  · intro hm; have := (hL.mxP t).1 hm; simp [hp, Pc.holdsX] at this
  · intro hq; have := (hL.qmP t).1 hq; simp [hp, Pc.holdsQ] at this
  · rw [hL.shP t, hp]; cases hh <;> simp [Pc.holdsS]

/-- Direct path of `modify_detach`: a throw of the function leads to the release of `m` and then to
the exception at the caller — nothing else is accepted on the way. -/
theorem C20_deferred_direct_detach_propagates {s s1 : St} {t : Tid} {k : TaskId} (hp : s.pc t = .aIn k false)
    (hs : step s t (.uth k) = some s1) :
    s1.pc t = .mUnl k false true ∧ s1.mx = s.mx ∧
    (∀ e s2, step s1 t e = some s2 → e = .mul ∧ s2.mx = none ∧ s2.pc t = .mRet k false true ∧
      ∀ e' s3, step s2 t e' = some s3 → e' = .exc ∧ s3.pc t = .idle false) := by
  cases Step.of_step hp hs with
  | uthA =>
    refine ⟨upd_same _ _ _, rfl, fun e s2 hs2 => ?_⟩
    cases Step.of_step (upd_same _ _ _) hs2 with
    | mulM =>
      refine ⟨rfl, rfl, upd_same _ _ _, fun e' s3 hs3 => ?_⟩
      cases Step.of_step (upd_same _ _ _) hs3 with
      | exc => exact ⟨rfl, upd_same _ _ _⟩

/-- Direct path of `modify_async`: the exception is captured in the future (`out k = exc`), the lock
is released next and the call returns normally. -/
theorem C20_deferred_direct_async_captures {s s1 : St} {t : Tid} {k : TaskId} (hp : s.pc t = .aIn k true)
    (hs : step s t (.uth k) = some s1) :
    s1.out k = some .exc ∧ s1.pc t = .mUnl k true false ∧
    (∀ e s2, step s1 t e = some s2 → e = .mul ∧ s2.mx = none ∧ s2.pc t = .mRet k true false) := by
  cases Step.of_step hp hs with
  | uthA =>
    refine ⟨upd_same _ _ _, upd_same _ _ _, fun e s2 hs2 => ?_⟩
    cases Step.of_step (upd_same _ _ _) hs2 with
    | mulM => exact ⟨rfl, rfl, upd_same _ _ _⟩

/-- A queued task that throws inside a drain: the exception is captured (`out j = exc`: delivered by
the future of a `modify_async`, dropped for a `modify_detach`), the drainer still holds `m`, the rest
of the batch is untouched and the loop goes on. -/
theorem C20_deferred_queued_captures {s s1 : St} {t : Tid} {c : Ctx} {j : TaskId} (hp : s.pc t = .dIn c j)
    (hs : step s t (.uth j) = some s1) :
    s1.out j = some .exc ∧ s1.pc t = .dRun c ∧ s1.batch = s.batch ∧ s1.queue = s.queue ∧ s1.mx = s.mx ∧
      s1.applied = s.applied := by
  cases Step.of_step hp hs with
  | uthI => exact ⟨upd_same _ _ _, upd_same _ _ _, rfl, rfl, rfl, rfl⟩

/-- The drain loop never gives `m` back with tasks left in its batch: `m` is released only when the
batch is empty (no task is lost by an exception in an earlier one). -/
theorem C20_deferred_release_after_batch {spur : Bool} {s s' : St} {t : Tid} (h : Reachable spur s)
    (hs : step s t .mul = some s') : s.batch = [] ∧ s.mx = some t ∧ s'.mx = none := by
  generalize hp : s.pc t = p
  cases Step.of_step hp hs with
  | mulS hb hm => exact ⟨hb, hm, rfl⟩
  | mulM hm => exact ⟨(inv_reachable h).C.no_batch_unless (t := t) (.inr ⟨hm, by rw [hp]; rfl⟩), hm, rfl⟩

/-- `load()`: a throwing copy is followed by the release of the shared lock, then by the exception. -/
theorem C20_deferred_load_throw {s s1 : St} {t : Tid} {n : TaskId} (hp : s.pc t = .ldHold false)
    (hs : step s t (.uth n) = some s1) :
    s1.pc t = .ldHold true ∧ s1.sh = s.sh ∧
    (∀ e s2, step s1 t e = some s2 → (∃ v, e = .prd v) ∨ (e = .sul ∧ s2.pc t = .ldRet true ∧ s2.sh = s.sh.erase t)) := by
  cases Step.of_step hp hs with
  | uthL =>
    refine ⟨upd_same _ _ _, rfl, fun e s2 hs2 => ?_⟩
    cases Step.of_step (upd_same _ _ _) hs2 with
    | prdL => exact .inl ⟨_, rfl⟩
    | sulL => exact .inr ⟨rfl, upd_same _ _ _, rfl⟩

/-- The wrapper stays usable: once nobody holds `m` (e.g. after the exceptional exits above) every
acquisition is enabled again — exclusive try-locks succeed, blocked `lock_shared` proceed. -/
theorem C20_deferred_usable_after {s : St} {u : Tid} (hm : s.mx = none) (hsh : s.sh = []) :
    (∀ k a, s.pc u = .mTry k a → (step s u (.mtl true)).isSome = true) ∧
    (∀ c, s.pc u = .sTry c → (step s u (.mtl true)).isSome = true) ∧
    (s.pc u = .sAcq (.acq .block) → (step s u .slk).isSome = true) := by
  exact ⟨fun _ _ hp => Step.enabled hp (.mtlM hm hsh), fun _ hp => Step.enabled hp (.mtlS hm hsh),
    fun hp => Step.enabled hp (.slk hm)⟩

/-! Non-vacuity: a direct `modify_detach` whose function throws after having written (thread 1, exception
at the caller); a reader parks; a queued `modify_detach` and a queued `modify_async` whose functions
throw; the drain by `try_lock_shared` of thread 3 captures both, applies the third task and releases. -/
example : ∃ s, Reachable false s ∧ s.applied = [1, 2, 3, 4] ∧ s.mx = none ∧ s.qm = none ∧ s.sh = [3] ∧ s.val = 22 ∧
    s.out 1 = some .exc ∧ s.out 2 = some .exc ∧ s.out 3 = some .exc ∧ s.out 4 = some (.val 22) ∧ s.pc 1 = .idle false :=
  ⟨_, ⟨[(1, .callMod 1 false), (1, .mtl true), (1, .fld false), (1, .ucb 1), (1, .prd 0), (1, .pwr 1), (1, .uth 1),
        (1, .mul), (1, .exc),
        (2, .callSh .block), (2, .fld false), (2, .slk), (2, .got true),
        (1, .callMod 2 false), (1, .mtl false), (1, .qlk), (1, .qul), (1, .fst true), (1, .ret),
        (1, .callMod 3 true), (1, .mtl false), (1, .qlk), (1, .qul), (1, .fst true), (1, .ret),
        (1, .callMod 4 true), (1, .mtl false), (1, .qlk), (1, .qul), (1, .fst true), (1, .ret),
        (2, .sul),
        (3, .callSh .try_), (3, .fld true), (3, .mtl true), (3, .fld true), (3, .fst false), (3, .qlk), (3, .qul),
        (3, .ucb 2), (3, .uth 2), (3, .ucb 3), (3, .prd 1), (3, .pwr 6), (3, .uth 3),
        (3, .ucb 4), (3, .prd 6), (3, .pwr 22), (3, .uce 4 22), (3, .mul), (3, .stl true), (3, .got true),
        (1, .fpoll 3 true), (1, .fget 3 .exc), (1, .fget 4 (.val 22))], rfl⟩,
   rfl, rfl, rfl, rfl, rfl, rfl, rfl, rfl, rfl, rfl⟩

end ConcVerif.Deferred
