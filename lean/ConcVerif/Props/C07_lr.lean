import ConcVerif.Proof.HBLRMain
/-! # C07 for `lr_guarded` — the left-right protocol is data-race free, at the level of the model

For EVERY trace accepted by the left-right model `LR.step` (any number of readers and writers, any
interleaving, exceptions of the user functor included; the same `step` the observed traces of the real
`lr_guarded.hpp` are checked against by the `lr` / `lr_strict` components), mapped to happens-before
events (`LR.toHB`: the flags and counters with their memory orders, the write mutex, the plain accesses
of the two copies):

* every write to a copy (functor application, roll-back / roll-forward copy) happens-after every
  earlier read and write of that copy, and
* every read of a copy (through a reader's handle, or as the source of a copy) happens-after every
  earlier write of it.

The edges: `unlock → lock` of the write mutex between writers; the writer's store of `m_readingLeft` →
the reader's load that read it; the reader's decrement (RMW) → the writer's load of that counter — the
counters are never stored to, so the release sequence headed by each decrement reaches every later load.
The interleaving part (no reader holds the side being written) is `Proof/LR.lean` (C03); the
happens-before part adds five trace invariants (`Proof/HBLRInv.lean`).

The theorems are stated for an arbitrary assignment `o : Ords` of memory orders to the seven kinds of
atomic operation that satisfies `o.OK`: store of `m_readingLeft` and counter decrement at least
`release`, load of `m_readingLeft` and counter load at least `acquire`.  Today's code is `Ords.sc`
(everything seq_cst; the model parses nothing else).  Each of the four requirements is necessary
(`C07_lr_*_needed`: a concrete accepted trace that races when that one order is relaxed).  The orders of
the increment and of `m_countingLeft` carry no happens-before obligation: their seq_cst matters for
the interleaving (the store-buffering pattern `store rl; load cnt ∥ inc cnt; load rl`), which the
operational abstraction of `Base/HB.lean` takes as given — see the `partial` text of C07. -/
namespace ConcVerif.LR

/-- **Left-right, every conflicting pair is ordered.**  In every trace accepted by the model, for every
assignment of memory orders satisfying `o.OK`: if the events at `i < j` access the same copy and at
least one of them writes it (`LRConf`: both ends of an application / copy window count as accesses, a
copy window both as a write of its target and as a read of its source), then `i` happens-before `j`. -/
theorem C07_lr_order {o : Ords} (ho : o.OK) {b : Bool} {es : List (Tid × Ev)} {s : St} (h : run (init b) es = some s)
    {i j : Nat} {u t : Tid} {ei ej : Ev} (hij : i < j) (hi : es[i]? = some (u, ei)) (hj : es[j]? = some (t, ej))
    (hc : LRConf ei ej) : HB.HB (hbTrace o es) i j :=
  lr_order ho h hij hi hj hc

/-- **C07 for lr_guarded (today's code: all seq_cst).** -/
theorem C07_lr {b : Bool} {es : List (Tid × Ev)} {s : St} (h : run (init b) es = some s)
    {i j : Nat} {u t : Tid} {ei ej : Ev} (hij : i < j) (hi : es[i]? = some (u, ei)) (hj : es[j]? = some (t, ej))
    (hc : LRConf ei ej) : HB.HB (hbTrace .sc es) i j :=
  lr_order Ords.sc_ok h hij hi hj hc

/-- Reader → writer: a write to copy `x` (either end of a functor application or of a copy onto `x`)
happens-after every earlier read of `x` through a reader's handle. -/
theorem C07_lr_write_after_read {b : Bool} {es : List (Tid × Ev)} {s : St} (h : run (init b) es = some s)
    {i j : Nat} {r t : Tid} {x : Side} {v : List OpId} {ej : Ev} (hij : i < j) (hi : es[i]? = some (r, .rd x v))
    (hj : es[j]? = some (t, ej)) (hw : ej.wrS = some x) : HB.HB (hbTrace .sc es) i j :=
  lr_order Ords.sc_ok h hij hi hj ⟨x, .inr ⟨.inr rfl, hw⟩⟩

/-- Writer → reader: a read of copy `x` through a handle happens-after every earlier write to `x`. -/
theorem C07_lr_read_after_write {b : Bool} {es : List (Tid × Ev)} {s : St} (h : run (init b) es = some s)
    {i j : Nat} {w r : Tid} {x : Side} {v : List OpId} {ei : Ev} (hij : i < j) (hi : es[i]? = some (w, ei))
    (hw : ei.wrS = some x) (hj : es[j]? = some (r, .rd x v)) : HB.HB (hbTrace .sc es) i j :=
  lr_order Ords.sc_ok h hij hi hj ⟨x, .inl ⟨hw, .inr rfl⟩⟩

/-- Writer → writer: every write / copy access of a writer happens-after every earlier one (through
the write mutex), whatever the sides. -/
theorem C07_lr_write_after_write {b : Bool} {es : List (Tid × Ev)} {s : St} (h : run (init b) es = some s)
    {i j : Nat} {u t : Tid} {x : Side} {ei ej : Ev} (hij : i < j) (hi : es[i]? = some (u, ei))
    (hj : es[j]? = some (t, ej)) (hwi : ei.wrS = some x) (hwj : ej.wrS = some x) : HB.HB (hbTrace .sc es) i j :=
  lr_order Ords.sc_ok h hij hi hj ⟨x, .inl ⟨hwi, .inl hwj⟩⟩

/-- … hence the mapped trace of every accepted trace has no data race (declarative definition), for
every admissible assignment of orders … -/
theorem C07_lr_no_race {o : Ords} (ho : o.OK) {b : Bool} {es : List (Tid × Ev)} {s : St}
    (h : run (init b) es = some s) : ¬ HB.Race (hbTrace o es) :=
  lr_no_race ho h

/-- … and the executable race checker accepts it: a REJECT of the `hb` driver on a left-right trace can
only come with a rejection by the left-right model (or with a weakened memory order). -/
theorem C07_lr_accepted {b : Bool} {es : List (Tid × Ev)} {s : St} (h : run (init b) es = some s) :
    HB.raceFree (hbTrace .sc es) = true :=
  HB.raceFree_complete (lr_no_race Ords.sc_ok h)

/-! ## non-vacuity and necessity of the four orders -/

/-- reader 1 reads L; writer 2 modifies (writes R, flips, waits for reader 1, writes L); reader 3 then
reads R -/
def hbWitness : List (Tid × Ev) :=
  [(1, .call (.ls 0)), (1, .ldCL .L), (1, .inc .L 0), (1, .ldRL .L), (1, .ret (.ls 0)), (1, .rd .L []),
   (2, .call (.modify 7)), (2, .lock), (2, .fBegin .R), (2, .fEnd .R [7]), (2, .stRL .R),
   (2, .ldCnt .L 1), (2, .yld),
   (1, .call .rel), (1, .dec .L 1), (1, .ret .rel),
   (2, .ldCnt .L 0), (2, .ldCnt .R 0), (2, .fBegin .L), (2, .fEnd .L [7]), (2, .unlock), (2, .ret (.modify 7)),
   (3, .call (.ls 0)), (3, .ldCL .L), (3, .inc .L 0), (3, .ldRL .R), (3, .ret (.ls 0)), (3, .rd .R [7])]

/-- the trace is accepted and contains a reader→writer conflict (5, 18) and a writer→reader conflict
(9, 27) between different threads -/
example : ∃ s, run (init false) hbWitness = some s ∧
    hbWitness[5]? = some (1, .rd .L []) ∧ hbWitness[18]? = some (2, .fBegin .L) ∧
    hbWitness[9]? = some (2, .fEnd .R [7]) ∧ hbWitness[27]? = some (3, .rd .R [7]) ∧
    LRConf (.rd .L []) (.fBegin .L) ∧ LRConf (.fEnd .R [7]) (.rd .R [7]) :=
  ⟨_, rfl, rfl, rfl, rfl, rfl, ⟨.L, .inr ⟨.inr rfl, rfl⟩⟩, ⟨.R, .inl ⟨rfl, .inr rfl⟩⟩⟩

example : HB.HB (hbTrace .sc hbWitness) 5 18 ∧ HB.HB (hbTrace .sc hbWitness) 9 27 :=
  ⟨C07_lr (s := _) (b := false) rfl (by decide) rfl rfl ⟨.L, .inr ⟨.inr rfl, rfl⟩⟩,
   C07_lr (s := _) (b := false) rfl (by decide) rfl rfl ⟨.R, .inl ⟨rfl, .inr rfl⟩⟩⟩

/-- a REJECT of the checker is a race of the declarative definition (completeness of the checker) -/
theorem C07_lr_reject_is_race {tr : HB.Trace} (h : HB.raceFree tr = false) : HB.Race tr :=
  HB.race_of_not_raceFree h

/-- **The decrement must release.**  With a relaxed decrement of the reader counter the same accepted
trace has a data race: the writer's second application on L is not ordered after reader 1's read of L. -/
theorem C07_lr_dec_needed : ∃ s, run (init false) hbWitness = some s ∧ HB.Race (hbTrace { dec := .rlx } hbWitness) :=
  ⟨_, rfl, C07_lr_reject_is_race (by decide)⟩

/-- **The writer's counter load must acquire.** -/
theorem C07_lr_ldCnt_needed : ∃ s, run (init false) hbWitness = some s ∧ HB.Race (hbTrace { ldCnt := .rlx } hbWitness) :=
  ⟨_, rfl, C07_lr_reject_is_race (by decide)⟩

/-- **The store of `m_readingLeft` must release**: otherwise reader 3's read of R is not ordered after
the writer's first application on R. -/
theorem C07_lr_stRL_needed : ∃ s, run (init false) hbWitness = some s ∧ HB.Race (hbTrace { stRL := .rlx } hbWitness) :=
  ⟨_, rfl, C07_lr_reject_is_race (by decide)⟩

/-- **The reader's load of `m_readingLeft` must acquire.** -/
theorem C07_lr_ldRL_needed : ∃ s, run (init false) hbWitness = some s ∧ HB.Race (hbTrace { ldRL := .rlx } hbWitness) :=
  ⟨_, rfl, C07_lr_reject_is_race (by decide)⟩

/-- acquire / release on those four and relaxed everywhere else is enough for data-race freedom of
every accepted trace (NOT for the interleaving the model describes: see the header) -/
theorem C07_lr_weakest_orders {b : Bool} {es : List (Tid × Ev)} {s : St} (h : run (init b) es = some s) :
    ¬ HB.Race (hbTrace { ldRL := .acq, stRL := .rel, ldCL := .rlx, stCL := .rlx, inc := .rlx, dec := .rel, ldCnt := .acq } es) :=
  lr_no_race ⟨rfl, rfl, rfl, rfl⟩ h

example : HB.raceFree (hbTrace .sc hbWitness) = true := C07_lr_accepted (s := _) (b := false) rfl

end ConcVerif.LR
