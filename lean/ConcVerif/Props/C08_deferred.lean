import ConcVerif.Props.C20_deferred
import ConcVerif.Props.C02_deferred
import ConcVerif.Proof.DeferredR
/-! # C08 (deferred_guarded part) — shared handles: non-null ⇔ lock obtained; tries never block; released once

`deferred_guarded` hands out only shared handles (`lock_shared`, `try_lock_shared`,
`try_lock_shared_for/until`).  Model: `Model/Deferred.lean`; pc `sAcq c` = before the shared
acquisition, `sGot ok` = acquisition done with outcome `ok`, `idle h` = at rest, `h` = owns a non-null
handle.  The lock-family half is `Props/C08.lean`. -/
namespace ConcVerif.Deferred

/-- The truth value of the returned handle (`got b`) is the outcome of the shared acquisition event,
and it is `true` exactly when the thread holds `m` shared. -/
theorem C08_deferred_truth_value {spur : Bool} {s s' : St} {t : Tid} {b : Bool} (h : Reachable spur s)
    (hs : step s t (.got b) = some s') : s.pc t = .sGot b ∧ s'.pc t = .idle b ∧ (b = true ↔ t ∈ s.sh) ∧ s'.sh = s.sh := by
  generalize hp : s.pc t = p
  cases Step.of_step hp hs with
  | got =>
    refine ⟨rfl, upd_same _ _ _, ?_, rfl⟩
    rw [(inv_reachable h).L.shP t, hp]; cases b <;> decide

/-- … where `sGot ok` is reached only by the acquisition event itself, with `ok` its outcome
(`slk` always succeeds; `stl ok` / `stf ok` report `ok`), and a successful one adds the thread to the
shared holders while a failed one changes nothing. -/
theorem C08_deferred_outcome_recorded {s s' : St} {t : Tid} {e : Ev} {h : How} (hp : s.pc t = .sAcq (.acq h))
    (hs : step s t e = some s') :
    (e = .slk ∧ h = .block ∧ s'.pc t = .sGot true ∧ s'.sh = t :: s.sh) ∨
    (∃ ok, (e = .stl ok ∧ h = .try_ ∨ e = .stf ok ∧ (h = .for_ ∨ h = .until_)) ∧ s'.pc t = .sGot ok ∧
      s'.sh = if ok then t :: s.sh else s.sh) := by
  cases Step.of_step hp hs with
  | slk => exact .inl ⟨rfl, rfl, upd_same _ _ _, rfl⟩
  | stl => exact .inr ⟨true, .inl ⟨rfl, rfl⟩, upd_same _ _ _, rfl⟩
  | stlF => exact .inr ⟨false, .inl ⟨rfl, rfl⟩, upd_same _ _ _, rfl⟩
  | stf hh => exact .inr ⟨true, .inr ⟨rfl, hh⟩, upd_same _ _ _, rfl⟩
  | stfF hh => exact .inr ⟨false, .inr ⟨rfl, hh⟩, upd_same _ _ _, rfl⟩

/-- The try / timed forms never perform a blocking acquisition of `m`: at their acquisition point only
the try (`stl`) resp. timed (`stf`) event is accepted, and its failing outcome is enabled in every
global state — whoever holds `m`, the call can proceed.  (The drain attempt before it uses only the
exclusive try-lock `mtl`, see `C08_deferred_drain_only_tries`.) -/
theorem C08_deferred_try_never_blocks {s : St} {t : Tid} {h : How} (hp : s.pc t = .sAcq (.acq h)) (hh : h ≠ .block) :
    (h = .try_ → (step s t (.stl false)).isSome = true) ∧
    (h ≠ .try_ → (step s t (.stf false)).isSome = true) ∧ step s t .slk = none := by
  refine ⟨?_, fun hn => Step.enabled hp (.stfF ?_), ?_⟩
  · rintro rfl; exact Step.enabled hp .stlF
  · cases h with
    | block => exact absurd rfl hh
    | try_ => exact absurd rfl hn
    | for_ => exact .inl rfl
    | until_ => exact .inr rfl
  · cases hs : step s t .slk with
    | none => rfl
    | some s' => cases Step.of_step hp hs; exact absurd rfl hh

/-- `do_pending_writes` (run first by every shared acquisition, blocking or not) touches `m` only by an
exclusive TRY-lock, one of whose outcomes is always enabled.  What can delay a try / timed form is
therefore only the drain it may win: the functions of the queued tasks, and the queue mutex `qm`, which
is blocking but only ever held across one push or one swap — its holder is always enabled to release. -/
theorem C08_deferred_drain_only_tries {spur : Bool} {s : St} {t : Tid} (h : Reachable spur s) :
    (∀ c, s.pc t = .sTry c → (∀ e s', step s t e = some s' → ∃ ok, e = .mtl ok) ∧
      ((step s t (.mtl true)).isSome = true ∨ (step s t (.mtl false)).isSome = true)) ∧
    (s.qm = some t → (step s t .qul).isSome = true) := by
  have hI := inv_reachable h
  constructor
  · intro c hp
    constructor
    · intro e s' hs
      cases Step.of_step hp hs <;> exact ⟨_, rfl⟩
    · by_cases hf : s.mx = none ∧ s.sh = []
      · exact .inl (Step.enabled hp (.mtlS hf.1 hf.2))
      · refine .inr (Step.enabled hp (.mtlSF (.inr ?_)))
        by_cases hm : s.mx = none
        · exact .inr (fun hs => hf ⟨hm, hs⟩)
        · exact .inl hm
  · exact fun hq => (qholder_qul hI hq).2

/-- A non-null handle keeps the lock until it is released: its owner holds `m` shared, nobody holds `m`
exclusively, steps of other threads do not change that, and the owner's own steps keep it until `sul`. -/
theorem C08_deferred_handle_keeps_lock {spur : Bool} {s s' : St} {t u : Tid} {e : Ev} (h : Reachable spur s)
    (hp : s.pc t = .idle true) (hs : step s u e = some s') :
    t ∈ s.sh ∧ s.mx = none ∧ (e = .sul ∧ u = t ∨ (s'.pc t = .idle true ∧ t ∈ s'.sh)) := by
  have hL := (inv_reachable h).L
  have hin : t ∈ s.sh := (hL.shP t).2 (by simp [hp, Pc.holdsS])
  have hmx := (C02_deferred_rw_excl h (u := t) (by simp [hp, Pc.holdsS]) t).2.2
  have hL' := (inv_reachable (h.step hs)).L
  refine ⟨hin, hmx, ?_⟩
  by_cases hut : u = t
  · subst hut
    cases Step.of_step hp hs with
    | sulH => exact .inl ⟨rfl, rfl⟩
    | _ => exact .inr ⟨hp, hin⟩
  · right
    have hpc : s'.pc t = .idle true := by
      rw [(Kind.of_step hs).pc_other (fun h => hut h.symm)]; exact hp
    exact ⟨hpc, (hL'.shP t).2 (by simp [hpc, Pc.holdsS])⟩

theorem no_release_at_rest {s : St} {t : Tid} (hp : s.pc t = .idle false) : step s t .sul = none := by
  cases hs : step s t .sul with
  | none => rfl
  | some s' => cases Step.of_step hp hs

/-- … and it is released exactly once: the release event leaves the thread at rest without handle,
no longer a shared holder, and there no further release is accepted. -/
theorem C08_deferred_released_once {spur : Bool} {s s' : St} {t : Tid} (h : Reachable spur s)
    (hp : s.pc t = .idle true) (hs : step s t .sul = some s') :
    s'.pc t = .idle false ∧ t ∉ s'.sh ∧ step s' t .sul = none := by
  have hL' := (inv_reachable (h.step hs)).L
  have hpc : s'.pc t = .idle false := by
    cases Step.of_step hp hs with
    | sulH => exact upd_same _ _ _
  refine ⟨hpc, ?_, no_release_at_rest hpc⟩
  intro hin; have := (hL'.shP t).1 hin; simp [hpc, Pc.holdsS] at this

/-- Nothing is held after a null result (and no release is due). -/
theorem C08_deferred_null_holds_nothing {spur : Bool} {s s' : St} {t : Tid} (h : Reachable spur s)
    (hs : step s t (.got false) = some s') :
    s'.pc t = .idle false ∧ t ∉ s'.sh ∧ s'.mx ≠ some t ∧ s'.qm ≠ some t ∧ step s' t .sul = none := by
  have hpc := (C08_deferred_truth_value h hs).2.1
  have hr := C20_deferred_rest_holds_nothing (h.step hs) hpc
  exact ⟨hpc, fun hin => by simpa using hr.2.2.1 hin, hr.1, hr.2.1, no_release_at_rest hpc⟩

/-! Non-vacuity: `try_lock_shared_for` fails while a writer is inside its function (null handle, nothing
held), `try_lock_shared` succeeds afterwards (non-null, shared holder), released once. -/
example : ∃ s, Reachable false s ∧ s.pc 2 = .idle false ∧ s.pc 3 = .idle true ∧ s.sh = [3] ∧ s.pc 1 = .idle false :=
  ⟨_, ⟨[(1, .callMod 1 false), (1, .mtl true), (1, .fld false), (1, .ucb 1),
        (2, .callSh .for_), (2, .fld false), (2, .stf false), (2, .got false),
        (1, .prd 0), (1, .pwr 1), (1, .uce 1 1), (1, .mul), (1, .ret),
        (3, .callSh .try_), (3, .fld false), (3, .stl true), (3, .got true), (3, .prd 1),
        (2, .callSh .block), (2, .fld false), (2, .slk), (2, .got true), (2, .sul)], rfl⟩, rfl, rfl, rfl, rfl⟩

end ConcVerif.Deferred
