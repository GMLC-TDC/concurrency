import ConcVerif.Props.C17
/-! # C20 (SearchableObjectHolder part) — a throwing predicate never leaves the holder locked or half-modified

In the model (`Model/SOH.lean`) the user predicate given to `removeObject(pred)` /
`findObject(pred)` / `findObject(pred, type)` may throw at its j-th invocation, for every j
(`Pred.thr`); the specification then yields the result `threw`, and the concurrent layer accepts
`uth` (the throw, inside the critical section, at exactly that invocation), then the release of
`mapLock` (the `lock_guard` destructor during unwinding), then `exc` (the exception reaches the caller).
All C17 theorems are about traces that contain such throws; the statements below single out what C20 asks. -/
namespace ConcVerif.SOH

/-- Specification level: a call that ends with an exception leaves both maps exactly as they were
(objects and tags: not half-modified) — for every state, operation and throwing invocation. -/
theorem C20_soh_spec_unchanged {m : Maps} {op : Op} (h : (apply m op).2 = .threw) :
    (apply m op).1 = m ∧ op.hasPred = true :=
  ⟨apply_threw_unchanged h, apply_threw_pred h⟩

/-- ... and in a linearised history an entry that threw does not move the replayed state -/
theorem C20_soh_replay_skips_throw (m : Maps) (t : Tid) (op : Op) (rest : List HEntry)
    (h : replay m (⟨t, op, .threw⟩ :: rest) ≠ none) : replay m (⟨t, op, .threw⟩ :: rest) = replay m rest := by
  simp only [replay] at h ⊢
  split
  · rename_i hr; rw [apply_threw_unchanged hr]
  · rename_i hr; simp [hr] at h

/-- The throw happens inside the critical section, at the invocation the specification names, by the
lock holder; the thread then is in the unwinding state, from which the release is enabled. -/
theorem C20_soh_throw_inside {s s' : St} {t : Tid} (h : Reachable s) (hs : step s t .uth = some s') :
    (∃ op, s.pc t = .cs op .threw [] ∧ s'.pc t = .thrown op) ∧ s.lock = some t ∧ s'.lock = some t ∧
    s'.maps = s.maps ∧ (step s' t .mul).isSome = true := by
  cases step_tr hs with
  | uth op hp =>
    have hl : s.lock = some t := ((inv_reachable h).lk t).mpr (by rw [hp]; rfl)
    exact ⟨⟨op, hp, setPc_pc_same _ _ _⟩, hl, hl, rfl, (Tr.mulThrown op (setPc_pc_same _ _ _) hl).enabled⟩

/-- The lock acquisition of a call that is going to throw does not change the maps; together with
`C17_maps_change_only_at_lin` (no other step of the thread changes them): from `call` to `exc` the
throwing call leaves the holder's contents untouched. -/
theorem C20_soh_not_half_modified {s s' : St} {t : Tid} {op : Op} {pend : List ObjId} (hp : s.pc t = .called op)
    (hs : step s t .mlk = some s') (hthrow : s'.pc t = .cs op .threw pend) : s'.maps = s.maps := by
  obtain ⟨_, hm, pend', hpc⟩ := C17_lin_point_inside_call hp hs
  rw [hpc] at hthrow
  injection hthrow with _ hr _
  rw [hm]; exact apply_threw_unchanged hr

/-- `mapLock` is released before the exception reaches the caller: at `exc` the thread holds nothing,
and it is back at rest (it may call the holder again). -/
theorem C20_soh_unwind_releases {s s' : St} {t : Tid} (h : Reachable s) (hs : step s t .exc = some s') :
    s.lock ≠ some t ∧ s'.lock ≠ some t ∧ s'.pc t = .idle ∧ s'.maps = s.maps := by
  cases step_tr hs with
  | exc op hp =>
    have hl : s.lock ≠ some t := fun hl => by
      have := ((inv_reachable h).lk t).mp hl
      rw [hp] at this; cases this
    exact ⟨hl, hl, setPc_pc_same _ _ _, rfl⟩

/-- an exception reaches the caller only from a call whose specification result is `threw` (that call is the thread's
last history entry).  The other direction — a normal return never carries `threw` — is `C17_result_is_spec_result`. -/
theorem C20_soh_exc_iff_spec_threw {s s' : St} {t : Tid} (h : Reachable s) (hs : step s t .exc = some s') :
    ∃ op, lastOf t s.hist = some ⟨t, op, .threw⟩ := by
  cases step_tr hs with
  | exc op hp => exact ⟨op, (inv_reachable h).h.mine t op .threw (by rw [hp]; rfl)⟩

/-- The holder stays usable by all threads: the state after the exception is an ordinary reachable
state (so mutual exclusion, linearizability, deadlock-freedom and the ledger hold for everything that
follows); in particular, whenever the lock is free every waiting caller can take it, and the thread
that caught the exception can call again. -/
theorem C20_soh_usable_after {s s' : St} {t : Tid} (h : Reachable s) (hs : step s t .exc = some s')
    (hg : s'.gone = false) :
    Reachable s' ∧ (∀ op, op.newId = none → (step s' t (.call op)).isSome = true) ∧
    (s'.lock = none → ∀ u op, s'.pc u = .called op → (step s' u .mlk).isSome = true) := by
  have hr' := reachable_step h hs
  have hidle := (C20_soh_unwind_releases h hs).2.2.1
  refine ⟨hr', fun op hn => (Tr.call op hidle hg hn).enabled, fun hl u op hp => ?_⟩
  exact (C17_acquirer_enabled_when_free (t := u) hl hg).1 op hp

/-! Non-vacuity: objects `0 ↦ 1`, `1 ↦ 2`; thread 1's `removeObject(id == 2)` throws at the second
invocation (i.e. on the object it would have removed); thread 2, blocked meanwhile, then removes object 2
with the same predicate not throwing; thread 1's `findObject(always, throws at the 1st call)` throws too.
Maps after the two throws are what the successful calls made them; the lock is free; the history has
five entries, two of them `threw`. -/
example : ∃ s, Reachable s ∧ s.maps = ⟨[(0, 1)], []⟩ ∧ s.lock = none ∧ s.pc 1 = .idle ∧ s.hist.length = 5 ∧
    replay Maps.empty s.hist = some s.maps ∧ lastOf 1 s.hist = some ⟨1, .fp ⟨.always, 1⟩, .threw⟩ :=
  ⟨_, ⟨[(0, .call (.add 0 1)), (0, .mlk), (0, .mul), (0, .ret (.bool true)),
        (0, .call (.add 1 2)), (0, .mlk), (0, .mul), (0, .ret (.bool true)),
        (1, .call (.rp ⟨.idEq 2, 2⟩)), (2, .call (.rp ⟨.idEq 2, 0⟩)),
        (1, .mlk), (1, .pcl 1), (1, .pcl 2), (1, .uth), (1, .mul), (2, .mlk), (1, .exc),
        (2, .pcl 1), (2, .pcl 2), (2, .pdt 2), (2, .mul), (2, .ret (.bool true)),
        (1, .call (.fp ⟨.always, 1⟩)), (1, .mlk), (1, .pcl 1), (1, .uth), (1, .mul), (1, .exc)], rfl⟩,
   by decide, by decide, by decide, by decide, by decide, by decide⟩

end ConcVerif.SOH
