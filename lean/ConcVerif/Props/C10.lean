import ConcVerif.Proof.Latch
import ConcVerif.Proof.LatchLive
import ConcVerif.Proof.LatchCalls
/-! # C10 — Latch opens exactly when the count is reached and never loses a wake-up

All statements are over `Reachable start s`: every accepted event sequence of the model in
`Model/Latch.lean`, i.e. any number of threads, any mix of `arrive` / `wait` / `arrive_and_wait`
calls, any interleaving, any number of spurious wake-ups.  No bound anywhere. -/
namespace ConcVerif.Latch


/-- `wait` / `arrive_and_wait` return only after at least `start` arrivals have taken place. -/
theorem C10_wait_sound {start : Int} {s s' : St} {t : Tid} {k : Kind} (h : Reachable start s)
    (hk : k ≠ .arrive) (hs : step s t (.ret k) = some s') : start ≤ (s.arrived : Int) := by
  have hi := inv_reachable h
  obtain ⟨es, hes⟩ := h
  cases Step.of_step hs with
  | aRet => exact absurd rfl hk
  | wRet hp => exact run_start hes ▸ Int.le_of_sub_nonpos (hi.cnt ▸ hi.opened t _ (.inr hp))

/-- No lost wake-up: once the latch is open (counter ≤ 0) nobody is left in the condition
variable's wait set, except during the instant in which the arriver that opened it — which holds
the mutex and is therefore never blocked — is between its decrement and its `notify_all`. -/
theorem C10_no_lost_wakeup {start : Int} {s : St} (h : Reachable start s) (ho : s.counter ≤ 0)
    (hq : ∀ t, (s.pc t).notifying = false) : s.waiters = [] := by
  have hi := inv_reachable h
  apply Classical.byContradiction
  intro hne
  rcases hi.lost hne with hp | ⟨_, u, hu⟩
  · exact absurd hp (Int.not_lt.2 ho)
  · rw [hq u] at hu; cases hu

/-- the pending notifier of `C10_no_lost_wakeup` holds the mutex -/
theorem C10_notifier_holds {start : Int} {s : St} (h : Reachable start s) {t : Tid}
    (hn : (s.pc t).notifying = true) : s.mtx = some t :=
  ((inv_reachable h).holder t).1 (Pc.holds_of_notifying hn)

/-- (L2) the holder of the mutex always has an enabled step: it is never blocked. -/
theorem C10_holder_enabled {start : Int} {s : St} (h : Reachable start s) {t : Tid}
    (hm : s.mtx = some t) : ∃ e, (step s t e).isSome = true :=
  have ha := (inv_reachable h).at (u := t) rfl
  have ⟨e, _, he⟩ := enabled_of_free h (fun hid => nomatch (hid ▸ ha.holder.2 hm : Pc.holds .idle = true))
    (ha.owner_awake hm) (.inr hm)
  ⟨e, he⟩

/-- remaining own steps of a thread inside `wait` once the latch is open -/
def Pc.waitRem : Pc → Nat
  | .wCalled _ => 5
  | .wLock _ => 4
  | .wSleep _ => 4
  | .wLocked _ => 3
  | .wUnlock _ => 2
  | .wRet _ => 1
  | _ => 0

def Pc.inWait : Pc → Bool
  | .wCalled _ | .wLock _ | .wSleep _ | .wLocked _ | .wUnlock _ | .wRet _ | .wWait _ => true
  | _ => false

/-- (L3) once the latch is open every own step of a thread inside `wait` strictly decreases a
bounded measure: it returns after at most 5 more own steps and never re-enters the cv wait. -/
theorem C10_open_bounded {start : Int} {s s' : St} {t : Tid} {e : Ev} (h : Reachable start s)
    (ho : s.counter ≤ 0) (hw : (s.pc t).inWait = true) (hs : step s t e = some s') :
    (s'.pc t).waitRem < (s.pc t).waitRem := by
  cases Step.of_step hs with
  -- the only edge inside `wait` that raises the measure enters `cv.wait`; nobody is about to once the latch is open
  | cwt hp => exact absurd ((inv_reachable h).waitPos t _ hp) (Int.not_lt.2 ho)
  | _ => simp [*, Pc.inWait, Pc.waitRem] at hw ⊢

/-- (L1 + L4) once the latch is open and no notification is pending, a thread inside `wait` is
enabled whenever the mutex is free: it can only be delayed by a mutex holder, and holders are
never blocked (`C10_holder_enabled`). -/
theorem C10_open_enabled {start : Int} {s : St} {t : Tid} (h : Reachable start s)
    (ho : s.counter ≤ 0) (hq : ∀ u, (s.pc u).notifying = false)
    (hw : (s.pc t).inWait = true) (hm : s.mtx = none ∨ s.mtx = some t) :
    ∃ e, (step s t e).isSome = true :=
  have ⟨e, _, he⟩ := enabled_of_free h (fun hid => by rw [hid] at hw; cases hw)
    (by rw [C10_no_lost_wakeup h ho hq]; exact List.not_mem_nil) hm
  ⟨e, he⟩

/-- `arrive` never waits on the condition variable: `cv.wait` is entered only from the loop of
`wait` … -/
theorem C10_arrive_no_cvwait {s s' : St} {t : Tid} (hs : step s t .cwt = some s') :
    ∃ k, s.pc t = .wWait k := by
  cases Step.of_step hs with
  | cwt hp _ => exact ⟨_, hp⟩

def Pc.arriveRem : Pc → Nat
  | .aCalled _ => 6
  | .aLocked _ => 5
  | .aDec _ => 4
  | .aNotify _ => 3
  | .aUnlock _ => 2
  | .aRet => 1
  | _ => 0

/-- … and each own step inside `arrive` strictly decreases a bounded measure (≤ 6 own steps), the
only possibly delayed one being the acquisition of the short mutex bracket. -/
theorem C10_arrive_bounded {s s' : St} {t : Tid} {e : Ev} (hs : step s t e = some s')
    (ha : 0 < (s.pc t).arriveRem) : (s'.pc t).arriveRem < (s.pc t).arriveRem := by
  cases Step.of_step hs <;> simp [*, Pc.arriveRem] at ha ⊢

theorem C10_arrive_enabled {start : Int} {s : St} {t : Tid} (h : Reachable start s)
    (ha : 0 < (s.pc t).arriveRem) (hm : s.mtx = none ∨ s.mtx = some t) :
    ∃ e, (step s t e).isSome = true :=
  have ⟨e, _, he⟩ := enabled_of_free h (fun hid => by rw [hid] at ha; cases ha)
    (((inv_reachable h).at rfl).awake fun k hk => by rw [hk] at ha; cases ha) hm
  ⟨e, he⟩

/-! Non-vacuity: a concrete accepted trace (start = 1; thread 1 waits and really sleeps, thread 2
arrives and notifies, thread 1 wakes and returns) reaches the hypotheses of the theorems above. -/
def witnessTrace : List (Tid × Ev) :=
  [(1, .call .wait), (1, .ld 1), (1, .mlk), (1, .ld 1), (1, .cwt),
   (2, .call .arrive), (2, .mlk), (2, .dec 1), (2, .ld 0), (2, .cna), (2, .mul), (2, .ret .arrive),
   (1, .cwk .notified), (1, .ld 0), (1, .mul)]

example : ∃ s, Reachable 1 s ∧ s.pc 1 = .wRet .wait ∧ s.counter ≤ 0 ∧ s.arrived = 1 ∧
    (step s 1 (.ret .wait)).isSome = true :=
  ⟨_, ⟨witnessTrace, rfl⟩, by decide, by decide, by decide, by decide⟩

/-- and the window of `C10_no_lost_wakeup` is real: after the decrement, before the notify, the
waiter is still in the wait set although the counter is 0 -/
example : ∃ s, Reachable 1 s ∧ s.counter = 0 ∧ s.waiters = [1] ∧ (s.pc 2).notifying = true :=
  ⟨_, ⟨witnessTrace.take 8, rfl⟩, by decide, by decide, by decide⟩

/-! ## Liveness: once the latch is open, every waiter returns — for every scheduler

The clause "once that many have taken place every current and future waiter returns" is proved as deadlock-freedom
(`C10_open_progress`) plus absence of livelock (`C10_open_terminates`), neither under a fairness assumption; together
`C10_stuck_all_returned`.  What is NOT covered: an execution with infinitely many calls by other threads under a
scheduler or mutex that starves one particular waiter (that needs a fairness assumption on the mutex which C++ does
not give). -/

/-- deadlock-freedom once open: if some thread is inside a call, some thread can take a
non-`call` step -/
theorem C10_open_progress {start : Int} {s : St} (h : Reachable start s) (ho : s.counter ≤ 0)
    {t : Tid} (ht : s.pc t ≠ .idle) : ∃ u e, isCall e = false ∧ (step s u e).isSome = true := by
  cases hm : s.mtx with
  | some hd =>
    have ha := (inv_reachable h).at (u := hd) rfl
    exact ⟨hd, enabled_of_free h (fun hid => nomatch (hid ▸ ha.holder.2 hm : Pc.holds .idle = true))
      (ha.owner_awake hm) (.inr hm)⟩
  | none =>
    -- nobody holds the mutex, so no notification is pending and the wait set is empty
    have hq : ∀ u, (s.pc u).notifying = false :=
      fun u => Bool.eq_false_iff.2 fun hn => nomatch hm.symm.trans (C10_notifier_holds h hn)
    exact ⟨t, enabled_of_free h ht (by rw [C10_no_lost_wakeup h ho hq]; exact List.not_mem_nil) (.inl hm)⟩

/-- no livelock once open: an execution whose state at step `N` is reachable and open and which
makes no `call` from `N` on (threads drawn from any finite list `ts`) cannot be infinite -/
theorem C10_open_terminates {start : Int} (x : Live.Exec step) (N : Nat)
    (hr : Reachable start (x.σ N)) (ho : (x.σ N).counter ≤ 0)
    (ts : List Tid) (hnd : ts.Nodup) (hts : ∀ n, N ≤ n → x.who n ∈ ts)
    (hnc : ∀ n, N ≤ n → isCall (x.ev n) = false) : False :=
  Live.no_infinite_run ranked ts hnd x N ho hts hnc

/-- quantitative form: from a reachable open state, a trace with `c` calls has at most
`(total rank) + 12·c` steps -/
theorem C10_open_bounded_run {start : Int} {s s' : St} (hr : Reachable start s) (ho : s.counter ≤ 0)
    (ts : List Tid) (hnd : ts.Nodup) {es : List (Tid × Ev)} (hts : ∀ y ∈ es, y.1 ∈ ts)
    (hrun : runFrom step s es = some s') :
    es.length + Live.total μ ts s' ≤ Live.total μ ts s + 12 * Live.calls isCall es :=
  Live.bounded_run ranked ts hnd ho hts hrun

/-- a reachable open state in which no non-`call` step is enabled has every thread returned -/
theorem C10_stuck_all_returned {start : Int} {s : St} (h : Reachable start s) (ho : s.counter ≤ 0)
    (hstuck : ∀ u e, isCall e = false → (step s u e).isSome = false) (t : Tid) : s.pc t = .idle := by
  apply Classical.byContradiction
  intro ht
  obtain ⟨u, e, hc, he⟩ := C10_open_progress h ho ht
  simp [hstuck u e hc] at he

/-- non-vacuity: after the witness trace thread 1 is in `wRet`; one more step and all have returned -/
example : ∃ s, Reachable 1 s ∧ s.counter ≤ 0 ∧ s.pc 1 ≠ .idle := ⟨_, ⟨witnessTrace, rfl⟩, by decide, by decide⟩

/-! ## The ghost counter is tied to the calls in the trace

`C10_wait_sound` speaks about `St.arrived`, the number of decrements performed; the property speaks about *arrive calls
that have taken place*.  The theorems below close that gap for every trace. -/

/-- exact accounting: calls started = decrements performed + callers still before their decrement -/
theorem C10_arrived_accounting {start : Int} {es : List (Tid × Ev)} {s : St} (h : run start es = some s) :
    ∃ P : List Tid, s.arrived + P.length = arriveCalls es ∧ ∀ t, (s.pc t).pending = true → t ∈ P := by
  obtain ⟨P, hj⟩ := J_run es (J_init start) h
  exact ⟨P, hj.sum.trans (Nat.zero_add _), fun t => (hj.mem t).1⟩

/-- a decrement is never counted without an `arrive` / `arrive_and_wait` call behind it -/
theorem C10_arrived_le_calls {start : Int} {es : List (Tid × Ev)} {s : St} (h : run start es = some s) :
    s.arrived ≤ arriveCalls es := by
  obtain ⟨P, hs, _⟩ := C10_arrived_accounting h
  exact hs ▸ Nat.le_add_right ..

/-- `wait` / `arrive_and_wait` return only after at least `start` calls of `arrive` /
`arrive_and_wait` have been made (the statement of the property, on the trace itself). -/
theorem C10_wait_needs_calls {start : Int} {es : List (Tid × Ev)} {s s' : St} {t : Tid} {k : Kind}
    (h : run start es = some s) (hk : k ≠ .arrive) (hs : step s t (.ret k) = some s') :
    start ≤ (arriveCalls es : Int) :=
  Int.le_trans (C10_wait_sound ⟨es, h⟩ hk hs) (Int.ofNat_le.2 (C10_arrived_le_calls h))

/-- Conversely ("once that many have taken place ..."): when at least `start` calls of `arrive` /
`arrive_and_wait` have been made and none of them is still in front of its decrement, the latch is
open (`counter ≤ 0`), which is the hypothesis of `C10_no_lost_wakeup`, `C10_open_progress`,
`C10_open_terminates` and `C10_stuck_all_returned`: every current and future waiter returns. -/
theorem C10_calls_open {start : Int} {es : List (Tid × Ev)} {s : St} (h : run start es = some s)
    (hc : start ≤ (arriveCalls es : Int)) (hp : ∀ t, (s.pc t).pending = false) : s.counter ≤ 0 := by
  obtain ⟨P, hj⟩ := J_run es (J_init start) h
  cases P with
  | cons u P => have := (hj.mem u).2 List.mem_cons_self; rw [hp u] at this; cases this
  | nil =>
    -- nobody is pending: every call has decremented, `counter = start - calls`
    have hsum : s.arrived = arriveCalls es := hj.sum.trans (Nat.zero_add _)
    rw [(inv_reachable ⟨es, h⟩).cnt, run_start h, hsum]
    exact Int.sub_nonpos_of_le hc

/-- non-vacuity: a trace with one arrive call, one decrement, and a waiter that returns -/
example : ∃ s, run 1 witnessTrace = some s ∧ arriveCalls witnessTrace = 1 ∧ s.arrived = 1 :=
  ⟨_, rfl, by decide, by decide⟩

end ConcVerif.Latch
