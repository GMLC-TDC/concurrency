import ConcVerif.Proof.HBSOH
/-! # C07 for `SearchableObjectHolder` — the two maps, at the level of the model

For EVERY trace accepted by the SearchableObjectHolder model `SOH.step` (the same `step` the observed
traces of `SearchableObjectHolder.hpp` are checked against; any number of threads, any client program
and interleaving, predicate forms, exceptions and the destructor's retry rounds included), mapped to
happens-before events by `SOH.toHB`:

* `mlk` / `mul`  ↦  exclusive acquire / release of mutex 0 (`mapLock`);
* `mac` (a plain access to the header of `objectMap` or of `typeMap`, seen by the plain-access tap)
  ↦  a WRITE of the single plain location 0 — the strongest reading: the model has one event for
  both maps and does not tell reads from writes, so ANY two map accesses count as conflicting;
* everything else (`call`, `ret`, `pcl`, `uth`, `exc`, `rel`, `pdt`, `callD`, `retD`, `yld`, `slp`)  ↦  `nop`.

What is proved.
(a) The mapped trace is consistent with mutex semantics and the happens-before layer's "holds mutex 0"
    is exactly the model's `lock` field (`C07_soh_mutex`).
(b) While the holder exists (`gone = false`) every map access is made holding `mapLock` exclusively:
    the lockset discipline (`C07_soh_lockset_alive`).
(c) The destructor is the one legitimate exception.  The model accepts `mac` from a thread at `dDone`,
    i.e. after the destructor's FINAL `mul` (the members are destroyed without the lock).  What the model
    assumes about that phase is exactly what its `step` enforces and nothing else: no `call` / `callD` /
    `mlk` of a method is accepted once `gone` is set.  What is proved about it (`C07_soh_destructor`,
    `C07_soh_access`): the final release is a unique position `p` of the trace; every access before `p`
    is under the lock; after `p` NO thread ever locks or unlocks `mapLock`, nobody holds it, and the only
    thread that touches the maps is the destructor's own thread.  So the late accesses are NOT protected
    by a lock — the lockset discipline is false for them (see the `example` at the end) — they are
    protected by happens-before alone: `earlier access → unlock → … → lock (destructor) → final unlock
    (destructor) → late access`  (`C07_soh_destructor_ordered`).
(d) Hence any two map accesses of an accepted trace are happens-before ordered (`C07_soh_maps`), no
    accepted trace has a data race (`C07_soh_no_race`) and the executable checker accepts the mapped
    trace (`C07_soh_accepted`).  Nothing here is partial: (d) is full data-race freedom of the maps.

Not part of this file: the payload objects themselves (`shared_ptr<X>` targets handed to callers) —
they are the client's; the model only tracks their reference ledger (C17). -/
namespace ConcVerif.SOH

/-- **Mutex consistency.**  The mapped trace of every accepted trace respects the semantics of
`mapLock` (a lock is taken only when free, a release releases what is held), and after the trace a
thread holds mutex 0 in the happens-before layer exactly if the model's `lock` field names it. -/
theorem C07_soh_mutex {es : List (Tid × Ev)} {s : St} (h : run es = some s) :
    HB.MutexOK (hbTrace es) ∧ ∀ u, HB.held (hbTrace es) u 0 = if s.lock = some u then some .X else none :=
  ⟨(soh_sim h).A.2, (soh_sim h).A.1⟩

/-- **Lockset while the holder exists.**  In every accepted trace that has not reached the destructor's
final release, every plain access to the two maps is made while the accessing thread holds `mapLock`
exclusively — during the destructor's waiting rounds too. -/
theorem C07_soh_lockset_alive {es : List (Tid × Ev)} {s : St} (h : run es = some s) (hg : s.gone = false) :
    HB.MutexOK (hbTrace es) ∧ HB.LockSet (hbTrace es) 0 0 :=
  ⟨(soh_sim h).A.2, (soh_sim h).L hg⟩

/-- **Every map access, position by position.**  In every accepted trace, a map access at position `n`
by thread `t` is made holding `mapLock` exclusively — or `t` is the destructor's thread, it made the
destructor's final release at an earlier position `p`, since `p` nobody has locked or unlocked
`mapLock` nor has any other thread touched the maps, and at `n` the lock is held by nobody. -/
theorem C07_soh_access {es : List (Tid × Ev)} {s : St} (h : run es = some s) {n : Nat} {t : Tid}
    (hn : es[n]? = some (t, .mac)) :
    HB.held ((hbTrace es).take n) t 0 = some .X ∨
    ∃ p, p < n ∧ FinalAt es p t ∧ Quiet es p t ∧ ∀ v, HB.held ((hbTrace es).take n) v 0 = none := by
  have hsim := soh_sim h
  cases hg : s.gone with
  | false => exact .inl (lockedAt_mac hn (hsim.L hg n (by simp; exact HB.lq_lt hn)))
  | true =>
    obtain ⟨p, d, haf, _⟩ := hsim.F hg
    rcases haf.access hn with ⟨_, h1⟩ | ⟨h1, h2, h3⟩
    · exact .inl h1
    · subst h2; exact .inr ⟨p, h1, haf.fin, haf.quiet, h3⟩

/-- **The destructor's teardown.**  In every accepted trace that has reached the destructor's final
release: that release is a position `p` of the trace, made by a thread `d`, and it is the only one;
every map access before `p` is made under `mapLock`; after `p` no `mlk` / `mul` occurs and every map
access is `d`'s; at every later point nobody holds `mapLock`; and a thread that is past the final
release (`dDone`, the only state besides "holds the lock" from which `mac` is accepted) is `d`. -/
theorem C07_soh_destructor {es : List (Tid × Ev)} {s : St} (h : run es = some s) (hg : s.gone = true) :
    ∃ p d, FinalAt es p d ∧ (∀ p' d', FinalAt es p' d' → p' = p ∧ d' = d) ∧
      (∀ n u, n < p → es[n]? = some (u, .mac) → HB.held ((hbTrace es).take n) u 0 = some .X) ∧
      Quiet es p d ∧
      (∀ n, p < n → n ≤ es.length → ∀ u, HB.held ((hbTrace es).take n) u 0 = none) ∧
      (∀ u, s.pc u = .dDone → u = d) := by
  obtain ⟨p, d, haf, hone⟩ := (soh_sim h).F hg
  exact ⟨p, d, haf.fin, fun p' d' h' => haf.unique h', fun n u hn hget => lockedAt_mac hget (haf.before n hn),
    haf.quiet, haf.free, hone⟩

/-- **The late accesses are ordered, not locked.**  In every accepted trace, if `p` is the destructor's
final release and `j > p` a map access (necessarily the destructor's, made without the lock), then every
earlier map access `i` — by any thread, under the lock or itself late — happens-before `j`. -/
theorem C07_soh_destructor_ordered {es : List (Tid × Ev)} {s : St} (h : run es = some s) {p i j : Nat} {d t u : Tid}
    (_hp : FinalAt es p d) (_hpj : p < j) (hij : i < j) (hi : es[i]? = some (t, .mac)) (hj : es[j]? = some (u, .mac)) :
    HB.HB (hbTrace es) i j :=
  soh_hb h hij ⟨t, u, _, _, hbTrace_get hi, hbTrace_get hj, .inr rfl, .inr rfl, .inl rfl⟩

/-- **The maps.**  In every trace accepted by the SearchableObjectHolder model, each plain access to
`objectMap` / `typeMap` happens after every earlier one — even when all of them are counted as
conflicting writes of one location, and including the destructor's accesses after its final release. -/
theorem C07_soh_maps {es : List (Tid × Ev)} {s : St} (h : run es = some s) {i j : Nat} (hij : i < j)
    (hc : HB.ConflictOn (hbTrace es) 0 i j) : HB.HB (hbTrace es) i j :=
  soh_hb h hij hc

/-- … so no accepted trace contains a data race (location 0 is the only plain location of the mapping) … -/
theorem C07_soh_no_race {es : List (Tid × Ev)} {s : St} (h : run es = some s) : ¬ HB.Race (hbTrace es) :=
  soh_no_race h

/-- … and the executable race checker accepts every trace the model accepts: a REJECT of the `hb` driver
on a SearchableObjectHolder trace can only come with a rejection by the model. -/
theorem C07_soh_accepted {es : List (Tid × Ev)} {s : St} (h : run es = some s) : HB.raceFree (hbTrace es) = true :=
  HB.raceFree_complete (soh_no_race h)

/-! ### Non-vacuity -/

/-- thread 1 adds object 1 under name 0; thread 0 enters the destructor, finds the map non-empty,
releases and yields; meanwhile thread 2 removes name 0 (a critical section INSIDE the destructor's
wait); thread 0 re-locks, finds the map empty, makes its final release at position 17 and then touches
the maps once more at position 18 — without the lock -/
def hbWitness : List (Tid × Ev) :=
  [(1, .call (.add 0 1)), (1, .mlk), (1, .mac), (1, .mul), (1, .ret (.bool true)),
   (0, .callD), (0, .mlk), (0, .mac), (0, .mul), (0, .yld),
   (2, .call (.rm 0)), (2, .mlk), (2, .mac), (2, .mul), (2, .ret (.bool true)),
   (0, .mlk), (0, .mac), (0, .mul), (0, .mac), (0, .retD)]

/-- the trace is accepted; the accesses at 2 / 12 (threads 1 / 2, both locked), 12 / 16 (thread 2 /
destructor, both locked) and 12 / 18 (thread 2 locked / destructor UNLOCKED) conflict -/
example : ∃ s, run hbWitness = some s ∧ s.gone = true ∧ HB.ConflictOn (hbTrace hbWitness) 0 2 12 ∧
    HB.ConflictOn (hbTrace hbWitness) 0 12 16 ∧ HB.ConflictOn (hbTrace hbWitness) 0 12 18 :=
  ⟨_, rfl, rfl, ⟨1, 2, _, _, rfl, rfl, .inr rfl, .inr rfl, .inl rfl⟩, ⟨2, 0, _, _, rfl, rfl, .inr rfl, .inr rfl, .inl rfl⟩,
    ⟨2, 0, _, _, rfl, rfl, .inr rfl, .inr rfl, .inl rfl⟩⟩

/-- position 17 is the destructor's final release (second round, object map empty) -/
example : FinalAt hbWitness 17 0 := ⟨_, 1, rfl, rfl, .inl rfl, rfl⟩

/-- the theorem applies: the locked access of thread 2 happens-before the destructor's unlocked one -/
example : HB.HB (hbTrace hbWitness) 12 18 :=
  C07_soh_maps (s := _) (es := hbWitness) rfl (by decide) ⟨2, 0, _, _, rfl, rfl, .inr rfl, .inr rfl, .inl rfl⟩

/-- the same derivation by hand: `mac` (2) → `mul` (2) → `mlk` (0) → … → `mac` (0) -/
example : HB.HB (hbTrace hbWitness) 12 18 :=
  .trans (j := 13) (.po (t := 2) (by decide) rfl rfl)
    (.trans (j := 15) (.sw (.mutex (t := 2) (u := 0) (m := 0) (md := .X) (md' := .X) (by decide) rfl rfl (.inl rfl)))
      (.po (t := 0) (by decide) rfl rfl))

/-- the position-wise theorem on the late access: it is NOT under the lock, so it is the second case -/
example : ∃ p, p < 18 ∧ FinalAt hbWitness p 0 ∧ Quiet hbWitness p 0 ∧
    ∀ v, HB.held ((hbTrace hbWitness).take 18) v 0 = none := by
  rcases C07_soh_access (s := _) (es := hbWitness) (n := 18) (t := 0) rfl rfl with h | h
  · have : HB.held ((hbTrace hbWitness).take 18) 0 0 = none := by decide +kernel
    rw [this] at h; cases h
  · exact h

/-- … and on a locked access: the first case -/
example : HB.held ((hbTrace hbWitness).take 12) 2 0 = some .X := by decide +kernel

/-- the lockset discipline is FALSE for the whole trace (position 18), true up to the final release —
the destructor's late accesses are ordered by happens-before, not by a lock -/
example : ¬ HB.LockSet (hbTrace hbWitness) 0 0 ∧ HB.LockSet (hbTrace (hbWitness.take 18)) 0 0 ∧
    HB.MutexOK (hbTrace hbWitness) := by
  refine ⟨by decide +kernel, by decide +kernel, by decide +kernel⟩

example : HB.raceFree (hbTrace hbWitness) = true := by decide +kernel

/-- … which is an instance of the theorem -/
example : HB.raceFree (hbTrace hbWitness) = true := C07_soh_accepted (s := _) (es := hbWitness) rfl

/-- what the model rejects (so what the theorems rely on): a map access without the lock, … -/
example : run [(1, .call (.add 0 1)), (1, .mlk), (1, .mac), (2, .call (.find 0)), (2, .mac)] = none ∧
    HB.raceFree (hbTrace [(1, .call (.add 0 1)), (1, .mlk), (1, .mac), (2, .call (.find 0)), (2, .mac)]) = false :=
  ⟨rfl, by decide +kernel⟩

/-- … a map access after the critical section, … -/
example : run [(1, .call (.add 0 1)), (1, .mlk), (1, .mac), (1, .mul), (1, .mac)] = none := rfl

/-- … and, after the destructor's final release: a map access by another thread, a new call, a
second destructor -/
example : run (hbWitness.take 18 ++ [(2, .mac)]) = none ∧ run (hbWitness.take 18 ++ [(2, .call .get)]) = none ∧
    run (hbWitness.take 18 ++ [(2, .callD)]) = none ∧
    HB.raceFree (hbTrace (hbWitness.take 18 ++ [(2, .mac)])) = false :=
  ⟨rfl, rfl, rfl, by decide +kernel⟩

/-- a method that was already inside (`called`, before `mlk`) when the destructor made its final
release can never lock: the model rejects the use-after-destruction instead of calling it race free -/
example : run [(0, .callD), (2, .call .get), (0, .mlk), (0, .mul), (2, .mlk)] = none ∧
    (run [(0, .callD), (2, .call .get), (0, .mlk), (0, .mul)]).isSome = true :=
  ⟨rfl, rfl⟩

end ConcVerif.SOH
