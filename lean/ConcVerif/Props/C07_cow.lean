import ConcVerif.Proof.HBCowMain
import ConcVerif.Proof.HBComplete
/-! # C07 for `cow_guarded` — the private copy is published through the left-right protocol, at the level of the model

`cow_guarded<T>` is `lr_guarded<shared_ptr<const T>> m_data` plus the writer mutex; the model (`Model/Cow.lean`) EMBEDS
the left-right model's state and delegates every primitive operation on `m_data` to `LR.step`.  For EVERY trace
accepted by `Cow.step` (any number of readers, writers, snapshot handles; the same `step` the observed traces of the
real `cow_guarded.hpp` are checked against by the `cow` component), mapped to happens-before events by `Cow.toHBc`
(inner left-right events as in `LR.toHB`, `m_writeMutex` = mutex 1, the plain accesses of the two `shared_ptr` copies,
the payload accesses `pcp / pwr / prd / pdt` of each version):

* the accepted cow trace projects to an accepted LEFT-RIGHT trace (the delegated events) whose happens-before image
  embeds into the cow trace's (`Proof/HBCowProj.lean`, `Proof/HBEmbed.lean`), so `C07_lr` applies:
  `C07_cow_sides` — a store that opens an assignment window on a side of `m_data` happens-after every earlier load of
  that side's pointer under a read handle and every earlier window on it, and a load happens-after every earlier window;
* `C07_cow_write_under_mutex` — the payload of a version is written (copy construction, write through the write
  handle) only by the thread that holds the writer mutex;
* `C07_cow_read_after_write` — every read of the payload of version `v` (through a snapshot, or as the source of the
  next writer's copy) happens-after EVERY write to it: the writes are program-order-before the writer's store that
  installs `v` on a side (`stPtr x v`), the reader's load of that side's pointer is ordered after that store by the
  left-right theorem, and the read follows the reader's own load;
* `C07_cow_destroy_after_snapshot` — the destruction of a version happens-after every read of it through a snapshot,
  in happens-before EXTENDED by the edges of the `shared_ptr` control block (assumption, libstdc++ is not traced: the
  destruction of a snapshot handle happens-before the destruction of the managed object by the last owner): the model
  accepts `pdt v` only when no snapshot of `v` is left, and a snapshot disappears only by its owner's `call drop`.

Stated for every assignment `o` of memory orders to the left-right atomics satisfying `LR.Ords.OK` (today's code:
`LR.Ords.sc`); `pay` chooses which of the two payload accesses of a copy construction is shown (write of the new
version / read of the source). -/
namespace ConcVerif.Cow
open ConcVerif.LR (Side)

/-- **The two `shared_ptr` copies of `m_data`.**  Conflicting accesses through the left-right model are ordered. -/
theorem C07_cow_sides {o : LR.Ords} (ho : o.OK) (pay : Bool) {b : Bool} {es : List (Tid × Ev)} {s : St}
    (h : run (init b) es = some s) {q r : Nat} {t u : Tid} {e1 e2 : Ev} (hqr : q < r) (hq : es[q]? = some (t, e1))
    (hr : es[r]? = some (u, e2)) (hc : SideConf e1 e2) : HB.HB (hbTraceC o pay es) q r :=
  cow_lr_order ho h hqr hq hr hc

/-- **Writes need the writer mutex.**  An accepted event that writes the payload of a version (`pcp new ..`, `pwr v ..`)
is made by the thread that holds `m_writeMutex`. -/
theorem C07_cow_write_under_mutex {s s' : St} {t : Tid} {e : Ev} {v : Ver} (h : Reachable s) (hs : step s t e = some s')
    (hw : e.wrP = some v) : s.wm = some t :=
  write_holds h hs hw

/-- **Publication of a version.**  Every read of the payload of `v` happens-after every write to it. -/
theorem C07_cow_read_after_write {o : LR.Ords} (ho : o.OK) (pay : Bool) {b : Bool} {es : List (Tid × Ev)} {s : St}
    (h : run (init b) es = some s) {i j : Nat} {t0 u : Tid} {ei ej : Ev} {v : Ver} (hij : i < j)
    (hi : es[i]? = some (t0, ei)) (hw : ei.wrP = some v) (hj : es[j]? = some (u, ej)) (hr : ej.rdP = some v) :
    HB.HB (hbTraceC o pay es) i j :=
  cow_read_after_write ho h hij hi hw hj hr

/-- all writes to the payload of a version are made by one thread (so they are ordered by program order) -/
theorem C07_cow_single_writer {b : Bool} {es : List (Tid × Ev)} {s : St} (h : run (init b) es = some s) {i c : Nat}
    {t0 u : Tid} {e e' : Ev} {v : Ver} (hi : es[i]? = some (t0, e)) (hc : es[c]? = some (u, e')) (hw : e.wrP = some v)
    (hw' : e'.wrP = some v) : t0 = u :=
  (cinv_run h).ww i c t0 u e e' v hi hc hw hw'

/-- **Destruction.**  The destruction `pdt v` happens-after every read of `v` through a snapshot handle — via the
reader's own `call drop v` and the control-block edge (`CBedge`, assumption). -/
theorem C07_cow_destroy_after_snapshot (o : LR.Ords) (pay : Bool) {b : Bool} {es : List (Tid × Ev)} {s : St}
    (h : run (init b) es = some s) {i j : Nat} {u d : Tid} {v : Ver} {c : Nat} (hij : i < j)
    (hi : es[i]? = some (u, .prd v c)) (hsnap : ∀ si, run (init b) (es.take i) = some si → (u, v) ∈ si.snaps)
    (hj : es[j]? = some (d, .pdt v)) :
    ∃ k, i < k ∧ k < j ∧ es[k]? = some (u, Ev.call (.drop v)) ∧ HBx (hbTraceC o pay es) (CBedge es) i j :=
  cow_destroy_after_snapshot h hij hi hsnap hj

/-! ## non-vacuity and necessity -/

/-- writer 1: `lock()` (copies version 0 into version 1), writes 7 into the copy, releases (publishes on R, flips, waits,
publishes on L destroying version 0); reader 2: `lock_shared` (gets version 1 from side R), reads 7, drops the snapshot -/
def hbWitness : List (Tid × Ev) :=
  [(1, .call .lock), (1, .olock), (1, .lr (.ldCL .L)), (1, .lr (.inc .L 0)), (1, .lr (.ldRL .L)), (1, .ldPtr .L 0),
   (1, .pcp 1 0 0), (1, .lr (.dec .L 1)), (1, .retGot .lock 1), (1, .pwr 1 7),
   (1, .call .release), (1, .lr .lock), (1, .stPtr .R 1), (1, .stCtl .R), (1, .lr (.stRL .R)),
   (1, .lr (.ldCnt .L 0)), (1, .lr (.ldCnt .R 0)), (1, .stPtr .L 1), (1, .pdt 0), (1, .stCtl .L), (1, .lr .unlock), (1, .ounlock),
   (1, .ret .release),
   (2, .call (.lockShared 0)), (2, .lr (.ldCL .L)), (2, .lr (.inc .L 0)), (2, .lr (.ldRL .R)), (2, .ldPtr .R 1), (2, .ldCtl .R),
   (2, .lr (.dec .L 1)), (2, .retGot (.lockShared 0) 1), (2, .prd 1 7), (2, .call (.drop 1)), (2, .ret (.drop 1))]

example : ∃ s, run (init false) hbWitness = some s ∧ hbWitness[9]? = some (1, .pwr 1 7) ∧
    hbWitness[12]? = some (1, .stPtr .R 1) ∧ hbWitness[27]? = some (2, .ldPtr .R 1) ∧ hbWitness[31]? = some (2, .prd 1 7) :=
  ⟨_, rfl, rfl, rfl, rfl, rfl⟩

example : HB.HB (hbTraceC .sc true hbWitness) 9 31 ∧ HB.HB (hbTraceC .sc true hbWitness) 12 27 :=
  ⟨C07_cow_read_after_write LR.Ords.sc_ok true (s := _) (b := false) rfl (by decide) rfl rfl rfl rfl,
   C07_cow_sides LR.Ords.sc_ok true (s := _) (b := false) rfl (by decide) rfl rfl ⟨.R, .inl ⟨⟨1, rfl⟩, .inr ⟨1, rfl⟩⟩⟩⟩

/-- the executable race checker accepts the mapped witness (both views of the copy construction) -/
example : HB.raceFree (hbTraceC .sc true hbWitness) = true ∧ HB.raceFree (hbTraceC .sc false hbWitness) = true :=
  ⟨by decide, by decide⟩

theorem C07_cow_reject_is_race {tr : HB.Trace} (h : HB.raceFree tr = false) : HB.Race tr :=
  HB.race_of_not_raceFree h

/-- **The store of `m_readingLeft` must release**: otherwise reader 2's read of the payload of version 1 is not ordered
after writer 1's write of it. -/
theorem C07_cow_stRL_needed : ∃ s, run (init false) hbWitness = some s ∧ HB.Race (hbTraceC { stRL := .rlx } true hbWitness) :=
  ⟨_, rfl, C07_cow_reject_is_race (by decide)⟩

/-- **The reader's load of `m_readingLeft` must acquire.** -/
theorem C07_cow_ldRL_needed : ∃ s, run (init false) hbWitness = some s ∧ HB.Race (hbTraceC { ldRL := .rlx } true hbWitness) :=
  ⟨_, rfl, C07_cow_reject_is_race (by decide)⟩

end ConcVerif.Cow
