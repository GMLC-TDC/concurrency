import ConcVerif.Proof.LRLive
/-! # C14 (lr_guarded part) — reads never wait for writers; a writer is delayed only by handles still held

Over the model `Model/LR.lean`.  Reader half: wait-freedom as (1) every read-side pc has an enabled event in
EVERY state (reachable or not, whatever the pcs of all writers), (2) no blocking event (mutex, spin-yield) is
accepted from a read-side pc, (3) a bounded strictly decreasing number of own steps per call, and constructively
(4) four own steps complete `lock_shared` from any state.  Writer half, first the safety facts (among them L2, L4 below): the value a spin
load returns is the number of registered readers; with nobody registered in the waited counter the exit edge is the enabled one; the waited
counter is the one new readers are NOT directed to, and it gains a member only from a reader that had loaded the
counting flag before; the mutex holder always has an enabled event.  Then, without any fairness assumption (second half
of the file): no infinite execution consists of progress steps only, every non-progress step is an environment event
or an idle step of the mutex holder, and a state in which nobody can progress has every waiting writer blocked by a
client that keeps a read handle.  Not mechanised: that under weak fairness the wait ends once the handles are released. -/
namespace ConcVerif.LR

/-! ## readers -/

/-- (1) Wait-free: a thread inside `lock_shared` or inside a handle's destruction has an enabled event in every
state whatsoever — in particular with the writer suspended at any point of `modify`, or spinning. -/
theorem C14_lr_reader_enabled (s : St) (t : Tid) (h : (s.pc t).inReadCall = true) :
    ∃ e, (step s t e).isSome = true := by
  cases hp : s.pc t with
  | rdCalled => exact ⟨_, (Step.ldCL hp).enabled⟩
  | rdCL => exact ⟨_, (Step.inc hp).enabled⟩
  | rdInc => exact ⟨_, (Step.ldRL hp).enabled⟩
  | rdGot => exact ⟨_, (Step.retLs (k := 0) hp).enabled⟩
  | rdRel => exact ⟨_, (Step.dec hp).enabled⟩
  | rdRelD => exact ⟨_, (Step.retRel hp).enabled⟩
  | _ => rw [hp] at h; cases h

/-- A thread that owns a handle can always read through it and can always start destroying it. -/
theorem C14_lr_handle_enabled (s : St) (t : Tid) (c x : Side) (h : s.pc t = .rdHold c x) :
    (step s t (.rd x (s.val x))).isSome = true ∧ (step s t (.call .rel)).isSome = true := by
  exact ⟨(Step.rd h).enabled, (Step.callRel h).enabled⟩

/-- (2) No blocking operation inside a read-side call: the model accepts no mutex event, no spin-yield and no
counter load from a read-side pc (so a header in which readers take `m_writeMutex` or spin is rejected). -/
theorem C14_lr_reader_never_blocks (s : St) (t : Tid) (h : (s.pc t).inReadCall = true ∨ ∃ c x, s.pc t = .rdHold c x)
    (e : Ev) (he : e = .lock ∨ e = .unlock ∨ e = .yld ∨ ∃ c v, e = .ldCnt c v) : step s t e = none := by
  have no : ∀ {p}, s.pc t = p → p.inReadCall = false → (∀ c x, p ≠ .rdHold c x) → False := by
    intro p hp h1 h2
    rcases h with h | ⟨c, x, h⟩
    · rw [hp, h1] at h; cases h
    · exact h2 c x (hp.symm.trans h)
  cases hs : step s t e with
  | none => rfl
  | some s' =>
    exfalso
    rcases he with rfl | rfl | rfl | ⟨c', v, rfl⟩
    · cases Step.of_step hs with | lock hp => exact no hp rfl nofun
    · cases Step.of_step hs with | unlockRb hp | unlockF2 hp | unlockRf hp => exact no hp rfl nofun
    · cases Step.of_step hs with | yld hp => exact no hp rfl nofun
    · cases Step.of_step hs with
      | cntZero hp | cntWait hp => exact no hp rfl nofun
      | reCnt hp =>
        rcases h with h | ⟨c, x, h⟩
        · rw [Pc.inReadCall_post h] at hp; cases hp
        · rw [h] at hp; cases hp

/-- (3) Bounded: every own step inside a read-side call decreases the number of steps left by exactly one
(4 for `lock_shared` and its try forms, 2 for the destruction of a handle). -/
theorem C14_lr_reader_bounded {s s' : St} {t : Tid} {e : Ev} (h : (s.pc t).inReadCall = true)
    (hs : step s t e = some s') : (s'.pc t).rdLeft + 1 = (s.pc t).rdLeft := by
  induction Step.of_step hs with
  | ldCL hp | inc hp | ldRL hp | retLs hp | dec hp | retRel hp => rw [setPc_pc_self, hp]; rfl
  | reRL hq | reCL hq | reCnt hq _ => rw [Pc.inReadCall_post h] at hq; cases hq
  | lock hp | unlockRb hp | unlockF2 hp | unlockRf hp | cntZero hp | cntWait hp | fin hp => rw [hp] at h; cases h
  | _ => rename_i hp; rw [hp] at h; cases h

/-- (4) Constructively: from ANY state in which `r` has called `lock_shared`, four steps of `r` alone — every other
thread, in particular every writer, frozen wherever it is — give `r` its handle. -/
theorem C14_lr_acquire_alone (s : St) (r : Tid) (k : Nat) (h : s.pc r = .rdCalled) :
    ∃ s', run s [(r, .ldCL s.cl), (r, .inc s.cl (s.reg s.cl).length), (r, .ldRL s.rl), (r, .ret (.ls k))] = some s' ∧
      s'.pc r = .rdHold s.cl s.rl := by
  have h3 := (Step.ldRL (setPc_pc_self ((s.setPc r (.rdCL s.cl)).setReg s.cl (r :: s.reg s.cl)) r (.rdInc s.cl))).to_step
  rw [setPc_rl, setReg_rl, setPc_rl] at h3
  exact ⟨_, run_cons_of_step (Step.ldCL h).to_step <| run_cons_of_step (Step.inc (setPc_pc_self ..)).to_step <|
    run_cons_of_step h3 <| run_cons_of_step (Step.retLs (setPc_pc_self ..)).to_step rfl, setPc_pc_self ..⟩

/-- ... and two steps of `r` alone release it. -/
theorem C14_lr_release_alone (s : St) (r : Tid) (c x : Side) (h : s.pc r = .rdRel c x) :
    ∃ s', run s [(r, .dec c (s.reg c).length), (r, .ret .rel)] = some s' ∧ s'.pc r = .idle :=
  ⟨_, run_cons_of_step (Step.dec h).to_step (run_cons_of_step (Step.retRel (setPc_pc_self ..)).to_step rfl),
    setPc_pc_self ..⟩

/-! ## writers -/

/-- The counters are exact: the value a writer's counter load must observe (`(s.reg c).length`) is the number of
threads between their increment and their decrement of counter `c` (no duplicates, membership = pc). -/
theorem C14_lr_counter_exact {s : St} (h : Reachable s) (c : Side) :
    (s.reg c).Nodup ∧ ∀ t, t ∈ s.reg c ↔ (s.pc t).regIn = some c :=
  ⟨(full_reachable h).inv.reg_nodup c, fun t => (full_reachable h).inv.mem t c⟩

/-- Waiting for readers (pc `wWait`): if no thread is registered in counter `c`, the only load of `c` the model
accepts returns 0, and it records `c` as seen empty. -/
theorem C14_lr_writer_sees_zero {s : St} (h : Reachable s) {w : Tid} {op : OpId} {l c : Side} {zL zR : Bool}
    (hw : s.pc w = .wWait op l zL zR) (hnone : ∀ t, (s.pc t).regIn ≠ some c) :
    step s w (.ldCnt c 0) = some (s.setPc w (waitSeen op l zL zR c)) ∧ ∀ v, v ≠ 0 → step s w (.ldCnt c v) = none := by
  have hz := ((full_reachable h).inv.reg_empty c).2 hnone
  refine ⟨(Step.cntZero hw hz).to_step, fun v hv => ?_⟩
  cases hs : step s w (.ldCnt c v) with
  | none => rfl
  | some s' =>
    cases Step.of_step hs with
    | cntZero => exact absurd rfl hv
    | cntWait _ hnz => exact absurd hz hnz
    | reCnt _ hn => exact absurd hw (hn _ _ _ _)

/-- Once both counters have been seen empty the second application is enabled. -/
theorem C14_lr_writer_exits (s : St) (w : Tid) (op : OpId) (l : Side) (hw : s.pc w = .wWait op l true true) :
    step s w (.fBegin l) = some (s.setPc w (.wF2 op l)) :=
  (Step.fBegin2 hw).to_step

/-- Constructively: when all handles have been released and no reader is mid-acquisition past its increment, three
own steps take a waiting writer into its second application, whatever it had observed before. -/
theorem C14_lr_writer_finishes_alone {s : St} (h : Reachable s) {w : Tid} {op : OpId} {l : Side} {zL zR : Bool}
    (hw : s.pc w = .wWait op l zL zR) (hnone : ∀ t, (s.pc t).regIn = none) :
    ∃ s', run s [(w, .ldCnt .L 0), (w, .ldCnt .R 0), (w, .fBegin l)] = some s' ∧ s'.pc w = .wF2 op l := by
  have hz : ∀ c, (s.reg c).length = 0 := fun c =>
    ((full_reachable h).inv.reg_empty c).2 fun t ht => nomatch (hnone t).symm.trans ht
  exact ⟨_, run_cons_of_step (Step.cntZero hw (hz .L)).to_step <|
    run_cons_of_step (Step.cntZero (c := .R) (setPc_pc_self ..) (hz .R)).to_step <|
    run_cons_of_step (Step.fBegin2 (setPc_pc_self ..)).to_step rfl, setPc_pc_self ..⟩

/-- Strict mode (the progress discipline checked for C14): a wait iteration — a counter load that returns non-zero —
is accepted only on a counter new readers are NOT directed to (`cl ≠ c`).  Today's code satisfies it: its first loop
waits on `¬cl`, then it flips `cl` and waits on the other counter. -/
theorem C14_lr_wait_closed {s s' : St} {w : Tid} {op : OpId} {l c : Side} {zL zR : Bool} {v : Nat}
    (hstrict : s.strict = true) (hw : s.pc w = .wWait op l zL zR) (hs : step s w (.ldCnt c v) = some s') (hv : v ≠ 0) :
    s.cl ≠ c := by
  cases Step.of_step hs with
  | cntZero => exact absurd rfl hv
  | cntWait _ _ hcl => exact fun hc => hcl ⟨hstrict, hc⟩
  | reCnt _ hn => exact absurd hw (hn _ _ _ _)

/-- `strict` is a configuration constant: every state reached from `init true` is strict. -/
theorem C14_lr_strict_const {b : Bool} {s : St} {es : List (Tid × Ev)} (hr : run (init b) es = some s) : s.strict = b :=
  runFrom_inv (Inv := fun s => s.strict = b) (fun _ _ _ _ h0 hs => by rw [step_strict hs]; exact h0) rfl hr

/-- A thread becomes registered in counter `x` only by its increment, from the pc at which it had already loaded
the counting flag with value `x` ... -/
theorem C14_lr_register_from {s s' : St} {t : Tid} {e : Ev} {x : Side} (hs : step s t e = some s')
    (h' : (s'.pc t).regIn = some x) : (s.pc t).regIn = some x ∨ s.pc t = .rdCL x := by
  induction Step.of_step hs with
  | inc hpc => rw [setPc_pc_self] at h'; cases h'; exact .inr hpc
  | ldRL hpc | retLs hpc | rd hpc | callRel hpc => rw [setPc_pc_self] at h'; exact .inl (hpc ▸ h')
  | cntWait | yld | stCL | fin | reRL | reCL | reCnt => exact .inl h'
  | @cntZero _ _ _ _ c => rw [setPc_pc_self] at h'; cases c <;> cases h'
  | _ => rw [setPc_pc_self] at h'; cases h'

/-- ... and it gets to that pc only by loading the counting flag, whose value is the current `cl`.  Hence, while a
writer spins, the set of threads registered in — or about to register in — the waited counter never gains a member:
the writer is delayed only by readers that arrived before, and completes once they have released. -/
theorem C14_lr_stale_from {s s' : St} {t : Tid} {e : Ev} {x : Side} (hs : step s t e = some s')
    (h' : s'.pc t = .rdCL x) : s.pc t = .rdCL x ∨ (s.pc t = .rdCalled ∧ x = s.cl) := by
  induction Step.of_step hs with
  | ldCL hpc => rw [setPc_pc_self] at h'; cases h'; exact .inr ⟨hpc, rfl⟩
  | cntWait | yld | stCL | fin | reRL | reCL | reCnt => exact .inl h'
  | @cntZero _ _ _ _ c => rw [setPc_pc_self] at h'; cases c <;> cases h'
  | _ => rw [setPc_pc_self] at h'; cases h'

/-- L2: the holder of the write mutex always has an enabled event (it never waits for anything but the two
counters, and a wait iteration is itself a step). -/
theorem C14_lr_holder_enabled {s : St} (h : Reachable s) {w : Tid} (hw : (s.pc w).post = true) :
    ∃ e, (step s w e).isSome = true := by
  rcases thread_cases (full_reachable h).inv w with h1 | ⟨e, s', h1, _⟩ | ⟨c, x, h1⟩ | ⟨op, h1, _⟩ | ⟨op, l, zL, zR, h1, _⟩
  · rw [h1] at hw; cases hw
  · exact ⟨e, by rw [h1]; rfl⟩
  · rw [h1] at hw; cases hw
  · rw [h1] at hw; cases hw
  · exact ⟨_, (Step.yld h1).enabled⟩

/-- A waiting writer can always look at a counter: the load with the current value is enabled unless (strict mode)
it would be a wait iteration on the counter new readers are directed to; flag loads, a flag store and `yld` are
always enabled — the writer is never stuck inside its wait. -/
theorem C14_lr_spin_enabled {s : St} {w : Tid} {op : OpId} {l : Side} {zL zR : Bool} (hw : s.pc w = .wWait op l zL zR)
    (c : Side) :
    ((s.reg c).length = 0 ∨ s.strict = false ∨ s.cl ≠ c → (step s w (.ldCnt c (s.reg c).length)).isSome = true) ∧
    (step s w .yld).isSome = true ∧ (step s w (.ldCL s.cl)).isSome = true ∧ (step s w (.stCL c)).isSome = true := by
  refine ⟨fun h => ?_, (Step.yld hw).enabled, (Step.reCL (hw ▸ rfl)).enabled, (Step.stCL hw).enabled⟩
  by_cases hz : (s.reg c).length = 0
  · rw [hz]; exact (Step.cntZero hw hz).enabled
  · exact (Step.cntWait hw hz fun hc => h.elim hz fun h => h.elim (by rw [hc.1]; nofun) fun h => h hc.2).enabled

/-- L4: a writer waiting for the write mutex is enabled as soon as the mutex is free; if it is not free, its holder
is enabled (`C14_lr_holder_enabled`) — no deadlock between readers and writers. -/
theorem C14_lr_lock_enabled (s : St) (t : Tid) (op : OpId) (h : s.pc t = .wCalled op) (hm : s.mtx = none) :
    (step s t .lock).isSome = true :=
  (Step.lock h hm).enabled

/-! ## non-vacuity -/

/-- a reader completes `lock_shared` while writer 0 sits in the middle of its first application -/
example : ∃ s s', Reachable s ∧ s.pc 0 = .wF1 7 .L ∧ s.pc 1 = .rdCalled ∧
    run s [(1, .ldCL .L), (1, .inc .L 0), (1, .ldRL .L), (1, .ret (.ls 0))] = some s' ∧ s'.pc 1 = .rdHold .L .L ∧
    s'.pc 0 = .wF1 7 .L :=
  ⟨_, _, ⟨false, [(0, .call (.modify 7)), (0, .lock), (0, .ldRL .L), (0, .fBegin .R), (1, .call (.ls 0))], rfl⟩, rfl, rfl, rfl, rfl, rfl⟩

/-- writer 0 waits on a reader registered in L (strict mode: `cl = R`, so waiting on L is allowed); once the reader has
released, the load returns 0 and the second application starts -/
example : ∃ s s', Reachable s ∧ s.strict = true ∧ s.pc 0 = .wWait 7 .L false true ∧ step s 0 (.ldCnt .L 1) = some s ∧
    run s [(1, .call .rel), (1, .dec .L 1), (1, .ret .rel), (0, .ldCnt .L 0), (0, .fBegin .L)] = some s' ∧
    s'.pc 0 = .wF2 7 .L :=
  ⟨_, _, ⟨true, [(1, .call (.ls 0)), (1, .ldCL .L), (1, .inc .L 0), (1, .ldRL .L), (1, .ret (.ls 0)),
         (0, .call (.modify 7)), (0, .lock), (0, .ldRL .L), (0, .fBegin .R), (0, .fEnd .R [7]), (0, .stRL .R), (0, .ldCL .L),
         (0, .ldCnt .R 0), (0, .stCL .R)], rfl⟩, rfl, rfl, rfl, rfl, rfl⟩

/-- strict mode rejects a wait iteration on the counter new readers are directed to (the two loops swapped), which the
safety model accepts -/
example : ∃ s s', Reachable s ∧ Reachable s' ∧ s.strict = true ∧ s'.strict = false ∧ s.pc 0 = .wWait 7 .L false false ∧
    s.cl = .L ∧ step s 0 (.ldCnt .L 1) = none ∧ step s' 0 (.ldCnt .L 1) = some s' :=
  ⟨_, _, ⟨true, [(1, .call (.ls 0)), (1, .ldCL .L), (1, .inc .L 0), (1, .ldRL .L), (1, .ret (.ls 0)),
         (0, .call (.modify 7)), (0, .lock), (0, .ldRL .L), (0, .fBegin .R), (0, .fEnd .R [7]), (0, .stRL .R), (0, .ldCL .L)], rfl⟩,
   ⟨false, [(1, .call (.ls 0)), (1, .ldCL .L), (1, .inc .L 0), (1, .ldRL .L), (1, .ret (.ls 0)),
         (0, .call (.modify 7)), (0, .lock), (0, .ldRL .L), (0, .fBegin .R), (0, .fEnd .R [7]), (0, .stRL .R), (0, .ldCL .L)], rfl⟩,
   rfl, rfl, rfl, rfl, rfl, rfl⟩

/-- a stale reader (counting flag loaded before the writer flipped it) is about to register in the counter the next
modify waits on first -/
example : ∃ s, Reachable s ∧ s.pc 0 = .wWait 8 .R false false ∧ s.pc 1 = .rdCL .L ∧ s.cl = .R :=
  ⟨_, ⟨true, [(1, .call (.ls 0)), (1, .ldCL .L),
         (0, .call (.modify 7)), (0, .lock), (0, .ldRL .L), (0, .fBegin .R), (0, .fEnd .R [7]), (0, .stRL .R), (0, .ldCL .L),
         (0, .ldCnt .R 0), (0, .stCL .R), (0, .ldCnt .L 0), (0, .fBegin .L), (0, .fEnd .L [7]), (0, .unlock), (0, .ret (.modify 7)),
         (0, .call (.modify 8)), (0, .lock), (0, .ldRL .R), (0, .fBegin .L), (0, .fEnd .L [7, 8]), (0, .stRL .L), (0, .ldCL .R)],
      rfl⟩, rfl, rfl, rfl⟩

/-! ## Writer half, without fairness: what terminates and what does not

Environment events (`isEnv`, Proof/LRLive.lean): the calls (`lock_shared`, handle destruction, `modify`), the reads
through a held handle, the end-of-run observation.  A *progress step* (`Prog`) is a non-environment step that changes
the pc of its thread; every other non-environment step is an *idle step of the holder of the write mutex*
(`C14_lr_idle_step_is_spin`): a counter load that returns non-zero (a wait iteration) or a zero seen before, `yld`,
a store of `cl`, a redundant flag load — the stage-B writer model lets it repeat them at will.

A fairness-free "every `modify` terminates" is FALSE, for the model and for the code: while a client keeps a read
handle (or a registered reader is not scheduled) the writer's wait loop goes round for ever without any environment
event (`C14_lr_spin_can_go_on_for_ever`).  What holds for EVERY scheduler:
* `C14_lr_writer_terminates_partial`: no infinite execution consists, from some point on, of progress steps only;
  equivalently (`C14_lr_infinite_means_env_or_spin`) every infinite execution contains, after every point, an
  environment event or an idle step of the mutex holder;
* `C14_lr_spin_fails_only_registered`: a wait iteration (non-zero counter load) happens only while some reader is
  registered in that counter (between its increment and its decrement);
* `C14_lr_thread_cases` / `C14_lr_stuck_means_handles_held` (no deadlock, no livelock between readers and writers):
  in a reachable state in which no thread can make a progress step, every thread inside a call is a client keeping a
  read handle, a writer waiting for a counter ALL of whose registered readers are such clients, or a `modify` waiting
  for the mutex held by such a writer — "a writer is delayed only by read handles that are still held". -/

/-- no infinite execution consists of progress steps only from some point on -/
theorem C14_lr_writer_terminates_partial (x : Live.Exec step) (N : Nat) (ts : List Tid) (hnd : ts.Nodup)
    (hts : ∀ n, N ≤ n → x.who n ∈ ts)
    (hprog : ∀ n, N ≤ n → Prog (x.σ n) (x.who n) (x.ev n) (x.σ (n + 1))) : False :=
  Live.no_infinite_run_rel rankedRel ts hnd x N trivial hts hprog

/-- a non-environment step that is not a progress step is an idle step of the holder of the write mutex -/
theorem C14_lr_idle_step_is_spin {s s' : St} {t : Tid} {e : Ev} (hs : step s t e = some s') (he : isEnv e = false)
    (hn : ¬ Prog s t e s') : (s.pc t).post = true ∧ isWaitEv e = true ∧ s'.pc t = s.pc t := by
  have hpc : s'.pc t = s.pc t := Classical.byContradiction (fun h => hn ⟨he, h⟩)
  exact ⟨(idle_is_holder hs he hpc).1, (idle_is_holder hs he hpc).2, hpc⟩

/-- every infinite execution (threads from a finite set) contains after every point an environment event or an idle
step of the holder of the write mutex -/
theorem C14_lr_infinite_means_env_or_spin (x : Live.Exec step) (N : Nat) (ts : List Tid) (hnd : ts.Nodup)
    (hts : ∀ n, N ≤ n → x.who n ∈ ts) :
    ∃ n, N ≤ n ∧ (isEnv (x.ev n) = true ∨
      (((x.σ n).pc (x.who n)).post = true ∧ isWaitEv (x.ev n) = true ∧
        (x.σ (n + 1)).pc (x.who n) = (x.σ n).pc (x.who n))) := by
  apply Classical.byContradiction
  intro hno
  apply C14_lr_writer_terminates_partial x N ts hnd hts
  intro n hn
  apply Classical.byContradiction
  intro hP
  cases he : isEnv (x.ev n) with
  | true => exact hno ⟨n, hn, .inl he⟩
  | false => exact hno ⟨n, hn, .inr (C14_lr_idle_step_is_spin (x.ok n) he hP)⟩

/-- a wait iteration happens only while a reader is registered in the counter waited for -/
theorem C14_lr_spin_fails_only_registered {s s' : St} (h : Reachable s) {w : Tid} {c : Side} {v : Nat}
    (hs : step s w (.ldCnt c v) = some s') (hv : v ≠ 0) : ∃ r, (s.pc r).regIn = some c := by
  have hi := (full_reachable h).inv
  have hlen : v = (s.reg c).length := by
    cases Step.of_step hs with
    | cntZero => exact absurd rfl hv
    | cntWait | reCnt => rfl
  cases hr : s.reg c with
  | nil => rw [hr] at hlen; exact absurd hlen hv
  | cons r rest => exact ⟨r, (hi.mem r c).1 (by rw [hr]; simp)⟩

/-- every thread of a reachable state: idle, able to make a progress step, a client keeping a read handle, a
`modify` waiting for the write mutex, or a writer all of whose unseen counters have registered readers -/
theorem C14_lr_thread_cases {s : St} (h : Reachable s) (t : Tid) :
    s.pc t = .idle ∨ CanProg s t ∨ (∃ c, HoldsHandle s t c) ∨
    (∃ op, s.pc t = .wCalled op ∧ ∃ w, s.mtx = some w) ∨ WriterWaits s t :=
  thread_cases (full_reachable h).inv t

/-- a writer that cannot make a progress step waits for a counter all of whose registered readers — and there is
at least one — are clients keeping a read handle, provided no reader can make a progress step either -/
theorem C14_lr_waiting_writer_blockers {s : St} (h : Reachable s) (hstuck : ∀ u, ¬ CanProg s u) {w : Tid}
    (hw : WriterWaits s w) :
    ∃ c, s.reg c ≠ [] ∧ ∀ r, r ∈ s.reg c → HoldsHandle s r c := by
  have hi := (full_reachable h).inv
  obtain ⟨op, l, zL, zR, _, ⟨c, hc⟩, hall⟩ := hw
  refine ⟨c, hall c hc, fun r hr => ?_⟩
  have hreg := (hi.mem r c).1 hr
  rcases thread_cases hi r with h1 | h1 | ⟨c', x, h1⟩ | ⟨op', h1, _⟩ | ⟨op', l', a, b, h1, _⟩
  · rw [h1] at hreg; cases hreg
  · exact absurd h1 (hstuck r)
  · rw [h1] at hreg; cases hreg; exact ⟨x, h1⟩
  · rw [h1] at hreg; cases hreg
  · rw [h1] at hreg; cases hreg

/-- **no deadlock, no livelock between readers and writers**: in a reachable state in which no thread can make a
progress step, every thread inside a call is a client keeping a read handle, or a writer waiting for a counter all
of whose (at least one) registered readers are such clients, or a `modify` waiting for the write mutex held by such
a writer -/
theorem C14_lr_stuck_means_handles_held {s : St} (h : Reachable s) (hstuck : ∀ u, ¬ CanProg s u) (t : Tid)
    (ht : s.pc t ≠ .idle) :
    (∃ c, HoldsHandle s t c) ∨
    ((WriterWaits s t ∨ ∃ op w, s.pc t = .wCalled op ∧ s.mtx = some w ∧ WriterWaits s w) ∧
      ∃ c, s.reg c ≠ [] ∧ ∀ r, r ∈ s.reg c → HoldsHandle s r c) := by
  have hi := (full_reachable h).inv
  rcases thread_cases hi t with h1 | h1 | h1 | ⟨op, h1, w, hw⟩ | h1
  · exact absurd h1 ht
  · exact absurd h1 (hstuck t)
  · exact Or.inl h1
  · have hpost := (hi.holder w).2 hw
    have hww : WriterWaits s w := by
      rcases thread_cases hi w with h2 | h2 | ⟨c, x, h2⟩ | ⟨op', h2, _⟩ | h2
      · rw [h2] at hpost; cases hpost
      · exact absurd h2 (hstuck w)
      · rw [h2] at hpost; cases hpost
      · rw [h2] at hpost; cases hpost
      · exact h2
    exact Or.inr ⟨Or.inr ⟨op, w, h1, hw, hww⟩, C14_lr_waiting_writer_blockers h hstuck hww⟩
  · exact Or.inr ⟨Or.inl h1, C14_lr_waiting_writer_blockers h hstuck h1⟩

/-- … so once no handle is kept and nobody can make a progress step, every thread has returned -/
theorem C14_lr_stuck_no_handle_all_returned {s : St} (h : Reachable s) (hstuck : ∀ u, ¬ CanProg s u)
    (hnh : ∀ u c, ¬ HoldsHandle s u c) (t : Tid) : s.pc t = .idle := by
  apply Classical.byContradiction
  intro ht
  rcases C14_lr_stuck_means_handles_held h hstuck t ht with ⟨c, h1⟩ | ⟨_, c, hne, hall⟩
  · exact hnh t c h1
  · cases hr : s.reg c with
    | nil => exact hne hr
    | cons r rest => exact hnh r c (hall r (by rw [hr]; simp))

/-- why the exception is needed: with a read handle kept, the writer's wait iteration is a self-loop of the state —
an infinite execution without any environment event (non-strict and strict mode alike) -/
theorem C14_lr_spin_can_go_on_for_ever :
    ∃ s, Reachable s ∧ s.strict = true ∧ (∃ c, HoldsHandle s 1 c) ∧ WriterWaits s 0 ∧
      step s 0 (.ldCnt .L 1) = some s ∧ step s 0 .yld = some s ∧ isEnv (.ldCnt .L 1) = false :=
  ⟨_, ⟨true, [(1, .call (.ls 0)), (1, .ldCL .L), (1, .inc .L 0), (1, .ldRL .L), (1, .ret (.ls 0)),
         (0, .call (.modify 7)), (0, .lock), (0, .ldRL .L), (0, .fBegin .R), (0, .fEnd .R [7]), (0, .stRL .R), (0, .ldCL .L),
         (0, .ldCnt .R 0), (0, .stCL .R)], rfl⟩, rfl, ⟨.L, .L, rfl⟩,
   ⟨7, .L, false, true, rfl, ⟨.L, rfl⟩, by intro c hc; cases c <;> simp [zOf] at hc; decide⟩, rfl, rfl, rfl⟩

/-- non-vacuity of the progress side: in that state the reader's client releases the handle (environment), after
which reader and writer make progress steps only and everybody returns; total rank 8 + 0 before -/
example : ∃ s s', Reachable s ∧ μ s 0 = 8 ∧ μ s 1 = 0 ∧
    run s [(1, .call .rel), (1, .dec .L 1), (1, .ret .rel), (0, .ldCnt .L 0), (0, .fBegin .L), (0, .fEnd .L [7]),
           (0, .unlock), (0, .ret (.modify 7))] = some s' ∧ s'.pc 0 = .idle ∧ s'.pc 1 = .idle :=
  ⟨_, _, ⟨true, [(1, .call (.ls 0)), (1, .ldCL .L), (1, .inc .L 0), (1, .ldRL .L), (1, .ret (.ls 0)),
         (0, .call (.modify 7)), (0, .lock), (0, .ldRL .L), (0, .fBegin .R), (0, .fEnd .R [7]), (0, .stRL .R), (0, .ldCL .L),
         (0, .ldCnt .R 0), (0, .stCL .R)], rfl⟩, rfl, rfl, rfl, rfl, rfl⟩

end ConcVerif.LR
