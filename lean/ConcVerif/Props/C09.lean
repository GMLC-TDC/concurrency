import ConcVerif.Proof.Barrier
import ConcVerif.Proof.BarrierLive
import ConcVerif.Proof.BarrierCalls
/-! # C09 — Barrier releases a generation only when every participant has arrived

All statements are over `Reachable P s`: every accepted event sequence of the model in
`Model/Barrier.lean` started with an arbitrary duplicate-free list `P` of participating threads
(`Barrier(P.length)`): any number of participants, any number of generations, any interleaving, any
subset dropping out (`wait_and_drop`) at any generation, any number of spurious wake-ups.  No bound.

Vocabulary (ghost fields of the model): `s.arr t` = number of arrivals thread `t` has made (calls of
`wait`/`wait_and_drop` whose `--count_` has been executed); `s.parts` = current participants = `P`
minus the threads whose `wait_and_drop` arrival has been counted (`C09_parts_change`);
`s.pending` = current participants that have not yet arrived in the current generation.
A thread in the wait loop (`Pc.waiting`: inside `cv.wait` or just woken) is *released* when the
predicate of the real `cv.wait(lck, pred)` is true: `s.generation ≠ s.lGen t`. -/
namespace ConcVerif.Barrier


/-! ## C09_release_iff — return from the n-th arrival ⇔ every current participant arrived n times -/

/-- Soundness of a return: when a thread returns from its n-th arrival (`n = s.arr t`) the barrier
has completed generation n and every current participant has arrived at least n times. -/
theorem C09_return_sound {P : List Tid} (hP : P.Nodup) {s s' : St} {t : Tid} {k : Kind}
    (h : Reachable P s) (hs : step s t (.ret k) = some s') :
    s.arr t ≤ s.generation ∧ ∀ u, u ∈ s.parts → s.arr t ≤ s.arr u := by
  have hi := inv_reachable hP h
  cases Step.of_step hs with
  | ret hp =>
    have hd := hi.done t (hp ▸ rfl)
    exact ⟨hd, fun u hu => Nat.le_trans hd (hi.arr_bounds hu).1⟩

/-- The wait-loop predicate is exactly the property: a thread that has made its n-th arrival and is in
the wait loop is released (`generation ≠ lGen`, the only condition under which the model lets it
leave the loop, see `C09_leave_only_released`) if and only if every current participant has made its
n-th arrival. -/
theorem C09_release_iff {P : List Tid} (hP : P.Nodup) {s : St} {t : Tid} (h : Reachable P s)
    (hw : (s.pc t).waiting = true) :
    s.generation ≠ s.lGen t ↔ ∀ u, u ∈ s.parts → s.arr t ≤ s.arr u := by
  have hi := inv_reachable hP h
  have hg := hi.waitg t hw
  constructor
  · -- released: the generation `t` arrived in is complete, and everybody has arrived at least `generation` times
    exact fun hne u hu => Nat.le_trans (hg.1 ▸ Nat.lt_of_le_of_ne hg.2 (Ne.symm hne)) (hi.arr_bounds hu).1
  · -- not released: somebody is still pending, with one arrival less than `t`
    intro hall heq
    obtain ⟨u, hup⟩ := List.exists_mem_of_ne_nil _ (hi.live t hw heq.symm)
    have h1 := hall u (hi.sub u hup)
    rw [hi.arrP u (hi.sub u hup), if_pos hup, hg.1, heq] at h1
    exact Nat.not_succ_le_self _ h1

/-- the wait loop is left (`mul` after a wake-up) only by a released thread, and a released thread
never re-enters `cv.wait` -/
theorem C09_leave_only_released {s s' : St} {t : Tid} {k : Kind} {e : Ev} (hp : s.pc t = .woken k)
    (hs : step s t e = some s') :
    (e = .plain ∧ s' = s) ∨ (∃ o, e = .mul o ∧ s.generation ≠ s.lGen t ∧ s'.pc t = .unlocked k) ∨
    (∃ o, e = .cwt o ∧ s.generation = s.lGen t ∧ s'.pc t = .sleep k) := by
  cases Step.of_step hs with
  | plain => exact .inl ⟨rfl, rfl⟩
  | rewait hp' _ hg => cases hp.symm.trans hp'; exact .inr (.inr ⟨_, rfl, hg, setPc_self ..⟩)
  | leave hp' _ hg => cases hp.symm.trans hp'; exact .inr (.inl ⟨_, rfl, hg, setPc_self ..⟩)
  | _ => cases hp.symm.trans ‹s.pc t = _›

/-- A generation is released exactly by the arrival of the LAST pending participant: at a
`notify_all` every other current participant has already arrived in this generation; afterwards every
remaining participant has arrived exactly `generation` times, the count is reset to the number of
remaining participants and the wait set is empty. -/
theorem C09_release_complete {P : List Tid} (hP : P.Nodup) {s s' : St} {t : Tid} (h : Reachable P s)
    (hs : step s t .cna = some s') :
    s.pending = [t] ∧ s.arr t = s.generation ∧ (∀ u, u ∈ s.parts → u ≠ t → s.arr u = s.generation + 1) ∧
    s'.generation = s.generation + 1 ∧ (∀ u, u ∈ s'.parts → s'.arr u = s'.generation) ∧
    s'.count = s'.parts.length ∧ s'.pending = s'.parts ∧ s'.waiters = [] := by
  have hi := inv_reachable hP h
  have hi' := inv_step s t .cna s' hi hs
  cases Step.of_step hs with
  | @release k hp _ hc =>
    obtain ⟨hpe, hq, ha⟩ := locked_facts hi hp
    have hpend := pending_eq hi hpe hc
    refine ⟨hpend, ha, fun u hu hne => ?_, rfl, fun u hu => ?_, hi'.cnt, rfl, rfl⟩
    · have := hi.arrP u hu
      rwa [if_neg (by rw [hpend]; exact fun hin => hne (List.mem_singleton.1 hin))] at this
    · exact (hi'.arrP u hu).trans (congrArg (_ + ·) (if_pos hu))

/-! ## C09_no_lost_wakeup -/

/-- No lost wake-up: whoever is in the condition variable's wait set is waiting for the CURRENT
generation.  (The bump of the generation and `notify_all` are one critical section: there is no
window.) -/
theorem C09_no_lost_wakeup {P : List Tid} (hP : P.Nodup) {s : St} {t : Tid} (h : Reachable P s)
    (hw : t ∈ s.waiters) : s.lGen t = s.generation ∧ ∃ k, s.pc t = .sleep k := by
  have hi := inv_reachable hP h
  exact ⟨(hi.sleepers t hw).2, (hi.sleepers t hw).1⟩

/-- … hence once every current participant has made its n-th arrival, no thread that waits for that
arrival is left in the wait set: it only needs the mutex to leave `cv.wait`. -/
theorem C09_all_arrived_not_waiting {P : List Tid} (hP : P.Nodup) {s : St} {t : Tid} (h : Reachable P s)
    (hw : (s.pc t).waiting = true) (hall : ∀ u, u ∈ s.parts → s.arr t ≤ s.arr u) : t ∉ s.waiters := by
  intro hin
  exact (C09_release_iff hP h hw).2 hall (C09_no_lost_wakeup hP h hin).1.symm

/-! ## C09_drop -/

/-- the participant set changes only at the arrival of a `wait_and_drop` call, which removes the
caller; the threshold is the number of current participants, the count the number of those that have
not yet arrived in the current generation -/
theorem C09_parts_change {s s' : St} {t : Tid} {e : Ev} (hs : step s t e = some s') :
    s'.parts = s.parts ∨ (s.pc t = .locked .drop ∧ (e = .cna ∨ ∃ o, e = .cwt o) ∧ s'.parts = s.parts.erase t) := by
  cases Step.of_step hs with
  | @release k hp =>
    cases k
    · exact .inl rfl
    · exact .inr ⟨hp, .inl rfl, rfl⟩
  | @arrive k o hp =>
    cases k
    · exact .inl rfl
    · exact .inr ⟨hp, .inr ⟨o, rfl⟩, rfl⟩
  | _ => exact .inl rfl

theorem C09_threshold_count {P : List Tid} (hP : P.Nodup) {s : St} (h : Reachable P s) :
    s.threshold = s.parts.length ∧ s.count = s.pending.length ∧ (∀ u, u ∈ s.pending → u ∈ s.parts) := by
  have hi := inv_reachable hP h
  exact ⟨hi.thr, hi.cnt, hi.sub⟩

/-- `wait_and_drop` is an arrival of the CURRENT generation (the caller's arrival count goes from
`generation` to `generation + 1`; it either completes the generation or is counted in `count_`), the
caller stops being a participant, and from now on every generation needs one arrival less. -/
theorem C09_drop {P : List Tid} (hP : P.Nodup) {s s' : St} {t : Tid} {e : Ev} (h : Reachable P s)
    (hp : s.pc t = .locked .drop) (he : e = .cna ∨ ∃ o, e = .cwt o) (hs : step s t e = some s') :
    s.arr t = s.generation ∧ s'.arr t = s.generation + 1 ∧ t ∈ s.parts ∧
    s'.parts = s.parts.erase t ∧ t ∉ s'.parts ∧ s'.threshold + 1 = s.threshold ∧
    s'.threshold = s'.parts.length ∧
    ((e = .cna ∧ s'.generation = s.generation + 1 ∧ s'.count = s'.threshold) ∨
     ((∃ o, e = .cwt o) ∧ s'.generation = s.generation ∧ s'.count + 1 = s.count ∧ t ∉ s'.pending)) := by
  have hi := inv_reachable hP h
  have hi' := inv_step s t e s' hi hs
  obtain ⟨hpe, hq, ha⟩ := locked_facts hi hp
  have hthr := hi.thr
  have hpos := List.length_pos_of_mem hq
  have hout : t ∉ s.parts.erase t := hi.ndP.not_mem_erase
  rcases he with rfl | ⟨o, rfl⟩
  · cases Step.of_step hs with
    | release hp' =>
      cases hp.symm.trans hp'
      exact ⟨ha, (upd_same ..).trans (congrArg (· + 1) ha), hq, rfl, hout, Nat.sub_add_cancel (hthr ▸ hpos), hi'.thr,
        .inl ⟨rfl, rfl, rfl⟩⟩
  · cases Step.of_step hs with
    | rewait hp' => cases hp.symm.trans hp'
    | arrive hp' _ hc =>
      cases hp.symm.trans hp'
      exact ⟨ha, (upd_same ..).trans (congrArg (· + 1) ha), hq, rfl, hout, Nat.sub_add_cancel (hthr ▸ hpos), hi'.thr,
        .inr ⟨⟨_, rfl⟩, rfl, Nat.sub_add_cancel (Nat.le_of_succ_le hc), hi.ndQ.not_mem_erase⟩⟩

/-- a thread that has dropped out stays out: it cannot call again (client obligation enforced by the
model) and nobody re-enters the participant set -/
theorem C09_dropped_stays_out {s s' : St} {t u : Tid} {e : Ev} (hu : u ∉ s.parts) (hs : step s t e = some s') :
    u ∉ s'.parts ∧ ∀ k, step s u (.call k) = none := by
  refine ⟨?_, fun k => ?_⟩
  · rcases C09_parts_change hs with h | ⟨_, _, h⟩
    · rw [h]; exact hu
    · rw [h]; exact fun hin => hu (List.mem_of_mem_erase hin)
  · cases h : step s u (.call k) with
    | none => rfl
    | some s' => cases Step.of_step h with | call _ hin => exact absurd hin hu

/-! ## C09_lapping — fast re-entering threads -/

/-- every arrival, whoever makes it and however early it re-enters, is an arrival of the generation
that is current when it is counted, made by a thread that has not yet arrived in it; if it does not
complete the generation the thread waits for exactly that generation -/
theorem C09_lapping_arrival {P : List Tid} (hP : P.Nodup) {s s' : St} {t : Tid} {k : Kind} {e : Ev}
    (h : Reachable P s) (hp : s.pc t = .locked k) (he : e ≠ .plain) (hs : step s t e = some s') :
    s.arr t = s.generation ∧ t ∈ s.pending ∧ s'.arr t = s.generation + 1 ∧
    (e = .cna ∨ ((∃ o, e = .cwt o) ∧ s'.lGen t = s.generation ∧ s'.generation = s.generation ∧ t ∈ s'.waiters)) := by
  have hi := inv_reachable hP h
  obtain ⟨hpe, _, ha⟩ := locked_facts hi hp
  cases Step.of_step hs with
  | release => exact ⟨ha, hpe, (upd_same ..).trans (congrArg (· + 1) ha), .inl rfl⟩
  | arrive => exact ⟨ha, hpe, (upd_same ..).trans (congrArg (· + 1) ha), .inr ⟨⟨_, rfl⟩, upd_same .., rfl, List.mem_cons_self⟩⟩
  | plain => exact absurd rfl he
  | _ => cases hp.symm.trans ‹s.pc t = _›

/-- a fast thread cannot release the wrong generation: when a generation is released no current
participant is still in the wait loop of an EARLIER generation — every participant found in the wait
loop has re-arrived and waits for the generation being released -/
theorem C09_lapping_no_early_release {P : List Tid} (hP : P.Nodup) {s s' : St} {t u : Tid}
    (h : Reachable P s) (hs : step s t .cna = some s') (hu : u ∈ s.parts)
    (hw : (s.pc u).waiting = true) : s.lGen u = s.generation := by
  have hi := inv_reachable hP h
  obtain ⟨hpend, _, hall, _⟩ := C09_release_complete hP h hs
  have hne : u ≠ t := by
    rintro rfl
    cases Step.of_step hs with | release hp => rw [hp] at hw; cases hw
  exact Nat.succ.inj ((hi.waitg u hw).1.symm.trans (hall u hu hne))

/-- the barrier never runs more than one generation ahead of a participant that is still in the wait
loop (so `lGen != generation_` can never become false again by a lap) -/
theorem C09_lapping_bound {P : List Tid} (hP : P.Nodup) {s : St} {t : Tid} (h : Reachable P s)
    (ht : t ∈ s.parts) (hw : (s.pc t).waiting = true) :
    s.lGen t ≤ s.generation ∧ s.generation ≤ s.lGen t + 1 := by
  have hi := inv_reachable hP h
  have hg := hi.waitg t hw
  exact ⟨hg.2, hg.1 ▸ (hi.arr_bounds ht).1⟩

def Pc.passed : Pc → Bool
  | .notified _ | .unlocked _ => true
  | _ => false

/-- thread `t` has passed the barrier in its current call: it released the generation itself, or it
has left the wait loop, or it is in the wait loop and its generation has been released -/
def St.released (s : St) (t : Tid) : Prop :=
  (s.pc t).passed = true ∨ ((s.pc t).waiting = true ∧ s.generation ≠ s.lGen t)

theorem not_released {s : St} {t : Tid} {p : Pc} (hp : s.pc t = p) (h1 : p.passed = false) (h2 : p.waiting = false) :
    ¬ s.released t := by
  rw [St.released, hp, h1, h2]; exact fun h => h.elim nofun (nomatch ·.1)

theorem St.released.gen_ne {s : St} {t : Tid} {p : Pc} (h : s.released t) (hp : s.pc t = p) (h1 : p.passed = false) :
    s.generation ≠ s.lGen t :=
  h.elim (fun h => by rw [hp, h1] at h; cases h) (·.2)

/-- a slow thread cannot be "un-released" by fast threads: whatever the other threads do (re-enter,
arrive for later generations, release them, drop) a released thread stays released until it returns -/
theorem C09_lapping_released_stable {P : List Tid} (hP : P.Nodup) {s s' : St} {t u : Tid} {e : Ev}
    (h : Reachable P s) (hr : s.released t) (hs : step s u e = some s') :
    s'.released t ∨ (u = t ∧ s'.pc t = .idle) := by
  have hi := inv_reachable hP h
  have hs := Step.of_step hs
  by_cases hu : u = t
  · subst hu
    -- own steps: a released thread moves on towards its return, it never re-enters `cv.wait`
    have pc' : ∀ {s'' : St} {p : Pc}, p.passed = true → (s''.setPc u p).released u :=
      fun hp => .inl (by rw [setPc_self]; exact hp)
    cases hs with
    | plain => exact .inl hr
    | pass | leave => exact .inl (pc' rfl)
    | ret => exact .inr ⟨rfl, setPc_self ..⟩
    | rewait hp _ hg => exact absurd hg (hr.gen_ne hp rfl)
    | notified hp | spurious hp => exact .inl (.inr ⟨by rw [setPc_self]; rfl, hr.gen_ne hp rfl⟩)
    | _ => exact absurd hr (not_released ‹s.pc u = _› rfl rfl)
  · left
    -- steps of others: the pc and `lGen` of `t` stay, the generation only grows, and `lGen t ≤ generation`
    obtain ⟨hpc, hlg, _⟩ := hs.frame (Ne.symm hu)
    have hmono := hs.gen_mono
    rcases hr with hr | ⟨hw, hne⟩
    · left; rw [hpc]; exact hr
    · right; rw [hpc, hlg]
      exact ⟨hw, fun e => hne (Nat.le_antisymm (e ▸ hmono) (hi.waitg t hw).2)⟩

/-! ## L2–L4: the holder is never blocked, a released thread has a bounded way out, who is blocked waits for an arrival -/

/-- events that are real progress of the protocol: not a plain field access (stutter), not a spurious
wake-up (which the environment may or may not supply) -/
def Ev.progress : Ev → Bool
  | .plain => false
  | .cwk .spurious => false
  | _ => true

/-- (L2) the holder of the mutex always has an enabled protocol step: it is never blocked
(`cv.wait` releases the mutex). -/
theorem C09_holder_enabled {P : List Tid} (hP : P.Nodup) {s : St} {t : Tid} (h : Reachable P s)
    (hm : s.mtx = some t) : ∃ e, isEnv e = false ∧ (step s t e).isSome = true :=
  have hi := inv_reachable hP h
  have hh := (hi.holder t).2 hm
  protocol_enabled hP h (fun hid => nomatch (hid ▸ hh : Pc.holds .idle = true))
    (not_waiting hi fun k hk => nomatch (hk ▸ hh : Pc.holds (.sleep k) = true)) (.inr hm)

/-- remaining protocol steps of a thread that has passed the barrier -/
def Pc.rem : Pc → Nat
  | .sleep _ => 3
  | .woken _ => 2
  | .notified _ => 2
  | .unlocked _ => 1
  | _ => 0

/-- (L3) every own step of a released thread is either a plain field access (which changes nothing;
the real code performs finitely many between two primitive operations) or strictly decreases a
measure bounded by 3: wake up, unlock, return — it never re-enters `cv.wait`. -/
theorem C09_released_bounded {s s' : St} {t : Tid} {e : Ev}
    (hr : s.released t) (hs : step s t e = some s') :
    (e = .plain ∧ s' = s) ∨ (s'.pc t).rem < (s.pc t).rem := by
  cases Step.of_step hs with
  | plain => exact .inl ⟨rfl, rfl⟩
  | rewait hp _ hg => exact absurd hg (hr.gen_ne hp rfl)
  | pass hp | leave hp | notified hp | spurious hp | ret hp => right; rw [setPc_self, hp]; exact Nat.lt_add_one _
  | _ => exact absurd hr (not_released ‹s.pc t = _› rfl rfl)

/-- (L1 + L4) a released thread has an enabled protocol step whenever the mutex is free or its own:
it is not in the wait set (no lost wake-up), so it can only be delayed by a mutex holder, and holders
are never blocked (`C09_holder_enabled`). -/
theorem C09_released_enabled {P : List Tid} (hP : P.Nodup) {s : St} {t : Tid} (h : Reachable P s)
    (hr : s.released t) (hm : s.mtx = none ∨ s.mtx = some t) :
    ∃ e, isEnv e = false ∧ (step s t e).isSome = true :=
  -- whoever is in the wait set waits for the current generation, so is not released
  protocol_enabled hP h (fun hid => not_released hid rfl rfl hr)
    (fun hin => have ⟨⟨_, hk⟩, hg⟩ := (inv_reachable hP h).sleepers t hin; hr.gen_ne hk rfl hg.symm) hm

/-- (L4) the only way a thread inside the barrier can be without an enabled protocol step while the
mutex is available is the intended one: it sits in the wait set, waiting for the current generation,
and some participant has not arrived yet. -/
theorem C09_blocked_only_on_pending {P : List Tid} (hP : P.Nodup) {s : St} {t : Tid} (h : Reachable P s)
    (hni : s.pc t ≠ .idle) (hm : s.mtx = none ∨ s.mtx = some t) :
    (∃ e, isEnv e = false ∧ (step s t e).isSome = true) ∨
    (t ∈ s.waiters ∧ s.lGen t = s.generation ∧ s.pending ≠ []) := by
  have hi := inv_reachable hP h
  by_cases hin : t ∈ s.waiters
  · have ⟨⟨_, hk⟩, hg⟩ := hi.sleepers t hin
    exact .inr ⟨hin, hg, hi.live t (hk ▸ rfl) hg⟩
  · exact .inl (protocol_enabled hP h hni hin hm)

/-- (L4) a participant that still has to arrive in the current generation is never blocked inside the
barrier: it is outside (the client has to call) or it has an enabled protocol step as soon as the
mutex is free. -/
theorem C09_pending_not_blocked {P : List Tid} (hP : P.Nodup) {s : St} {u : Tid} (h : Reachable P s)
    (hu : u ∈ s.pending) (hm : s.mtx = none ∨ s.mtx = some u) :
    s.pc u = .idle ∨ ∃ e, isEnv e = false ∧ (step s u e).isSome = true := by
  -- a pending participant has not arrived in this generation, so it is not in the wait set
  have hi := inv_reachable hP h
  refine (Classical.em (s.pc u = .idle)).imp_right fun hid =>
    (C09_blocked_only_on_pending hP h hid hm).resolve_right fun ⟨hin, hg, _⟩ => ?_
  have ha := hi.arrP u (hi.sub u hu)
  rw [if_pos hu] at ha
  obtain ⟨⟨k, hk⟩, _⟩ := hi.sleepers u hin
  exact absurd (hg ▸ (hi.waitg u (hk ▸ rfl)).1.symm.trans ha) (Nat.succ_ne_self _)

theorem Ev.progress_of_not_env {e : Ev} (h : isEnv e = false) : e.progress = true := by
  cases e with
  | cwk r =>
    cases r
    · rfl
    · cases h
  | call => cases h
  | plain => cases h
  | _ => rfl

/-- deadlock-freedom, with the enabled step a protocol step -/
theorem deadlock_free_protocol {P : List Tid} (hP : P.Nodup) {s : St} (h : Reachable P s)
    (hin : ∃ t, s.pc t ≠ .idle) :
    (∃ t e, isEnv e = false ∧ (step s t e).isSome = true) ∨ (∃ u, u ∈ s.pending ∧ s.pc u = .idle) := by
  cases hm : s.mtx with
  | some t => obtain ⟨e, he⟩ := C09_holder_enabled hP h hm; exact Or.inl ⟨t, e, he⟩
  | none =>
    obtain ⟨t, ht⟩ := hin
    rcases C09_blocked_only_on_pending hP h ht (Or.inl hm) with ⟨e, he⟩ | ⟨_, _, hne⟩
    · exact Or.inl ⟨t, e, he⟩
    · obtain ⟨u, hu⟩ := List.exists_mem_of_ne_nil _ hne
      rcases C09_pending_not_blocked hP h hu (Or.inl hm) with hid | ⟨e, he⟩
      · exact Or.inr ⟨u, hu, hid⟩
      · exact Or.inl ⟨u, e, he⟩

/-- (L4) deadlock-freedom: if some thread is inside the barrier then some thread has an enabled
protocol step, unless everybody inside waits for a participant that is outside the barrier (then it
is the client's turn to call `wait`/`wait_and_drop` for it). -/
theorem C09_deadlock_free {P : List Tid} (hP : P.Nodup) {s : St} (h : Reachable P s)
    (hin : ∃ t, s.pc t ≠ .idle) :
    (∃ t e, e.progress = true ∧ (step s t e).isSome = true) ∨ (∃ u, u ∈ s.pending ∧ s.pc u = .idle) :=
  (deadlock_free_protocol hP h hin).imp_left fun ⟨t, e, he, hs⟩ => ⟨t, e, Ev.progress_of_not_env he, hs⟩

/-! ## Non-vacuity: concrete accepted traces reach the hypotheses of the theorems above.

Two participants.  Thread 1 arrives first and sleeps; thread 2 completes generation 0, returns,
re-enters at once with `wait_and_drop` (lapping thread 1, which has not even woken up yet) and sleeps
for generation 1; thread 1 wakes up (spuriously woken threads re-wait, see the second trace), returns,
arrives again and — being the only participant left — releases generation 1. -/
def witnessTrace : List (Tid × Ev) :=
  [(1, .call .wait), (1, .mlk), (1, .plain), (1, .cwt ⟨none, some 1, some 0⟩),
   (2, .call .wait), (2, .mlk), (2, .plain), (2, .cna), (2, .mul ⟨some 2, some 2, some 1⟩), (2, .ret .wait),
   (2, .call .drop), (2, .mlk), (2, .plain), (2, .cwt ⟨some 1, some 1, some 1⟩),
   (1, .cwk .notified), (1, .plain), (1, .mul ⟨some 1, some 1, some 1⟩), (1, .ret .wait),
   (1, .call .wait), (1, .mlk), (1, .cna), (1, .mul ⟨some 1, some 1, some 2⟩), (1, .ret .wait),
   (2, .cwk .notified), (2, .mul ⟨some 1, some 1, some 2⟩)]

/-- thread 2 is about to return from its 2nd arrival (the drop): generation 2 is complete, thread 1
(the only remaining participant) has arrived twice, the threshold is 1 -/
example : ∃ s, Reachable [1, 2] s ∧ (step s 2 (.ret .drop)).isSome = true ∧ s.arr 2 = 2 ∧ s.arr 1 = 2 ∧
    s.generation = 2 ∧ s.parts = [1] ∧ s.threshold = 1 ∧ s.count = 1 :=
  ⟨_, ⟨witnessTrace, rfl⟩, by decide, by decide, by decide, by decide, by decide, by decide, by decide⟩

/-- lapping is real: after 14 events thread 2 has re-entered and sleeps for generation 1 while thread 1
is still inside `cv.wait` of generation 0 — released (`generation ≠ lGen`), not in the wait set -/
example : ∃ s, Reachable [1, 2] s ∧ s.pc 1 = .sleep .wait ∧ s.lGen 1 = 0 ∧ s.generation = 1 ∧
    s.released 1 ∧ s.waiters = [2] ∧ s.pc 2 = .sleep .drop ∧ s.lGen 2 = 1 ∧ s.parts = [1] ∧ s.pending = [1] :=
  ⟨_, ⟨witnessTrace.take 14, rfl⟩, by decide, by decide, by decide, Or.inr ⟨by decide, by decide⟩, by decide,
    by decide, by decide, by decide, by decide⟩

/-- the hypothesis of `C09_drop` / `C09_lapping_arrival` is reachable (thread 2 at its drop arrival) -/
example : ∃ s, Reachable [1, 2] s ∧ s.pc 2 = .locked .drop ∧
    (step s 2 (.cwt ⟨some 1, some 1, some 1⟩)).isSome = true :=
  ⟨_, ⟨witnessTrace.take 12, rfl⟩, by decide, by decide⟩

/-- the hypothesis of `C09_release_complete` is reachable (thread 1 releasing generation 1) -/
example : ∃ s, Reachable [1, 2] s ∧ (step s 1 .cna).isSome = true ∧ s.generation = 1 :=
  ⟨_, ⟨witnessTrace.take 20, rfl⟩, by decide, by decide⟩

/-- spurious wake-ups are ordinary events: thread 1 is woken spuriously, finds the generation
unchanged, re-waits, and is still waiting for the current generation in the wait set -/
example : ∃ s, Reachable [1, 2] s ∧ s.pc 1 = .sleep .wait ∧ s.waiters = [1] ∧ s.lGen 1 = s.generation ∧
    ¬ s.released 1 :=
  ⟨_, ⟨[(1, .call .wait), (1, .mlk), (1, .plain), (1, .cwt ⟨none, some 1, some 0⟩), (1, .cwk .spurious),
        (1, .plain), (1, .cwt ⟨none, some 1, some 0⟩)], rfl⟩, by decide, by decide, by decide,
    fun h => by rcases h with h | ⟨_, h⟩ <;> revert h <;> decide⟩

/-- three participants: threads 1 and 2 sleep for generation 0, thread 3 is about to release it — the
hypotheses of `C09_lapping_no_early_release` (u = 1) and of `C09_release_complete` hold together -/
example : ∃ s, Reachable [1, 2, 3] s ∧ (step s 3 .cna).isSome = true ∧ 1 ∈ s.parts ∧
    (s.pc 1).waiting = true ∧ s.waiters = [2, 1] ∧ s.pending = [3] :=
  ⟨_, ⟨[(1, .call .wait), (1, .mlk), (1, .cwt ⟨none, some 2, some 0⟩), (2, .call .wait), (3, .call .wait),
        (2, .mlk), (2, .plain), (2, .cwt ⟨none, some 1, some 0⟩), (3, .mlk)], rfl⟩,
    by decide, by decide, by decide, by decide, by decide⟩

/-! ## Termination: a released generation really is released — for every scheduler

`C09_terminates`: an execution in which, from some point on, no `call`, no plain field access and no
spurious wake-up occurs cannot be infinite (every other event strictly lowers the summed rank of the
threads, Base/Live.lean) — so with finitely many calls, finitely many spurious wake-ups and
straight-line plain accesses every execution is finite, whatever the scheduler does.
`C09_stuck_owes_arrival`: when no protocol step is enabled although some thread is inside the barrier,
a current participant that has not yet arrived in the current generation is OUTSIDE the barrier: the
client owes its call.  Together: every maximal execution ends either with everybody returned or
waiting for an arrival the client still owes — nobody is left blocked on a completed generation. -/

theorem C09_terminates {P : List Tid} (hP : P.Nodup) (x : Live.Exec step) (N : Nat)
    (hr : Reachable P (x.σ N)) (ts : List Tid) (hnd : ts.Nodup) (hts : ∀ n, N ≤ n → x.who n ∈ ts)
    (hnc : ∀ n, N ≤ n → isEnv (x.ev n) = false) : False :=
  Live.no_infinite_run ranked ts hnd x N (good_reachable hP hr) hts hnc

/-- quantitative form: a trace with `c` environment events (calls, plain accesses, spurious wake-ups)
has at most `(total rank at its start) + 8·c` events -/
theorem C09_bounded_run {P : List Tid} (hP : P.Nodup) {s s' : St} (hr : Reachable P s)
    (ts : List Tid) (hnd : ts.Nodup) {es : List (Tid × Ev)} (hts : ∀ y ∈ es, y.1 ∈ ts)
    (hrun : runFrom step s es = some s') :
    es.length + Live.total μ ts s' ≤ Live.total μ ts s + 8 * Live.calls isEnv es :=
  Live.bounded_run ranked ts hnd (good_reachable hP hr) hts hrun

/-- if no protocol (non-environment) step is enabled and some thread is inside the barrier, then some
participant still pending for the current generation is outside the barrier (the client owes its call) -/
theorem C09_stuck_owes_arrival {P : List Tid} (hP : P.Nodup) {s : St} (h : Reachable P s)
    (hin : ∃ t, s.pc t ≠ .idle)
    (hstuck : ∀ u e, isEnv e = false → (step s u e).isSome = false) :
    ∃ u, u ∈ s.pending ∧ s.pc u = .idle :=
  (deadlock_free_protocol hP h hin).resolve_left fun ⟨u, e, he, hs⟩ => by rw [hstuck u e he] at hs; cases hs

/-! ## The ghost arrival counter is tied to the calls in the trace

`C09_return_sound` speaks about `s.arr t`.  The property speaks about a thread's *n-th wait*.  For
every accepted trace the two coincide: `arr t` is the number of `wait` / `wait_and_drop` calls `t`
has started, minus the one whose arrival is not yet counted (pc `called` / `locked`). -/

/-- arrivals counted + (1 if inside a call before its arrival) = calls started, per thread -/
theorem C09_arrivals_are_calls {P : List Tid} {es : List (Tid × Ev)} {s : St} (h : run P es = some s)
    (t : Tid) : s.arr t + (s.pc t).pre = callsOf t es := by
  have := K_run es (K_init P) h t
  simpa using this

/-- The property on the trace itself: when thread `t` returns from its n-th call (`n` = the number
of `wait` / `wait_and_drop` calls of `t` in the trace) the barrier has completed `n` generations and
every current participant has made at least `n` arrivals (and hence at least `n` calls). -/
theorem C09_return_sound_calls {P : List Tid} (hP : P.Nodup) {es : List (Tid × Ev)} {s s' : St} {t : Tid}
    {k : Kind} (h : run P es = some s) (hs : step s t (.ret k) = some s') :
    callsOf t es ≤ s.generation ∧
      ∀ u, u ∈ s.parts → callsOf t es ≤ s.arr u ∧ callsOf t es ≤ callsOf u es := by
  have hr := C09_return_sound hP ⟨es, h⟩ hs
  -- at its return `t` is not in front of an arrival: its calls are its arrivals
  have ht : s.arr t = callsOf t es := by
    rw [← C09_arrivals_are_calls h t]
    cases Step.of_step hs with | ret hp => rw [hp]; rfl
  rw [← ht]
  exact ⟨hr.1, fun u hu => ⟨hr.2 u hu, Nat.le_trans (hr.2 u hu) (C09_arrivals_are_calls h u ▸ Nat.le_add_right ..)⟩⟩

/-- non-vacuity: in the witness trace thread 2 made two calls and two arrivals -/
example : ∃ s, run [1, 2] witnessTrace = some s ∧ callsOf 2 witnessTrace = s.arr 2 + (s.pc 2).pre :=
  ⟨_, rfl, by decide⟩

end ConcVerif.Barrier
