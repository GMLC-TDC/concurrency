import ConcVerif.Proof.HBDD
/-! # C07 for `DelayedDestructor` — `destructionLock` and the vector `ElementsToBeDestroyed`, at the level of the model

For EVERY trace accepted by the DelayedDestructor model `DD.step` (the same `step` the observed traces of
`DelayedDestructor.hpp` are checked against; any number of threads, nested calls from callbacks and payload
destructors, failing and succeeding `try_lock_for`, throwing callbacks), mapped to happens-before events by
`DD.hbTrace js` (`Proof/HBDDMap.lean`: the model has no events for the plain accesses to the vector — the code between two
scheduling points runs with the preceding event — so one model event maps to a short list: `lock_guard` / successful
`try_lock_for` ↦ `acq 0 X`, `mul` ↦ `rel 0 X`, `push_back` / scan+erase ↦ `wr 0`, `size()` ↦ `rd 0`, the `empty()` tests of
`~DelayedDestructor` ↦ `rd 0` and the destruction of the vector member ↦ `wr 0`, both WITHOUT the lock as in the code;
callbacks, payload destructors, failed try-locks, sleeps ↦ `nop`):

* `C07_dd_mutex`: the mapped trace is consistent with mutex semantics and mirrors the model's lock;
* `C07_dd_lockset`: while the container is alive every access to the vector is made holding `destructionLock`;
  `C07_dd_lockset_dtor`: in general, every access is under the lock OR is made by the thread running
  `~DelayedDestructor`, after it started; `C07_dd_dtor_exclusive`: from that point on that thread is the only one that
  touches the lock or the vector (model's client obligation: no call in progress when the destructor starts, none after);
* `C07_dd_writes_mapped`: the mapping misses no mutation of the vector (an event mapped without `wr 0` leaves it unchanged);
* `C07_dd_user_code_unlocked`: callbacks and payload destructors start, end and throw with the lock NOT held;
* `C07_dd_vector` / `C07_dd_accepted`: container alive ⇒ conflicting accesses are happens-before ordered, `raceFree`
  accepts;
* `C07_dd_vector_partial` / `C07_dd_accepted_partial` / `C07_dd_joined_partial`: the same with the destructor,
  under the client obligation `DtorOrdered` (the destructor call is ordered after the other threads' accesses —
  e.g. they are joined, `js`).  The obligation is necessary: `C07_dd_unordered_dtor_races`.

`js` = the threads the client joins before destroying the container (`callDtor ↦ nop, join u…, rd 0`); `js = []` is
the bare model.  Single-thread variant `DelayedDestructorSingleThread`: no lock at all, every access is free; the
model does not cover it (its discipline would be "all events by one thread", i.e. program order). -/
namespace ConcVerif.DD

/-- **Mutex consistency.**  In every accepted trace the mapped events respect the semantics of `destructionLock`
(an acquisition — blocking or by a successful `try_lock_for` — only when nobody holds it, a release only by the
holder), and what the happens-before layer computes as "held by `u`" is exactly the model's `lock` field. -/
theorem C07_dd_mutex (js : List Tid) {cb : Bool} {ns nt : Nat} {es : List (Tid × Ev)} {s : St}
    (h : run cb ns nt es = some s) :
    HB.MutexOK (hbTrace js cb ns nt es) ∧
    ∀ u, HB.held (hbTrace js cb ns nt es) u 0 = if s.lock = some u then some .X else none :=
  ⟨(sim_run js h).mtx.2, (sim_run js h).mtx.1⟩

/-- **Lockset, container alive.**  In every accepted trace in which `~DelayedDestructor` has not started, every plain
access to the vector (`push_back`, scan / `remove_if` / `erase`, every `size()`) is made while the accessing thread
holds `destructionLock` exclusively. -/
theorem C07_dd_lockset (js : List Tid) {cb : Bool} {ns nt : Nat} {es : List (Tid × Ev)} {s : St}
    (h : run cb ns nt es = some s) (hd : s.dead = none) : HB.LockSet (hbTrace js cb ns nt es) 0 0 :=
  (sim_run js h).live hd

/-- **From the start of the destructor on, one thread.**  If `callDtor` of thread `d` is at position `p` of an accepted
trace, then from the corresponding position of the mapped trace on every event that is not a `nop` — every
acquisition, release and access — is an event of `d`; the part before it is the mapped trace of the prefix, an
accepted trace with the container alive (so `C07_dd_lockset` applies to it).  This is the model's client obligation
made visible: `callDtor` is accepted only when no call is in progress, and no call is accepted afterwards; other
threads can only run payload destructors. -/
theorem C07_dd_dtor_exclusive (js : List Tid) {cb : Bool} {ns nt : Nat} {es : List (Tid × Ev)} {s : St} {p : Nat}
    {d : Tid} (h : run cb ns nt es = some s) (hp : es[p]? = some (d, Ev.callDtor)) :
    (∃ rest, hbTrace js cb ns nt es = hbTrace js cb ns nt (es.take p) ++ rest) ∧
    HB.LockSet (hbTrace js cb ns nt (es.take p)) 0 0 ∧
    ∀ n u x, (hbTrace js cb ns nt (es.take p)).length ≤ n → (hbTrace js cb ns nt es)[n]? = some (u, x) →
      x ≠ .nop → u = d := by
  obtain ⟨s1, rest, hr1, hd1, htr⟩ := hbTrace_dtor js h hp
  refine ⟨⟨_, htr⟩, (sim_run js hr1).live hd1, ?_⟩
  obtain ⟨p', hp', hown⟩ := (sim_run js h).dt d (dead_of_callDtor h hp)
  -- `callDtor` occurs once: a second one is rejected because `dead` is already set
  have hpp : p' = p := by
    apply Classical.byContradiction; intro hne
    obtain ⟨a, b, hab, ha, hb⟩ : ∃ a b, a < b ∧ es[a]? = some (d, Ev.callDtor) ∧ es[b]? = some (d, Ev.callDtor) := by
      rcases Nat.lt_or_gt_of_ne hne with hlt | hlt
      · exact ⟨p', p, hlt, hp', hp⟩
      · exact ⟨p, p', hlt, hp, hp'⟩
    obtain ⟨sb, sb', hrb, hsb⟩ := runFrom_at h hb
    have hat : (es.take b)[a]? = some (d, Ev.callDtor) := by rw [List.getElem?_take]; simp [hab, ha]
    have := dead_of_callDtor (cb := cb) (ns := ns) (nt := nt) hrb hat
    rw [(callDtor_inv hsb).2.2.1] at this; cases this
  subst hpp
  exact hown

/-- **Lockset, in general.**  In every accepted trace, each plain access to the vector is made holding
`destructionLock`, OR it is an access of the thread running `~DelayedDestructor`, made after that destructor started
(the code takes no lock for its `empty()` tests and for the destruction of the vector member). -/
theorem C07_dd_lockset_dtor (js : List Tid) {cb : Bool} {ns nt : Nat} {es : List (Tid × Ev)} {s : St}
    (h : run cb ns nt es = some s) {n : Nat} (hn : n < (hbTrace js cb ns nt es).length) :
    HB.lockedAt (hbTrace js cb ns nt es) 0 0 n ∨
    ∃ p d, es[p]? = some (d, Ev.callDtor) ∧ s.dead = some d ∧ (hbTrace js cb ns nt (es.take p)).length ≤ n ∧
      ∀ u x, (hbTrace js cb ns nt es)[n]? = some (u, x) → x ≠ .nop → u = d := by
  cases hd : s.dead with
  | none => exact .inl ((sim_run js h).live hd n hn)
  | some d =>
    obtain ⟨p, hp, _⟩ := (sim_run js h).dt d hd
    obtain ⟨⟨rest, htr⟩, hls, hown⟩ := C07_dd_dtor_exclusive js h hp
    by_cases hlt : n < (hbTrace js cb ns nt (es.take p)).length
    · left; rw [htr]; exact (HB.lockedAt_old _ hlt).mpr (hls n hlt)
    · exact .inr ⟨p, d, hp, rfl, by omega, fun u x hx hne => hown n u x (by omega) hx hne⟩

/-- **The mapping misses no write.**  If the model accepts an event whose happens-before content has no `wr 0`, the
event leaves `ElementsToBeDestroyed` unchanged and does not destroy the vector member: every mutation the model
performs on the vector (`push_back`, `erase`, the element releases and the end of the vector member's destructor)
is visible to the race check as a write — under the lock or not. -/
theorem C07_dd_writes_mapped (js : List Tid) {s s' : St} {t : Tid} {e : Ev} (hs : step s t e = some s')
    (h : HB.Ev.wr 0 ∉ toHB js s t e) : s'.vec = s.vec ∧ s'.vdead = s.vdead :=
  vec_write_mapped hs h

/-- **User code runs outside the lock.**  Whenever the model accepts the start / end / throw of a callback or the
start / end of a payload destructor by thread `t`, `t` does not hold `destructionLock` (in the happens-before
bookkeeping of the mapped trace). -/
theorem C07_dd_user_code_unlocked (js : List Tid) {cb : Bool} {ns nt : Nat} {es : List (Tid × Ev)} {s s' : St}
    {t : Tid} {e : Ev} (h : run cb ns nt es = some s) (hs : step s t e = some s') (he : isCbDt e = true) :
    HB.held (hbTrace js cb ns nt es) t 0 = none := by
  rw [(sim_run js h).mtx.1]
  simp only [HB.ofOwner]
  split
  · rename_i hl
    have := (inv_reachable ⟨es, h⟩).lockI t hl
    rw [cbdt_top hs he] at this; cases this
  · rfl

/-- **The vector, container alive.**  In every accepted trace in which `~DelayedDestructor` has not started, each
access to the vector happens after every earlier conflicting access (any threads, any nesting). -/
theorem C07_dd_vector (js : List Tid) {cb : Bool} {ns nt : Nat} {es : List (Tid × Ev)} {s : St}
    (h : run cb ns nt es = some s) (hd : s.dead = none) {i j : Nat} (hij : i < j)
    (hc : HB.ConflictOn (hbTrace js cb ns nt es) 0 i j) : HB.HB (hbTrace js cb ns nt es) i j :=
  dd_hb h (dtorOrdered_live h hd) hij hc

/-- … and the executable race checker accepts the mapped trace. -/
theorem C07_dd_accepted (js : List Tid) {cb : Bool} {ns nt : Nat} {es : List (Tid × Ev)} {s : St}
    (h : run cb ns nt es = some s) (hd : s.dead = none) : HB.raceFree (hbTrace js cb ns nt es) = true :=
  HB.raceFree_complete (dd_no_race h (dtorOrdered_live h hd))

/-- **The vector, destructor included (partial: needs the client obligation).**  In every accepted trace that
satisfies `DtorOrdered` — the accesses other threads made before `callDtor` happen-before the destructor's first
`empty()` test — each access to the vector happens after every earlier conflicting access, the unlocked accesses of
`~DelayedDestructor` included.  Missing for "every accepted trace": the model accepts `callDtor` as soon as no call
is in progress (an interleaving-level condition) and records no synchronisation between the last users and the
destroying thread; without one the destructor's unlocked accesses DO race (`C07_dd_unordered_dtor_races`). -/
theorem C07_dd_vector_partial (js : List Tid) {cb : Bool} {ns nt : Nat} {es : List (Tid × Ev)} {s : St}
    (h : run cb ns nt es = some s) (ho : DtorOrdered js cb ns nt es) {i j : Nat} (hij : i < j)
    (hc : HB.ConflictOn (hbTrace js cb ns nt es) 0 i j) : HB.HB (hbTrace js cb ns nt es) i j :=
  dd_hb h ho hij hc

/-- … and the executable race checker accepts the mapped trace (partial: same obligation). -/
theorem C07_dd_accepted_partial (js : List Tid) {cb : Bool} {ns nt : Nat} {es : List (Tid × Ev)} {s : St}
    (h : run cb ns nt es = some s) (ho : DtorOrdered js cb ns nt es) : HB.raceFree (hbTrace js cb ns nt es) = true :=
  HB.raceFree_complete (dd_no_race h ho)

/-- **Join, then destroy (partial: the joins are the client's).**  If every thread that ever accesses the vector is
among the threads `js` the client joins before destroying the container, or is the destroying thread itself, then
the whole mapped trace — locked accesses and the destructor's unlocked ones — is race free. -/
theorem C07_dd_joined_partial (js : List Tid) {cb : Bool} {ns nt : Nat} {es : List (Tid × Ev)} {s : St}
    (h : run cb ns nt es = some s)
    (hj : ∀ p ∈ hbTrace js cb ns nt es, p.2.accesses 0 → p.1 ∈ js ∨ (p.1, Ev.callDtor) ∈ es) :
    HB.raceFree (hbTrace js cb ns nt es) = true :=
  C07_dd_accepted_partial js h (dtorOrdered_joined' h hj)

/-! ## Non-vacuity -/

/-- thread 1 pushes object 1; thread 2 runs `destroyObjects()` (scan + erase under the lock, callback and payload
destructor outside, second `try_lock_for`, `size()`); thread 1 calls `size()` and pushes object 2; thread 3 destroys
the container: `empty()` test without the lock, one `destroyObjects()` that reaps object 2, `empty()` again, the
vector member destroyed -/
def hbWitness : List (Tid × Ev) :=
  [(1, .new 1), (1, .callAdd 1 true), (1, .mlk), (1, .mul), (1, .retAdd true),
   (2, .callDestroy), (2, .mtf true []), (2, .mul), (2, .ucb 1), (2, .uce 1), (2, .pdt 1), (2, .pde 1),
   (2, .mtf true []), (2, .mul), (2, .retDestroy (some 0)),
   (1, .callSize), (1, .mlk), (1, .mul), (1, .retSize 0),
   (1, .new 2), (1, .callAdd 2 true), (1, .mlk), (1, .mul), (1, .retAdd true),
   (3, .callDtor), (3, .mtf true []), (3, .mul), (3, .ucb 2), (3, .uce 2), (3, .pdt 2), (3, .pde 2),
   (3, .mtf true []), (3, .mul), (3, .retDtor)]

/-- the trace is accepted; thread 3 ran the destructor to its end -/
example : ∃ s, run true 0 0 hbWitness = some s ∧ s.dead = some 3 ∧ s.vdead = true ∧ s.destroyed = [2, 1] :=
  ⟨_, rfl, rfl, rfl, rfl⟩

/-- what it maps to when the client joins threads 1 and 2 before destroying: the part around the destructor call -/
example : ((hbTrace [1, 2] true 0 0 hbWitness).drop 25).take 11 =
    [(1, .acq 0 .X), (1, .wr 0), (1, .rel 0 .X), (1, .nop),
     (3, .nop), (3, .join 1), (3, .join 2), (3, .rd 0), (3, .acq 0 .X), (3, .wr 0), (3, .rel 0 .X)] := by decide +kernel

/-- conflicting accesses of different threads: `push_back` of thread 1 (3) / scan+erase of thread 2 (8) under the
lock; `push_back` of thread 1 (26) / the destructor's unlocked `empty()` test of thread 3 (32) and its final
destruction of the vector member (44) -/
example : HB.ConflictOn (hbTrace [1, 2] true 0 0 hbWitness) 0 3 8 ∧
    HB.ConflictOn (hbTrace [1, 2] true 0 0 hbWitness) 0 26 32 ∧
    HB.ConflictOn (hbTrace [1, 2] true 0 0 hbWitness) 0 8 44 :=
  ⟨⟨1, 2, _, _, rfl, rfl, .inr rfl, .inr rfl, .inl rfl⟩, ⟨1, 3, _, _, rfl, rfl, .inr rfl, .inl rfl, .inl rfl⟩,
   ⟨2, 3, _, _, rfl, rfl, .inr rfl, .inr rfl, .inl rfl⟩⟩

/-- the container-alive theorems apply to the prefix before the destructor -/
example : HB.LockSet (hbTrace [] true 0 0 (hbWitness.take 24)) 0 0 ∧
    HB.raceFree (hbTrace [] true 0 0 (hbWitness.take 24)) = true :=
  ⟨C07_dd_lockset [] (s := _) rfl rfl, C07_dd_accepted [] (s := _) rfl rfl⟩

/-- the join theorem applies to the whole trace: threads 1, 2 are joined, thread 3 is the destroying thread -/
example : HB.raceFree (hbTrace [1, 2] true 0 0 hbWitness) = true :=
  C07_dd_joined_partial [1, 2] (s := _) rfl (by simp only [HB.Ev.accesses]; decide)

/-- … hence the destructor's unlocked accesses happen after the locked accesses of the other threads -/
example : HB.HB (hbTrace [1, 2] true 0 0 hbWitness) 26 32 ∧ HB.HB (hbTrace [1, 2] true 0 0 hbWitness) 8 44 := by
  have ho : DtorOrdered [1, 2] true 0 0 hbWitness :=
    dtorOrdered_joined' (s := _) rfl (by simp only [HB.Ev.accesses]; decide)
  exact ⟨C07_dd_vector_partial [1, 2] (s := _) rfl ho (by decide)
      ⟨1, 3, _, _, rfl, rfl, .inr rfl, .inl rfl, .inl rfl⟩,
    C07_dd_vector_partial [1, 2] (s := _) rfl ho (by decide) ⟨2, 3, _, _, rfl, rfl, .inr rfl, .inr rfl, .inl rfl⟩⟩

/-- the checker agrees -/
example : HB.raceFree (hbTrace [1, 2] true 0 0 hbWitness) = true := by decide +kernel

/-- joining thread 1 alone is enough here: thread 2's critical section is ordered before thread 1's later ones
through the lock -/
example : HB.raceFree (hbTrace [1] true 0 0 hbWitness) = true := by decide +kernel

/-- **The client obligation is necessary.**  The bare model (`js = []`: no edge into the destructor) accepts a trace
in which thread 1's call has returned and thread 2 then destroys the container; the destructor's first `empty()` test
takes no lock, so it is not ordered after thread 1's `push_back`: a data race by the declarative definition, and the
checker rejects. -/
theorem C07_dd_unordered_dtor_races :
    ∃ es s, run true 0 0 es = some s ∧ HB.raceFree (hbTrace [] true 0 0 es) = false ∧
      HB.Race (hbTrace [] true 0 0 es) := by
  refine ⟨[(1, .new 1), (1, .callAdd 1 true), (1, .mlk), (1, .mul), (1, .retAdd true), (2, .callDtor)], _, rfl,
    by decide, ?_⟩
  apply Classical.byContradiction
  intro hn
  have := (HB.raceFree_iff _).mpr hn
  revert this; decide

/-- the same happens on the witness when nobody is joined … -/
example : HB.raceFree (hbTrace [] true 0 0 hbWitness) = false := by decide +kernel

/-- … unless the destroying thread has itself synchronised through the lock after the others' last use (here: it
calls `size()` first) -/
example : HB.raceFree (hbTrace [] true 0 0
    (hbWitness.take 24 ++ [(3, .callSize), (3, .mlk), (3, .mul), (3, .retSize 1)] ++ hbWitness.drop 24)) = true := by
  decide +kernel

end ConcVerif.DD
