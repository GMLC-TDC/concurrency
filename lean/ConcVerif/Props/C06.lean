import ConcVerif.Proof.DeferredN
import ConcVerif.Proof.DeferredLive
/-! # C06 — deferred_guarded applies each modification once, exclusively, in order

Model: `Model/Deferred.lean` (`m` = the shared mutex, `flag` = `m_pendingWrites`, `qm` + `queue` =
`m_pendingList`).  `applied` lists the tasks in the order their functions were entered (`ucb k`);
`batch` is the swapped-out vector of the draining thread; `sub k` the submitting thread; `done` the
tasks whose `modify_*` call has returned; `before k` the tasks that had returned when `k` was
submitted; `out k` what the function of `k` produced (the content of its future).
All theorems quantify over every reachable state, i.e. every number of threads, every client
program and every interleaving, for both values of the parameter `spur` (try_lock may / may not fail
spuriously) except the no-stranding theorem, which needs `spur = false` and says so. -/
namespace ConcVerif.Deferred

/-! ## exactly once -/

/-- `applied` has no duplicates (no function is entered twice), every applied task was submitted,
and conservation: the applied tasks, the drainer's batch and the queue are pairwise disjoint and
duplicate-free; every submitted task is in one of them or still in the hands of its submitter, who
is then inside the `modify_*` call (and the task is in none of the three). -/
theorem C06_once {spur : Bool} {s : St} (h : Reachable spur s) :
    s.applied.Nodup ∧ (∀ k, k ∈ s.applied → s.sub k ≠ none) ∧
    (s.applied ++ s.batch ++ s.queue).Nodup ∧
    (∀ k u, s.sub k = some u → (k ∈ s.applied ∨ k ∈ s.batch ∨ k ∈ s.queue) ∨ (s.pc u).prePub = some k) ∧
    (∀ u k, (s.pc u).prePub = some k → k ∉ s.applied ∧ k ∉ s.batch ∧ k ∉ s.queue) := by
  have hC := (inv_reachable h).C
  refine ⟨?_, fun k hk => hC.seqSub k (Or.inl hk), hC.nodup, hC.cons, ?_⟩
  · exact (List.nodup_append.1 (List.nodup_append.1 hC.nodup).1).1
  · intro u k hk
    have := hC.pre u k hk
    simp only [St.inSeq, not_or] at this
    exact this

/-- Once the submitting call has returned the task is in exactly one of: applied, the batch of the
thread that is draining, the queue. -/
theorem C06_once_returned {spur : Bool} {s : St} (h : Reachable spur s) {k : TaskId} (hk : k ∈ s.done) :
    (k ∈ s.applied ∧ k ∉ s.batch ∧ k ∉ s.queue) ∨ (k ∉ s.applied ∧ k ∈ s.batch ∧ k ∉ s.queue) ∨
      (k ∉ s.applied ∧ k ∉ s.batch ∧ k ∈ s.queue) := by
  have hI := inv_reachable h
  have hnd := hI.C.nodup
  rw [List.nodup_append] at hnd
  obtain ⟨hab, _, hdq⟩ := hnd
  rw [List.nodup_append] at hab
  obtain ⟨_, _, hda⟩ := hab
  rcases returned_where hI.C hI.F hk with h1 | h1 | ⟨h1, _⟩
  · exact Or.inl ⟨h1, fun hb => hda k h1 k hb rfl, fun hq => hdq k (List.mem_append_left _ h1) k hq rfl⟩
  · exact Or.inr (Or.inl ⟨fun ha => hda k ha k h1 rfl, h1, fun hq => hdq k (List.mem_append_right _ h1) k hq rfl⟩)
  · exact Or.inr (Or.inr ⟨fun ha => hdq k (List.mem_append_left _ ha) k h1 rfl,
      fun hb => hdq k (List.mem_append_right _ hb) k h1 rfl, h1⟩)

/-- The step that enters the function of task `k` is the one that appends `k` to `applied`; `k` was
submitted and had not been applied before.  No other kind of step changes `applied`. -/
theorem C06_once_entered {spur : Bool} {s s' : St} {t : Tid} {k : TaskId} (h : Reachable spur s)
    (hs : step s t (.ucb k) = some s') : s'.applied = s.applied ++ [k] ∧ k ∉ s.applied ∧ s.sub k ≠ none := by
  have hC := (inv_reachable h).C
  generalize hp : s.pc t = p
  cases Step.of_step hp hs with
  | ucbD hb =>
    refine ⟨rfl, ?_, hC.seqSub k (Or.inr (Or.inl (by rw [hb]; exact List.mem_cons_self)))⟩
    intro hin
    have hnd := hC.nodup
    rw [hb] at hnd
    exact (List.nodup_append.1 (List.nodup_append.1 hnd).1).2.2 k hin k List.mem_cons_self rfl
  | ucbA hb =>
    have hpre : (s.pc t).prePub = some k := by rw [hp]; rfl
    refine ⟨rfl, fun hin => hC.pre t k hpre (Or.inl hin), ?_⟩
    rw [hC.own t k (Pc.prePub_task hpre)]; exact nofun

theorem C06_once_only_ucb {s s' : St} {t : Tid} {e : Ev} (hs : step s t e = some s') (he : ∀ k, e ≠ .ucb k) :
    s'.applied = s.applied := by
  generalize hp : s.pc t = p
  cases Step.of_step hp hs with
  | ucbD | ucbA => exact absurd rfl (he _)
  | _ => rfl

/-! ## exclusively -/

/-- Every apply step — and every step inside the function of a task, in particular every write of
the wrapped object — is made by the thread that holds `m` exclusively, while nobody holds `m` shared
(no shared handle is alive, no `load` is copying) and no other thread is inside a function. -/
theorem C06_exclusive {spur : Bool} {s s' : St} {t : Tid} {k : TaskId} (h : Reachable spur s)
    (hs : step s t (.ucb k) = some s') :
    s.mx = some t ∧ s.sh = [] ∧ (∀ u, (s.pc u).holdsS = false) ∧ (∀ u j, (s.pc u).running = some j → False) := by
  have hL := (inv_reachable h).L
  have hrun : (s.pc t).holdsX = true ∧ (s.pc t).running = none := by
    generalize hp : s.pc t = p
    cases Step.of_step hp hs <;> exact ⟨rfl, rfl⟩
  have hX := hrun.1
  have hm := (hL.mxP t).2 hX
  have hsh := hL.xs (by rw [hm]; simp)
  refine ⟨hm, hsh, ?_, ?_⟩
  · intro u
    cases hc : (s.pc u).holdsS with
    | false => rfl
    | true => have := (hL.shP u).2 hc; rw [hsh] at this; cases this
  · intro u j hj
    have hu := hL.holder_eq hX (Pc.running_holdsX hj)
    subst hu
    rw [hrun.2] at hj; cases hj

theorem C06_exclusive_inside {spur : Bool} {s : St} {t : Tid} {k : TaskId} (h : Reachable spur s)
    (hr : (s.pc t).running = some k) :
    s.mx = some t ∧ s.sh = [] ∧ (∀ u, (s.pc u).holdsS = false) ∧ (∀ u j, (s.pc u).running = some j → u = t) := by
  have hL := (inv_reachable h).L
  have hX := Pc.running_holdsX hr
  have hm := (hL.mxP t).2 hX
  have hsh := hL.xs (by rw [hm]; simp)
  refine ⟨hm, hsh, ?_, fun u j hj => hL.holder_eq hX (Pc.running_holdsX hj)⟩
  intro u
  cases hc : (s.pc u).holdsS with
  | false => rfl
  | true => have := (hL.shP u).2 hc; rw [hsh] at this; cases this

theorem C06_exclusive_write {spur : Bool} {s s' : St} {t : Tid} {v : Int} (h : Reachable spur s)
    (hs : step s t (.pwr v) = some s') : s.mx = some t ∧ s.sh = [] ∧ ∃ k, (s.pc t).running = some k := by
  have hr : ∃ k, (s.pc t).running = some k := by
    generalize hp : s.pc t = p
    cases Step.of_step hp hs <;> exact ⟨_, rfl⟩
  obtain ⟨k, hk⟩ := hr
  have := C06_exclusive_inside h hk
  exact ⟨this.1, this.2.1, k, hk⟩

/-! ## in order -/

/-- Order: if `a`'s submitting call had returned when `b` was submitted (`a ∈ before b`, i.e.
`ret a < call b` in real time — this includes every earlier task of `b`'s own submitter, see
`C06_order_same_thread`), then `b` applied ⇒ `a` applied, and `a` comes before `b` in `applied`. -/
theorem C06_order {spur : Bool} {s : St} (h : Reachable spur s) {a b : TaskId} (hb : b ∈ s.applied)
    (hab : a ∈ s.before b) : a ∈ s.applied ∧ Prec s.applied a b := by
  have := (inv_reachable h).O.p1 b hb a hab
  exact ⟨this.mem_left, this⟩

/-- `before b` is fixed at the call of `b`: it is the set of tasks whose call has returned … -/
theorem C06_order_before_at_call {s s' : St} {t : Tid} {b : TaskId} {ab : Bool}
    (hs : step s t (.callMod b ab) = some s') : s'.before b = s.done ∧ s'.sub b = some t := by
  obtain ⟨_, _, h3⟩ := step_callMod hs
  subst h3; simp [St.setPc, upd]

/-- … `done` grows exactly at the `ret` / `exc` event that ends a `modify_*` call … -/
theorem C06_order_done_at_ret {s s' : St} {t : Tid} {e : Ev} {a : TaskId} {aa thr : Bool}
    (hp : s.pc t = .mRet a aa thr) (hs : step s t e = some s') : a ∈ s'.done ∧ (e = .ret ∨ e = .exc) := by
  cases Step.of_step hp hs with
  | ret => exact ⟨List.mem_cons_self, .inl rfl⟩
  | exc => exact ⟨List.mem_cons_self, .inr rfl⟩

/-- … and every task the calling thread submitted earlier is in it (program order). -/
theorem C06_order_same_thread {spur : Bool} {s s' : St} {t : Tid} {a b : TaskId} {ab : Bool} (h : Reachable spur s)
    (hs : step s t (.callMod b ab) = some s') (ha : s.sub a = some t) : a ∈ s'.before b := by
  have hC := (inv_reachable h).C
  rw [(C06_order_before_at_call hs).1]
  rcases hC.retd a t ha with hd | htk
  · exact hd
  · rw [(step_callMod hs).1] at htk; simp [Pc.task] at htk

/-- Real-time order on traces: whenever the call that submitted `a` returns (the event accepted at
pc `mRet a`) before the call that submits `b` starts, then in every later state `b` applied implies
`a` applied earlier. -/
theorem C06_order_realtime {spur : Bool} {es1 es2 es3 : List (Tid × Ev)} {ta tb : Tid} {a b : TaskId}
    {aa thr ab : Bool} {e : Ev} {s1 s : St} (h1 : run spur es1 = some s1) (hp : s1.pc ta = .mRet a aa thr)
    (hrun : run spur (es1 ++ (ta, e) :: (es2 ++ (tb, .callMod b ab) :: es3)) = some s) (hb : b ∈ s.applied) :
    a ∈ s.applied ∧ Prec s.applied a b := by
  have hR : Reachable spur s := ⟨_, hrun⟩
  unfold run at h1 hrun
  obtain ⟨sa, hsa, hrest⟩ := runFrom_append_eq_some.1 hrun
  cases h1.symm.trans hsa
  obtain ⟨s2, hstep1, hrest⟩ := runFrom_cons_eq_some.1 hrest
  obtain ⟨s3, h23, hrest⟩ := runFrom_append_eq_some.1 hrest
  obtain ⟨s4, hstep2, h4⟩ := runFrom_cons_eq_some.1 hrest
  have ha2 : a ∈ s2.done := (C06_order_done_at_ret hp hstep1).1
  have ha3 : a ∈ s3.done := done_kept h23 ha2
  obtain ⟨hbef, hsub⟩ := C06_order_before_at_call hstep2
  exact C06_order hR hb (by rw [before_kept h4 (by rw [hsub]; exact nofun), hbef]; exact ha3)

/-! ## no stranding -/

/-- A queued task is never hidden: whenever no submitter sits between its push and its
`flag.store(true)` and no drainer sits between its `flag.store(false)` and its swap — in particular
whenever all `modify_*` calls have returned and no drain is in progress — a non-empty queue implies
that the flag is up. -/
theorem C06_no_stranding_flag {spur : Bool} {s : St} (h : Reachable spur s)
    (hq : ∀ u, (s.pc u).atFlag = none ∧ (s.pc u).between = false) (hne : s.queue ≠ []) : s.flag = true := by
  have hI := inv_reachable h
  cases hqu : s.queue with
  | nil => exact absurd hqu hne
  | cons k rest =>
    have hk : k ∈ s.queue := by rw [hqu]; simp
    cases hu : s.sub k with
    | none => exact absurd hu (hI.C.seqSub k (Or.inr (Or.inr hk)))
    | some u =>
      rcases hI.F.flagI k hk u hu with hf | ha | ⟨d, _, hb⟩
      · exact hf
      · rw [(hq u).1] at ha; cases ha
      · rw [(hq d).2] at hb; cases hb

/-- At quiescence (every thread at rest, with or without a handle): nothing is in a batch, every
submitted task is applied or queued, a non-empty queue has the flag up, and every applied task's
outcome is recorded (its future is ready). -/
theorem C06_no_stranding_quiescent {spur : Bool} {s : St} (h : Reachable spur s) (hq : ∀ u, ∃ hh, s.pc u = .idle hh) :
    (s.queue ≠ [] → s.flag = true) ∧ s.batch = [] ∧ (∀ k, s.sub k ≠ none → k ∈ s.applied ∨ k ∈ s.queue) ∧
      (∀ k, k ∈ s.applied → s.out k ≠ none) := by
  have hI := inv_reachable h
  have hb : s.batch = [] := by
    cases hbb : s.batch with
    | nil => rfl
    | cons x xs =>
      obtain ⟨d, _, hr⟩ := hI.C.batchX (by rw [hbb]; simp)
      obtain ⟨hh, hd⟩ := hq d
      rw [hd] at hr; simp [Pc.runs] at hr
  refine ⟨C06_no_stranding_flag h (fun u => ?_), hb, ?_, ?_⟩
  · obtain ⟨hh, hu⟩ := hq u; rw [hu]; simp [Pc.atFlag, Pc.between]
  · intro k hk
    cases hu : s.sub k with
    | none => exact absurd hu hk
    | some u =>
      rcases hI.C.cons k u hu with hin | hpre
      · rcases hin with h1 | h1 | h1
        · exact Or.inl h1
        · rw [hb] at h1; cases h1
        · exact Or.inr h1
      · obtain ⟨hh, hu'⟩ := hq u; rw [hu'] at hpre; simp [Pc.prePub] at hpre
  · intro k hk hn
    obtain ⟨d, hd⟩ := hI.U.outD k hk hn
    obtain ⟨hh, hd'⟩ := hq d; rw [hd'] at hd; simp [Pc.running] at hd

/-- **The next call drains before granting** (hypothesis: try_lock does not fail spuriously,
`spur = false`).  From a quiescent state in which nobody holds a handle, let one thread run alone
(any sequence of its own steps — one call or several).  Whenever it has been granted shared access
(it holds `m` shared: inside `lock_shared` / `try_lock_shared*` after the acquisition, with the handle,
or copying inside `load`) or has entered its own function in `modify_detach` / `modify_async`, the queue
and the batch are empty and every task that had been submitted at the quiescent point is applied;
in the shared case all their outcomes are recorded (every `modify_async` future is ready). -/
theorem C06_no_stranding_next {s s' : St} {t : Tid} {es : List (Tid × Ev)} (h : Reachable false s)
    (hq : ∀ u, s.pc u = .idle false) (hsolo : ∀ x, x ∈ es → x.1 = t) (hrun : runFrom step s es = some s')
    (hg : (s'.pc t).holdsS = true ∨ ∃ k a, s'.pc t = .aIn k a) :
    s'.queue = [] ∧ s'.batch = [] ∧ (∀ k, s.sub k ≠ none → k ∈ s'.applied) ∧
      ((s'.pc t).holdsS = true → ∀ k, s.sub k ≠ none → s'.out k ≠ none) := by
  have hq0 := C06_no_stranding_quiescent h (fun u => ⟨false, hq u⟩)
  obtain ⟨hr', ho', hk'⟩ := solo_run h (fun u _ => hq u) (by rw [hq t]; exact ⟨hq0.2.1, hq0.1⟩) hsolo hrun
  have hsb' := fun k => sub_kept (k := k) hrun
  have hI' := inv_reachable hr'
  have hqb : s'.queue = [] ∧ s'.batch = [] := by
    rcases hg with hg | ⟨k, a, hg⟩
    · exact SoloOK_of_holdsS hg hk'
    · rw [hg] at hk'; simpa [SoloOK] using hk'
  have hnp : (s'.pc t).prePub = none ∧ ((s'.pc t).holdsS = true → (s'.pc t).running = none) := by
    rcases hg with hg | ⟨k, a, hg⟩
    · cases hp : s'.pc t <;> simp [hp, Pc.holdsS] at hg <;> simp [Pc.prePub, Pc.running]
    · rw [hg]; simp [Pc.prePub, Pc.holdsS]
  have happ : ∀ k, s.sub k ≠ none → k ∈ s'.applied := by
    intro k hk
    cases hu : s'.sub k with
    | none => exact absurd hu (hsb' k hk)
    | some u =>
      rcases hI'.C.cons k u hu with hin | hpre
      · rcases hin with h1 | h1 | h1
        · exact h1
        · rw [hqb.2] at h1; cases h1
        · rw [hqb.1] at h1; cases h1
      · by_cases hut : u = t
        · subst hut; rw [hnp.1] at hpre; cases hpre
        · rw [ho' u hut] at hpre; simp [Pc.prePub] at hpre
  refine ⟨hqb.1, hqb.2, happ, ?_⟩
  intro hS k hk hn
  obtain ⟨d, hd⟩ := hI'.U.outD k (happ k hk) hn
  by_cases hdt : d = t
  · subst hdt; rw [hnp.2 hS] at hd; cases hd
  · rw [ho' d hdt] at hd; simp [Pc.running] at hd

/-- the quiescent state used by the two examples below: a reader (thread 1) parked on a shared
handle while thread 2 submitted task 7 (queued path), then released: everybody at rest, nobody holds
a handle, queue = [7], flag up -/
def strandedPrefix : List (Tid × Ev) :=
  [(1, .callSh .block), (1, .fld false), (1, .slk), (1, .got true),
   (2, .callMod 7 false), (2, .mtl false), (2, .qlk), (2, .qul), (2, .fst true), (2, .ret),
   (1, .sul)]

/-- What happens without the hypothesis: if try_lock may fail spuriously (`spur = true`), the model
accepts a run in which `lock_shared` called at that quiescent point grants the handle to thread 3 while
task 7 is still queued and not applied — the reader sees the object without an accepted modification.
With `spur = false` the same event sequence is rejected (a failing `mtl` on a free mutex). -/
theorem C06_no_stranding_needs_no_spurious_failure :
    (∃ s, run true (strandedPrefix ++ [(3, .callSh .block), (3, .fld true), (3, .mtl false), (3, .slk), (3, .got true)])
        = some s ∧ s.pc 3 = .idle true ∧ s.queue = [7] ∧ s.applied = [] ∧ s.done = [7]) ∧
    run false (strandedPrefix ++ [(3, .callSh .block), (3, .fld true), (3, .mtl false)]) = none :=
  ⟨⟨_, rfl, rfl, rfl, rfl, rfl⟩, rfl⟩

/-- non-vacuity of `C06_no_stranding_next`: from the same quiescent point, without spurious failures,
`lock_shared` by thread 3 drains task 7 and only then acquires -/
example : ∃ s s', Reachable false s ∧ (s.queue = [7] ∧ s.flag = true ∧ s.pc 1 = .idle false ∧ s.pc 2 = .idle false) ∧
    runFrom step s [(3, .callSh .block), (3, .fld true), (3, .mtl true), (3, .fld true), (3, .fst false), (3, .qlk), (3, .qul),
      (3, .ucb 7), (3, .prd 0), (3, .pwr 7), (3, .uce 7 7), (3, .mul), (3, .slk), (3, .got true)] = some s' ∧
    s'.pc 3 = .idle true ∧ s'.applied = [7] ∧ s'.queue = [] ∧ s'.out 7 = some (.val 7) :=
  ⟨_, _, ⟨strandedPrefix, rfl⟩, ⟨rfl, rfl, rfl, rfl⟩, rfl, rfl, rfl, rfl, rfl⟩

/-- **… under any concurrency** (same hypothesis `spur = false`).  From a quiescent state in which
nobody holds a handle let ANY threads make ANY calls in ANY interleaving (several "next" callers at
once, new submitters, readers).  Whenever some thread holds `m` shared (granted by `lock_shared` /
`try_lock_shared*`, or copying in `load`) or is inside its own function on the direct path of
`modify_*`, every task that had been submitted at the quiescent point is applied: nobody is granted
access before the tasks accepted earlier have been applied. -/
theorem C06_no_stranding_next_concurrent {s s' : St} {es : List (Tid × Ev)} (h : Reachable false s)
    (hq : ∀ u, s.pc u = .idle false) (hrun : runFrom step s es = some s') {u : Tid}
    (hg : (s'.pc u).holdsS = true ∨ ∃ k a, s'.pc u = .aIn k a) : ∀ k, s.sub k ≠ none → k ∈ s'.applied := by
  have hq0 := C06_no_stranding_quiescent h (fun u => ⟨false, hq u⟩)
  have hL := (inv_reachable h).L
  have hfree := solo_free hL (t := u) (fun v _ => hq v)
  have hD0 : Draining s.queue s := by
    by_cases hne : s.queue = []
    · left; intro k hk; rw [hne] at hk; cases hk
    · right
      refine ⟨hfree.2 (by simp [hq u, Pc.holdsS]), ?_, Or.inl ⟨hfree.1 (by simp [hq u, Pc.holdsX]), hq0.1 hne, fun _ hk => hk⟩⟩
      intro v hv; rw [hq v] at hv; simp [Pc.atAcq] at hv
  obtain ⟨hr', hD'⟩ := draining_run h hD0 hrun
  have hO := hD'.granted (inv_reachable hr').L hg
  intro k hk
  rcases hq0.2.2.1 k hk with h1 | h1
  · exact applied_kept hrun h1
  · exact hO k h1

/-- Why the previous theorem starts from a quiescent state (no call in flight): the drain is best effort.  Accepted run
(no spurious failure involved): reader 1 holds a handle; `lock_shared` of thread 2 is in flight and
has already seen `flag = false`; task 7 is queued and its submitter returns; reader 1 releases — now
all submitters have returned and no handle is held.  Thread 4 calls `lock_shared`; thread 2 acquires
(without draining), so the try-lock of thread 4 fails and it is granted the handle too, with task 7
still queued.  Task 7 is not lost (the flag stays up: the next successful drain applies it). -/
theorem C06_no_stranding_inflight_caveat :
    ∃ s, run false [(1, .callSh .block), (1, .fld false), (1, .slk), (1, .got true),
        (2, .callSh .block), (2, .fld false),
        (3, .callMod 7 false), (3, .mtl false), (3, .qlk), (3, .qul), (3, .fst true), (3, .ret),
        (1, .sul),
        (4, .callSh .block), (4, .fld true),
        (2, .slk), (2, .got true),
        (4, .mtl false), (4, .slk), (4, .got true)] = some s ∧
      s.pc 4 = .idle true ∧ s.queue = [7] ∧ s.applied = [] ∧ s.done = [7] ∧ s.flag = true :=
  ⟨_, rfl, rfl, rfl, rfl, rfl, rfl⟩

/-! ## futures -/

/-- The outcome of a task (the shared state of its future) is written at most once: once recorded it
never changes. -/
theorem C06_future_once {spur : Bool} {s s' : St} {t : Tid} {e : Ev} {k : TaskId} {o : Outcome} (h : Reachable spur s)
    (hs : step s t e = some s') (hk : s.out k = some o) : s'.out k = some o :=
  (Kind.of_step hs).out_stable (inv_reachable h).U hk

/-- It is written by the step that ends the function of that very task — with the value the function
returned (`uce k r`) or the fact that it threw (`uth k`) — executed by the thread that is inside the
function (which holds `m` exclusively, `C06_exclusive_inside`). -/
theorem C06_future_at_apply {s s' : St} {t : Tid} {e : Ev} {k : TaskId} {o : Outcome}
    (hs : step s t e = some s') (hk : s.out k = none) (hk' : s'.out k = some o) :
    (s.pc t).running = some k ∧ ((∃ r, e = .uce k r ∧ o = .val r) ∨ (e = .uth k ∧ o = .exc)) := by
  have written {j : TaskId} {o' : Outcome} (h : upd s.out j (some o') k = some o) : j = k ∧ o' = o := by
    by_cases hj : k = j
    · subst hj; rw [upd_same] at h; cases h; exact ⟨rfl, rfl⟩
    · rw [upd_other _ _ _ _ hj, hk] at h; cases h
  have hne : s'.out k ≠ s.out k := by rw [hk, hk']; exact nofun
  generalize hp : s.pc t = p
  cases Step.of_step hp hs with
  | uceI | uceA => obtain ⟨rfl, rfl⟩ := written hk'; exact ⟨rfl, .inl ⟨_, rfl, rfl⟩⟩
  | uthI | uthA => obtain ⟨rfl, rfl⟩ := written hk'; exact ⟨rfl, .inr ⟨rfl, rfl⟩⟩
  | _ => exact absurd rfl hne

/-- an outcome exists only for applied tasks … -/
theorem C06_future_applied {spur : Bool} {s : St} (h : Reachable spur s) {k : TaskId} (hk : s.out k ≠ none) :
    k ∈ s.applied := (inv_reachable h).U.outA k hk

/-- … and every applied task whose function has ended has one: the future is ready. -/
theorem C06_future_fulfilled {spur : Bool} {s : St} (h : Reachable spur s) {k : TaskId} (hk : k ∈ s.applied)
    (hn : ∀ u, (s.pc u).running ≠ some k) : s.out k ≠ none := by
  intro ho
  obtain ⟨d, hd⟩ := (inv_reachable h).U.outD k hk ho
  exact hn d hd

/-- What the client observes through the real `std::future` is what the model recorded: a poll
reports "ready" iff the outcome exists, `get()` yields exactly it (value or exception). -/
theorem C06_future_observed {s s' : St} {t : Tid} {k : TaskId} :
    (∀ r, step s t (.fpoll k r) = some s' → r = (s.out k).isSome) ∧
    (∀ o, step s t (.fget k o) = some s' → s.out k = some o) := by
  constructor
  · intro r hs
    generalize hp : s.pc t = p at hs
    cases Step.of_step hp hs with
    | fpoll => rfl
  · intro o hs
    generalize hp : s.pc t = p at hs
    cases Step.of_step hp hs with
    | fget ho => exact ho

/-! ## non-vacuity: direct path, queued path (reader parked), drain by a later `modify_async`, futures -/
example : ∃ s, Reachable false s ∧ s.applied = [1, 2, 3] ∧ s.queue = [] ∧ s.val = 6 ∧
    s.before 3 = [2, 1] ∧ s.out 2 = some .exc ∧ s.out 3 = some (.val 6) ∧ s.done = [3, 2, 1] :=
  ⟨_, ⟨[(1, .callMod 1 false), (1, .mtl true), (1, .fld false), (1, .ucb 1), (1, .prd 0), (1, .pwr 1), (1, .uce 1 1),
        (1, .mul), (1, .ret),
        (2, .callSh .try_), (2, .fld false), (2, .stl true), (2, .got true), (2, .prd 1),
        (1, .callMod 2 true), (1, .mtl false), (1, .qlk), (1, .qul), (1, .fst true), (1, .ret), (1, .fpoll 2 false),
        (2, .sul),
        (3, .callMod 3 true), (3, .mtl true), (3, .fld true), (3, .fst false), (3, .qlk), (3, .qul),
        (3, .ucb 2), (3, .uth 2), (3, .ucb 3), (3, .prd 1), (3, .pwr 6), (3, .uce 3 6), (3, .mul), (3, .ret),
        (3, .fpoll 3 true), (3, .fget 3 (.val 6)), (1, .fpoll 2 true), (1, .fget 2 .exc)], rfl⟩,
   rfl, rfl, rfl, rfl, rfl, rfl, rfl⟩

/-! ## Liveness: every call returns, the drain loop terminates — for every scheduler

Environment events (`isEnv`, Proof/DeferredLive.lean): the calls (`callMod`, `callSh`, `callLoad`), the accesses
to the wrapped object (`prd`, `pwr`: bodies of task functions, `load()`'s copy, reads through a held handle — the
model does not bound their number) and the client's future operations (`fpoll`, `fget`).  Everything else is a
library step — try-lock outcomes, flag loads and stores, queue bracket, the start `ucb` and the end `uce`/`uth`
of every task function in a drain, releases, returns; the release `sul` of a held shared handle counts as one
pending step of its holder.
* `C06_terminates` (no livelock): an execution that makes no environment event from some point on cannot be infinite
  — every library step lowers `2·(|batch| + |queue|) + Σ_t rank (pc t)`; what is submitted
  meanwhile goes to the queue, not to the batch: no step makes a non-empty batch longer (`C06_drain_bounded`).
* `C06_progress` / `C06_stuck_all_returned` (no deadlock): while some thread is inside a call, some thread inside a
  call has an enabled library step; a state without one has every thread at rest (possibly holding a shared
  handle it has not released yet).
Not covered: starvation of one caller under an unfair mutex when others call infinitely often; and (a safety
caveat, see `C06_no_stranding_inflight_caveat`) tasks left in the queue of such a final state wait for the next call. -/

theorem C06_terminates (x : Live.Exec step) (N : Nat) (ts : List Tid) (hnd : ts.Nodup)
    (hts : ∀ n, N ≤ n → x.who n ∈ ts) (hnc : ∀ n, N ≤ n → isEnv (x.ev n) = false) : False :=
  Live.no_infinite_runG rankedG ts hnd x N trivial hts hnc

/-- every library step lowers the potential seen from the stepping thread and does not touch the other threads -/
theorem C06_step_lowers_potential {s s' : St} {t : Tid} {e : Ev} (hs : step s t e = some s') (he : isEnv e = false) :
    G s' + μ s' t < G s + μ s t ∧ ∀ u, u ≠ t → s'.pc u = s.pc u :=
  ⟨step_dec hs he, fun _ hu => step_pc_other hs hu⟩

/-- no step of anybody makes a non-empty batch longer: a step leaves the batch alone, takes its head off (`ucb` of the
draining thread), or refills it from the queue, and that swap needs an empty batch (`Kind.batch`) -/
theorem C06_drain_bounded {s s' : St} {t : Tid} {e : Ev} (hs : step s t e = some s') :
    s'.batch.length ≤ s.batch.length ∨ s.batch = [] := by
  rcases (Kind.of_step hs).batch with h | ⟨j, h⟩ | ⟨h, _⟩
  · exact .inl (Nat.le_of_eq (congrArg _ h))
  · rw [h]; exact .inl (Nat.le_succ _)
  · exact .inr h

/-- deadlock-freedom: if some thread is inside a call, some thread inside a call has an enabled library step -/
theorem C06_progress {spur : Bool} {s : St} (h : Reachable spur s) {t : Tid} (ht : Inside s t) :
    ∃ u, LibEnabled s u := progress (inv_reachable h) ht

/-- a reachable state without enabled library step: every thread is at rest (outside every call) -/
theorem C06_stuck_all_returned {spur : Bool} {s : St} (h : Reachable spur s) (hstuck : ∀ u, ¬ LibEnabled s u)
    (t : Tid) : ∃ hd, s.pc t = .idle hd := by
  apply Classical.byContradiction
  intro hn
  have ht : Inside s t := fun hd hp => hn ⟨hd, hp⟩
  obtain ⟨u, hu⟩ := C06_progress h ht
  exact hstuck u hu

/-- … and then no mutex is held exclusively, the queue mutex is free and no drain is in progress -/
theorem C06_stuck_quiescent {spur : Bool} {s : St} (h : Reachable spur s) (hstuck : ∀ u, ¬ LibEnabled s u) :
    s.mx = none ∧ s.qm = none ∧ s.batch = [] := by
  have hi := inv_reachable h
  have hidle := C06_stuck_all_returned h hstuck
  have hm : s.mx = none := by
    cases hm : s.mx with
    | none => rfl
    | some u =>
      obtain ⟨hd, hp⟩ := hidle u
      have := (hi.L.mxP u).mp hm
      rw [hp] at this; simp [Pc.holdsX] at this
  have hq : s.qm = none := by
    cases hq : s.qm with
    | none => rfl
    | some u =>
      obtain ⟨hd, hp⟩ := hidle u
      have := (hi.L.qmP u).mp hq
      rw [hp] at this; simp [Pc.holdsQ] at this
  exact ⟨hm, hq, hi.C.no_batch_unless (t := 0) (Or.inl hm)⟩

/-- non-vacuity: thread 3 is draining a batch of one queued task while thread 1 is about to queue another one;
potential 2·(1+0) + 5 + 10 -/
example : ∃ s, Reachable false s ∧ s.batch = [2] ∧ s.pc 3 = .dRun (.mod 3 true) ∧ s.pc 1 = .mTry 4 false ∧
    G s = 2 ∧ μ s 3 = 5 ∧ μ s 1 = 10 ∧ LibEnabled s 3 :=
  ⟨_, ⟨[(2, .callSh .try_), (2, .fld false), (2, .stl true), (2, .got true),
        (1, .callMod 2 true), (1, .mtl false), (1, .qlk), (1, .qul), (1, .fst true), (1, .ret),
        (2, .sul),
        (3, .callMod 3 true), (3, .mtl true), (3, .fld true), (3, .fst false), (3, .qlk), (3, .qul),
        (1, .callMod 4 false)], rfl⟩,
   rfl, rfl, rfl, rfl, rfl, rfl, ⟨by intro hd; cases hd <;> decide, .ucb 2, rfl, by decide⟩⟩

end ConcVerif.Deferred
