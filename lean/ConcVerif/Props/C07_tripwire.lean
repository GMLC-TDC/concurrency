import ConcVerif.Proof.HBTripWire
/-! # C07 for TripWire — publication through the trip line, at the level of the model

For EVERY trace accepted by the TripWire model `TripWire.step` (any number of lines, trigger and
detector objects, threads; the same `step` the observed traces of `TripWire.hpp` are checked against),
mapped to happens-before events (`TripWire.toHB`; the model accepts a tripping store / exchange only
with an order at least `release` and a load in `isTripped` only with an order at least `acquire`):

* `C07_tripwire`: the trigger's store synchronises with every later load of the line that reads from
  it (or from an exchange continuing its release sequence), hence
* `C07_tripwire_publication`: whatever the triggering thread did before the store happens-before
  whatever the detecting thread does after that load;
* `C07_tripwire_ghost`: the publication ghost of the model (`know`, `msg`) is sound for happens-before;
* `C07_tripwire_read` / `C07_tripwire_write`: every accepted client read of a value `v ≠ 0` happens-after
  a write of `v` to that datum, every accepted overwriting client write happens-after a write of the
  value it overwrites (with the harness's unique values per datum: after THE write / after the previous
  write — the write→read and write→write halves of data-race freedom for the client data).

Not a theorem of this model: read→write ordering of client data (the model does not track which
thread has READ a datum); for that half the observed traces are checked by `raceFree`. -/
namespace ConcVerif.TripWire

/-- **The release store synchronises with the acquire load that reads from it.**  `k`: a store /
exchange on line `l` (in an accepted trace: by a trigger's destructor, value `true`, order ≥ release);
`j`: a later load of `l` (order ≥ acquire) with no plain store of `l` strictly between them. -/
theorem C07_tripwire {n : Nat} {es : List (Tid × Ev)} {s : St} (h : run n es = some s) {k j : Nat} {t r : Tid} {ek : Ev}
    {l : LineId} {o : Ord} {v : Bool} (hk : es[k]? = some (t, ek)) (hw : ek.isWrite = true) (hline : ek.line? = some l)
    (hj : es[j]? = some (r, .ld l o v)) (hkj : k < j)
    (hno : ∀ m w o' v', k < m → m < j → es[m]? ≠ some (w, Ev.st l o' v')) : HB.HB (hbTrace es) k j :=
  .sw (tw_trip_sw h hk hw hline hj hkj hno)

/-- **Publication through the trip line.**  Anything thread `t` did at `i` before its tripping write
at `k` happens-before anything thread `r` does at `j'` after its load at `j` that read from that write. -/
theorem C07_tripwire_publication {n : Nat} {es : List (Tid × Ev)} {s : St} (h : run n es = some s) {i k j j' : Nat}
    {t r : Tid} {ei ek ej : Ev} {l : LineId} {o : Ord} {v : Bool} (hi : es[i]? = some (t, ei)) (hfi : ei ≠ .fork)
    (hk : es[k]? = some (t, ek)) (hw : ek.isWrite = true) (hline : ek.line? = some l)
    (hj : es[j]? = some (r, .ld l o v)) (hj' : es[j']? = some (r, ej)) (hfj : ej ≠ .fork) (hik : i < k) (hkj : k < j)
    (hjj : j < j') (hno : ∀ m w o' v', k < m → m < j → es[m]? ≠ some (w, Ev.st l o' v')) :
    HB.HB (hbTrace es) i j' := by
  have tid : ∀ {u : Tid} {e : Ev}, e ≠ .fork → ∃ he, toHB (u, e) = (u, he) := by
    intro u e he; cases e <;> first | exact absurd rfl he | exact ⟨_, rfl⟩
  obtain ⟨a, ha⟩ := tid (u := t) hfi
  obtain ⟨b, hb⟩ := tid (u := t) (e := ek) (by intro hc; subst hc; simp [Ev.isWrite] at hw)
  obtain ⟨c, hc⟩ := tid (u := r) hfj
  refine .trans (.po hik (by rw [hbTrace_get hi, ha]) (by rw [hbTrace_get hk, hb])) (.trans (.sw (tw_trip_sw h hk hw hline hj hkj hno)) ?_)
  exact .po hjj (hbTrace_get hj) (by rw [hbTrace_get hj', hc])

/-- **The publication ghost is sound.**  After every accepted trace: each entry `(d, v)` of `know t`
is a client write `pwr d v` at a position that happens-before-or-is an event of `t` (or its creation);
each entry of `msg l` is a client write ordered before-or-at the head of the current release sequence
of line `l` (a releasing write of `l` with no plain store of `l` after it). -/
theorem C07_tripwire_ghost {n : Nat} {es : List (Tid × Ev)} {s : St} (h : run n es = some s) :
    (∀ t d v, (d, v) ∈ s.know t → ∃ i u, es[i]? = some (u, Ev.pwr d v) ∧ HB.KnA (hbTrace es) t i) ∧
    (∀ l d v, (d, v) ∈ s.msg l → ∃ i u, es[i]? = some (u, Ev.pwr d v) ∧
      ∃ q, HeadAt es l q ∧ HB.HBeq (hbTrace es) i q) :=
  ghost_sound_run h

/-- **Client reads.**  Whenever the model accepts a client read of datum `d` returning `v ≠ 0` after an
accepted trace, a write of `v` to `d` in that trace happens-before the read. -/
theorem C07_tripwire_read {n : Nat} {es : List (Tid × Ev)} {s s' : St} {t : Tid} {d v : Nat} (h : run n es = some s)
    (hs : step s t (.prd d v) = some s') (hv : v ≠ 0) :
    ∃ i u, es[i]? = some (u, Ev.pwr d v) ∧ HB.HB (hbTrace (es ++ [(t, .prd d v)])) i es.length :=
  tw_read_hb h hs hv

/-- **Client writes.**  Whenever the model accepts a client write over a datum holding `≠ 0`, a write of
the overwritten value happens-before it. -/
theorem C07_tripwire_write {n : Nat} {es : List (Tid × Ev)} {s s' : St} {t : Tid} {d v : Nat} (h : run n es = some s)
    (hs : step s t (.pwr d v) = some s') (hd : s.data d ≠ 0) :
    ∃ i u, es[i]? = some (u, Ev.pwr d (s.data d)) ∧ HB.HB (hbTrace (es ++ [(t, .pwr d v)])) i es.length :=
  tw_write_hb h hs hd

/-- main thread 0 makes a trigger and a detector on the declared line; thread 1 writes datum 5 and
destroys the trigger (release store); thread 2 sees the line tripped and reads datum 5 -/
def hbWitness : List (Tid × Ev) :=
  [(0, .callMkT 1 .decl), (0, .retMkT 1 (some .decl)), (0, .callMkD 2 .decl), (0, .retMkD 2 (some .decl)),
   (1, .fork), (1, .pwr 5 9), (1, .callRm 1), (1, .st .decl .rel true), (1, .retRm 1),
   (2, .fork), (2, .callCk 2), (2, .ld .decl .acq true), (2, .retCk 2 true), (2, .prd 5 9)]

example : ∃ s, run 0 hbWitness = some s ∧ HB.HB (hbTrace hbWitness) 5 13 ∧ HB.raceFree (hbTrace hbWitness) = true :=
  ⟨_, rfl, C07_tripwire_publication (s := _) (n := 0) (l := .decl) (k := 7) (j := 11) rfl rfl (by intro h; cases h)
      rfl rfl rfl rfl rfl (by intro h; cases h) (by decide) (by decide) (by decide)
      (by intro m w o' v' h1 h2; have : m = 8 ∨ m = 9 ∨ m = 10 := by omega
          rcases this with h | h | h <;> subst h <;> (intro hc; cases hc)),
    by decide⟩

/-- the model rejects a relaxed tripping store and a relaxed load … -/
example : run 0 (hbWitness.take 7 ++ [(1, .st .decl .rlx true)]) = none := rfl
example : run 0 (hbWitness.take 11 ++ [(2, .ld .decl .rlx true)]) = none := rfl

/-- … and with them the same events would race on datum 5 -/
example : HB.raceFree [(1, .wr 5), (1, .st 0 .rlx), (2, .ld 0 .acq), (2, .rd 5)] = false := by decide

end ConcVerif.TripWire
