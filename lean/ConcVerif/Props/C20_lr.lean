import ConcVerif.Proof.LRStep
/-! # C20 (lr_guarded part) — a throwing functor leaves the object unlocked and all-or-nothing

Over the model `Model/LR.lean`, in which the user functor may throw (`uth`) before, in the middle of (leaving the
copy torn) or after its work, in the first and in the second application, under every interleaving with readers and
other writers.  `base` is `committed` at the moment the throwing `modify` took the write mutex.  All C03 / C14
theorems are proved over this same model, i.e. they hold on traces containing throws: later readers and writers
see one consistent value.  (The copy assignment of the roll-back / roll-forward throwing as well is the case the
header documents as "indeterminate" and is not modelled; the harness never injects it.) -/
namespace ConcVerif.LR

/-- Every choice of the throwing invocation is a model edge: the first application can throw before, during and
after its write (→ roll-back), the second likewise (→ roll-forward). -/
theorem C20_lr_throw_points (s : St) (t : Tid) (op : OpId) (l : Side) :
    (s.pc t = .wA op l ∨ s.pc t = .wF1 op l ∨ s.pc t = .wF1d op l → step s t .uth = some (s.setPc t (.wRb op l))) ∧
    (s.pc t = .wWait op l true true ∨ s.pc t = .wF2 op l ∨ s.pc t = .wF2d op l →
      step s t .uth = some (s.setPc t (.wRf op l))) := by
  constructor <;> rintro (h | h | h)
  · exact (Step.uthA h).to_step
  · exact (Step.uthF1 h).to_step
  · exact (Step.uthF1d h).to_step
  · exact (Step.uthWait h).to_step
  · exact (Step.uthF2 h).to_step
  · exact (Step.uthF2d h).to_step

/-- First application throws ⇒ rolled back: when the roll-back copy is complete (the mutex still held) both copies
equal `base`, nothing was committed and the side flag was not flipped — the modification has no effect at all, and
at no point in between could a reader hold the copy that was being written (`C03_no_touch`). -/
theorem C20_lr_first {s : St} (h : Reachable s) {w : Tid} {op : OpId} {l : Side} (hw : s.pc w = .wRbD op l) :
    s.valL = s.base ∧ s.valR = s.base ∧ s.committed = s.base ∧ s.rl = l ∧ s.mtx = some w := by
  have hf := full_reachable h
  have vk := hf.vinv.vk_at hw rfl
  exact ⟨vk.2 .L, vk.2 .R, vk.1, (hf.inv.phase_at hw rfl).1, (hf.inv.holder w).1 (hw ▸ rfl)⟩

/-- While the first application or its roll-back is in progress, nothing is committed and the copy readers are
directed to is intact: whatever the functor did to the other copy is invisible. -/
theorem C20_lr_first_invisible {s : St} (h : Reachable s) {w : Tid} {op : OpId} {l : Side}
    (hw : s.pc w = .wF1 op l ∨ s.pc w = .wRb op l ∨ s.pc w = .wRbC op l) :
    s.committed = s.base ∧ s.rl = l ∧ s.val l = s.base ∧ ∀ r x, (s.pc r).held = some x → x = l := by
  have hf := full_reachable h
  rcases hw with hw | hw | hw
  all_goals
    have vk := hf.vinv.vk_at hw rfl
    have ph := hf.inv.phase_at hw rfl
  · exact ⟨vk.1, ph.1, vk.2 l, ph.2⟩
  · exact ⟨vk.1, ph.1, vk.2, ph.2⟩
  · exact ⟨vk.1, ph.1, vk.2, ph.2⟩

/-- Second application throws ⇒ rolled forward: when the roll-forward copy is complete both copies equal
`base ++ [op]`, which is `committed` — the modification took effect completely. -/
theorem C20_lr_second {s : St} (h : Reachable s) {w : Tid} {op : OpId} {l : Side} (hw : s.pc w = .wRfD op l) :
    s.valL = s.base ++ [op] ∧ s.valR = s.base ++ [op] ∧ s.committed = s.base ++ [op] ∧ s.rl = l.flip ∧ s.mtx = some w := by
  have hf := full_reachable h
  have vk := hf.vinv.vk_at hw rfl
  exact ⟨vk.2 .L, vk.2 .R, vk.1, (hf.inv.phase_at hw rfl).1, (hf.inv.holder w).1 (hw ▸ rfl)⟩

/-- While the second application or its roll-forward is in progress, readers can only hold the complete copy. -/
theorem C20_lr_second_invisible {s : St} (h : Reachable s) {w : Tid} {op : OpId} {l : Side}
    (hw : s.pc w = .wF2 op l ∨ s.pc w = .wRf op l ∨ s.pc w = .wRfC op l) :
    s.committed = s.base ++ [op] ∧ s.rl = l.flip ∧ s.val l.flip = s.committed ∧
      ∀ r x, (s.pc r).held = some x → x = l.flip := by
  have hf := full_reachable h
  rcases hw with hw | hw | hw
  all_goals
    have vk := hf.vinv.vk_at hw rfl
    have ph := hf.inv.phase_at hw rfl
  · exact ⟨vk.1, ph.1, by rw [vk.1]; exact vk.2.2, ph.2⟩
  · exact ⟨vk.1, ph.1, by rw [vk.1]; exact vk.2, ph.2⟩
  · exact ⟨vk.1, ph.1, by rw [vk.1]; exact vk.2, ph.2⟩

/-- `base` really is `committed` at the time the mutex was taken: it is written by the `lock` event only. -/
theorem C20_lr_base {s s' : St} {t : Tid} {e : Ev} (hs : step s t e = some s') :
    s'.base = s.base ∨ (e = .lock ∧ s'.base = s.committed) :=
  step_base hs

/-- The lock is released before the exception reaches the caller: a thread whose `modify` is propagating an
exception (or is outside any call) does not hold the write mutex (`C20_lr_unlock_consistent`: the unlock that got it
there left both copies equal to `committed`). -/
theorem C20_lr_released {s : St} (h : Reachable s) {t : Tid} (ht : (∃ op fwd, s.pc t = .wExc op fwd) ∨ s.pc t = .idle) :
    s.mtx ≠ some t := by
  intro hm
  have := ((full_reachable h).inv.holder t).2 hm
  rcases ht with ⟨op, fwd, ht⟩ | ht <;> rw [ht] at this <;> cases this

/-- the unlock on the exception path (from either catch block) frees the mutex with both copies = `committed` -/
theorem C20_lr_unlock_consistent {s s' : St} (h : Reachable s) {t : Tid} {op : OpId} {fwd : Bool}
    (hs : step s t .unlock = some s') (h' : s'.pc t = .wExc op fwd) :
    s'.mtx = none ∧ s'.valL = s'.committed ∧ s'.valR = s'.committed ∧
      (fwd = false → s'.committed = s.base) ∧ (fwd = true → s'.committed = s.base ++ [op]) := by
  have hq := (full_reachable (reachable_step h hs)).vinv.vquiet
  cases Step.of_step hs with
  | unlockRb hpc =>
    rw [setPc_pc_self] at h'; cases h'
    exact ⟨rfl, hq rfl .L, hq rfl .R, fun _ => (C20_lr_first h hpc).2.2.1, nofun⟩
  | unlockRf hpc =>
    rw [setPc_pc_self] at h'; cases h'
    exact ⟨rfl, hq rfl .L, hq rfl .R, nofun, fun _ => (C20_lr_second h hpc).2.2.1⟩
  | unlockF2 => rw [setPc_pc_self] at h'; cases h'

/-- after a roll-forward the operation is, and stays, in `committed` when the exception reaches the caller -/
theorem C20_lr_second_committed {s : St} (h : Reachable s) {t : Tid} {op : OpId} (ht : s.pc t = .wExc op true) :
    op ∈ s.committed :=
  ret_committed h t op (Or.inr ht)

/-- The wrapper stays usable: whenever the mutex is free a waiting writer can take it, and readers are enabled in
every state (`C14_lr_reader_enabled`). -/
theorem C20_lr_usable (s : St) (t : Tid) (op : OpId) (h : s.pc t = .wCalled op) (hm : s.mtx = none) :
    (step s t .lock).isSome = true :=
  (Step.lock h hm).enabled

/-! ## non-vacuity -/

/-- first application throws in the middle (copy R torn), rolled back, unlocked: both copies `[]`, nothing committed;
a reader then sees `[]` and another modify goes through -/
example : ∃ s s', Reachable s ∧ s.pc 0 = .wExc 7 false ∧ s.mtx = none ∧ s.valL = [] ∧ s.valR = [] ∧ s.committed = [] ∧
    run s [(0, .exc (.modify 7)), (1, .call (.ls 0)), (1, .ldCL .L), (1, .inc .L 0), (1, .ldRL .L), (1, .ret (.ls 0)),
           (1, .rd .L []), (2, .call (.modify 8)), (2, .lock)] = some s' :=
  ⟨_, _, ⟨false, [(0, .call (.modify 7)), (0, .lock), (0, .ldRL .L), (0, .fBegin .R), (0, .uth), (0, .cpBegin .R), (0, .cpEnd .R []),
         (0, .unlock)], rfl⟩, rfl, rfl, rfl, rfl, rfl, rfl⟩

/-- second application throws, rolled forward: both copies `[7]` = committed -/
example : ∃ s, Reachable s ∧ s.pc 0 = .wRfD 7 .L ∧ s.valL = [7] ∧ s.valR = [7] ∧ s.committed = [7] :=
  ⟨_, ⟨false, [(0, .call (.modify 7)), (0, .lock), (0, .ldRL .L), (0, .fBegin .R), (0, .fEnd .R [7]), (0, .stRL .R), (0, .ldCL .L),
         (0, .ldCnt .R 0), (0, .stCL .R), (0, .ldCnt .L 0), (0, .fBegin .L), (0, .uth), (0, .cpBegin .L), (0, .cpEnd .L [7])],
      rfl⟩, rfl, rfl, rfl, rfl⟩

/-- the model rejects a roll-back that copies the wrong way (onto the side readers use) or a wrong value -/
example : ∃ s, Reachable s ∧ s.pc 0 = .wRb 7 .L ∧ step s 0 (.cpBegin .L) = none ∧
    (∃ s1, step s 0 (.cpBegin .R) = some s1 ∧ step s1 0 (.cpEnd .R [7]) = none) :=
  ⟨_, ⟨false, [(0, .call (.modify 7)), (0, .lock), (0, .ldRL .L), (0, .fBegin .R), (0, .fEnd .R [7]), (0, .uth)], rfl⟩, rfl, rfl,
    ⟨_, rfl, rfl⟩⟩

end ConcVerif.LR
