import ConcVerif.Proof.HB
import ConcVerif.Proof.HBLock
import ConcVerif.Proof.HBPub
import ConcVerif.Proof.HBComplete
import ConcVerif.Proof.HBLockFam
import ConcVerif.Proof.HBBarrier
import ConcVerif.Proof.HBLatch
/-! # C07 — no data races; every granted access happens-after conflicting earlier ones

Generic layer (`ConcVerif.HB`, `Base/HB.lean`): a trace is ANY list of `(thread, event)` pairs — any
number of threads, mutexes, atomic and plain locations; events carry the memory order written in the
source.  `HB` is the declarative happens-before relation (program order ∪ synchronises-with, closed
transitively; C++20 release sequences; `unlock → lock` edges except `unlock_shared → lock_shared`;
spawn/join), `Race` a pair of conflicting plain accesses not ordered by it, `raceFree` the executable
vector-clock checker that `Driver/HB.lean` runs on every observed trace of every client.

(i)   `C07_raceFree_sound` / `C07_raceFree_ordered` / `C07_raceFree_iff`: the checker DECIDES the
      declarative definition (sound: an accepted trace has no race; complete: it raises no false alarm).
(ii)  `C07_lockset`: one mutex held at every access (exclusively at writes) ⇒ every access happens
      after every earlier conflicting one — for EVERY trace consistent with mutex semantics.
(iii) `C07_publication`: release store / RMW-continued release sequence → acquire load.
(iv)  `C07_weak_*`: non-releasing stores / non-acquiring loads give no edge; a concrete racy trace.
(v)   `C07_lockfam_*`, `C07_barrier_*`, `C07_latch_*`: every trace ACCEPTED by the component models,
      mapped to happens-before events, satisfies the hypotheses of (ii) / (iii).

Memory-model abstraction (trusted base): operational, the trace is an SC interleaving and every
load reads the latest write; edges come from the DECLARED orders. -/
namespace ConcVerif.HB

/-! ## (i) the executable checker decides the declarative definition -/

/-- If the vector-clock checker accepts a trace, every pair of conflicting plain accesses is ordered
by happens-before: the later access happens after the earlier one. -/
theorem C07_raceFree_ordered {tr : Trace} (h : raceFree tr = true) {i j : Nat} (hij : i < j)
    (hc : Conflict tr i j) : HB tr i j :=
  raceFree_ordered h i j hij hc

/-- … hence an accepted trace contains no data race. -/
theorem C07_raceFree_sound {tr : Trace} (h : raceFree tr = true) : ¬ Race tr :=
  raceFree_sound h

/-- Every clock entry the checker ever computes is justified by a happens-before path (the invariant
behind soundness, stated for the final clock of each thread): if the clock of `t` knows the local
time of position `i`, then `i` happens-before-or-equals an event of `t` or the creation of `t`. -/
theorem C07_clocks_justified (tr : Trace) (t u : Tid) (e : Ev) (i : Nat) (hi : tr[i]? = some (u, e))
    (hl : lt tr i u ≤ vget ((vrun {} tr).c t) u) : ∃ j, Anch tr t j ∧ HBeq tr i j :=
  ((just_vrun tr).jC t).2 i u e hi hl

/-- Completeness: a trace without a data race is accepted — a REJECT of the checker is always a
genuine race of the declarative definition. -/
theorem C07_raceFree_complete {tr : Trace} (h : ¬ Race tr) : raceFree tr = true :=
  raceFree_complete h

/-- The executable checker decides the declarative definition. -/
theorem C07_raceFree_iff (tr : Trace) : raceFree tr = true ↔ ¬ Race tr :=
  raceFree_iff tr

/-- Vector clocks reflect happens-before exactly (completeness half): if `i` happens before `j`, the
clock of `j`'s thread right after `j` knows the local time of `i`. -/
theorem C07_clocks_complete {tr : Trace} {i j : Nat} {t u : Tid} {ei ej : Ev} (h : HB tr i j)
    (hi : tr[i]? = some (t, ei)) (hj : tr[j]? = some (u, ej)) :
    lt tr i t ≤ vget ((vrun {} (tr.take (j + 1))).c u) t :=
  hb_known h hi hj

/-! ## (ii) lockset theorem -/

/-- **Lockset.**  For every trace that is consistent with the semantics of (shared) mutexes, any number
of threads: if every plain access to `x` is made while the accessing thread holds `m` — in any mode
for a read, exclusively for a write — then each access to `x` happens after every earlier conflicting
access (so the writes made under one hold are visible to the next holder). -/
theorem C07_lockset {tr : Trace} {x m : Loc} (hok : MutexOK tr) (hls : LockSet tr x m) {i j : Nat} (hij : i < j)
    (hc : ConflictOn tr x i j) : HB tr i j :=
  lockset_hb hok hls hij hc

/-- … hence a trace in which every plain location is protected by some mutex has no data race. -/
theorem C07_lockset_no_race {tr : Trace} (hok : MutexOK tr) (hall : ∀ x, ∃ m, LockSet tr x m) : ¬ Race tr := by
  intro ⟨i, j, hij, ⟨x, hc⟩, hn⟩
  obtain ⟨m, hls⟩ := hall x
  exact hn (lockset_hb hok hls hij hc)

/-- … and is accepted by the executable checker. -/
theorem C07_lockset_accepted {tr : Trace} (hok : MutexOK tr) (hall : ∀ x, ∃ m, LockSet tr x m) : raceFree tr = true :=
  raceFree_complete (C07_lockset_no_race hok hall)

/-- The mutex-consistency hypothesis yields mutual exclusion (it is not an extra assumption about
who holds what): two different threads never hold conflicting modes of a mutex at the same time. -/
theorem C07_mutex_exclusion {tr : Trace} (hok : MutexOK tr) {n : Nat} (hn : n ≤ tr.length) {t u : Tid} {m : Loc}
    {a b : Mode} (htu : t ≠ u) (ht : held (tr.take n) t m = some a) (hu : held (tr.take n) u m = some b) :
    a = .S ∧ b = .S :=
  held_excl hok hn htu ht hu

/-! ## (iii) publication through an atomic -/

/-- **Publication.**  Anything thread `t` did at `i` (e.g. a plain write) before a releasing
(`release` / `acq_rel` / `seq_cst`) store or RMW at `k` on atomic `a` happens before anything thread `u`
does at `j` (e.g. a plain read) after an acquiring (`acquire` / `acq_rel` / `seq_cst`) load or RMW at `l`
that reads from that write or from a write `w` of its RMW-continued release sequence — the pattern of
TripWire, the Latch fast path, the left-right flags and counters and the RCU link stores. -/
theorem C07_publication {tr : Trace} {a : Loc} {i k w l j : Nat} {t u : Tid} {ei ew er ej : Ev}
    (hik : i < k) (hlj : l < j) (hi : tr[i]? = some (t, ei)) (hk : tr[k]? = some (t, ew)) (hrel : RelWrite ew a)
    (hseq : InRelSeq tr a k w) (hrf : ReadsFrom tr a w l) (hl : tr[l]? = some (u, er)) (hacq : AcqRead er a)
    (hj : tr[j]? = some (u, ej)) : HB tr i j :=
  publication hik hlj hi hk hrel hseq hrf hl hacq hj

/-! ## (iv) weak orders give no edge -/

/-- A store whose order is weaker than `release` synchronises with nothing (the only
synchronises-with edge leaving it is the join of its whole thread). -/
theorem C07_weak_store_no_edge {tr : Trace} {i j : Nat} {t : Tid} {a : Loc} {o : Ord}
    (hi : tr[i]? = some (t, .st a o)) (ho : o.isRel = false) (h : Sw tr i j) : ∃ v, tr[j]? = some (v, .join t) :=
  sw_weak_store hi ho h

/-- A load whose order is weaker than `acquire` synchronises with nothing (the only
synchronises-with edge entering it is the creation of its thread). -/
theorem C07_weak_load_no_edge {tr : Trace} {i j : Nat} {u : Tid} {a : Loc} {o : Ord}
    (hj : tr[j]? = some (u, .ld a o)) (ho : o.isAcq = false) (h : Sw tr i j) : ∃ v, tr[i]? = some (v, .fork u) :=
  sw_weak_load hj ho h

/-- Without mutexes, thread edges and releasing writes, happens-before is program order only. -/
theorem C07_weak_orders_only_po {tr : Trace}
    (hno : ∀ (i : Nat) (t : Tid) (e : Ev), tr[i]? = some (t, e) →
      (∀ m md, e ≠ .acq m md) ∧ (∀ u, e ≠ .fork u) ∧ (∀ u, e ≠ .join u) ∧ (∀ a, ¬ RelWrite e a))
    {i j : Nat} (h : HB tr i j) : ∃ t ei ej, tr[i]? = some (t, ei) ∧ tr[j]? = some (t, ej) :=
  hb_po_of_no_release hno h

/-- message passing with a RELAXED flag store: plain data `0`, flag `1` -/
def racyTrace : Trace := [(1, .wr 0), (1, .st 1 .rlx), (2, .ld 1 .acq), (2, .rd 0)]

/-- the same with a release store -/
def publishedTrace : Trace := [(1, .wr 0), (1, .st 1 .rel), (2, .ld 1 .acq), (2, .rd 0)]

/-- Non-vacuity of the order checks: with a relaxed flag store the checker rejects, and the trace IS
racy by the declarative definition (the read of the data is not ordered after the write) — although
the interleaving is sequentially consistent and the reader did see the flag. -/
theorem C07_relaxed_counterexample : raceFree racyTrace = false ∧ Race racyTrace := by
  refine ⟨by decide, 0, 3, by decide, ⟨0, 1, 2, _, _, rfl, rfl, .inr rfl, .inl rfl, .inl rfl⟩, fun h => ?_⟩
  -- no event of the trace synchronises, so `0` and `3` would have to belong to one thread
  obtain ⟨t, ei, ej, h1, h2⟩ := hb_po_of_no_release (tr := racyTrace) (fun i t e hi => by
    have := List.mem_of_getElem? hi
    simp only [racyTrace, List.mem_cons, Prod.mk.injEq, List.not_mem_nil, or_false] at this
    rcases this with ⟨-, rfl⟩ | ⟨-, rfl⟩ | ⟨-, rfl⟩ | ⟨-, rfl⟩ <;> refine ⟨nofun, nofun, nofun, ?_⟩ <;>
      rintro a ⟨o, ho, he | he⟩ <;> cases he <;> cases ho) h
  exact absurd ((Prod.mk.inj (Option.some.inj h1)).1.trans (Prod.mk.inj (Option.some.inj h2)).1.symm) (by decide)

/-- … and with the release store the same program is accepted and has no race. -/
theorem C07_release_accepted : raceFree publishedTrace = true ∧ ¬ Race publishedTrace :=
  ⟨by decide, raceFree_sound (by decide)⟩

/-! ### Non-vacuity of (i)–(iii) -/

/-- two threads (forked by thread 0) access `x = 0` under mutex `0`; thread 0 joins them -/
def lockedTrace : Trace :=
  [(0, .fork 1), (0, .fork 2), (1, .acq 0 .X), (1, .wr 0), (1, .rel 0 .X), (2, .acq 0 .S), (2, .rd 0), (2, .rel 0 .S),
   (2, .acq 0 .X), (2, .wr 0), (2, .rel 0 .X), (0, .join 1), (0, .join 2)]

/-- the hypotheses of (i) and (ii) hold on a trace with genuine cross-thread conflicts, and the
conclusion is not trivial: the conflicting accesses at 3 and 9 belong to different threads -/
example : raceFree lockedTrace = true ∧ MutexOK lockedTrace ∧ LockSet lockedTrace 0 0 ∧
    ConflictOn lockedTrace 0 3 9 ∧ ConflictOn lockedTrace 0 3 6 ∧ HB lockedTrace 3 9 := by
  have h1 : MutexOK lockedTrace := by decide
  have h2 : LockSet lockedTrace 0 0 := by decide
  have hc : ConflictOn lockedTrace 0 3 9 := ⟨1, 2, _, _, rfl, rfl, .inr rfl, .inr rfl, .inl rfl⟩
  exact ⟨by decide, h1, h2, hc, ⟨1, 2, _, _, rfl, rfl, .inr rfl, .inl rfl, .inl rfl⟩,
    C07_lockset h1 h2 (by decide) hc⟩

/-- after the joins the main thread may read without the lock (join edges) -/
example : raceFree (lockedTrace ++ [(0, .rd 0)]) = true := by decide

/-- … but not before them -/
example : raceFree (lockedTrace.take 11 ++ [(0, .rd 0)]) = false := by decide

/-- writes under a SHARED hold are not protected: the checker rejects -/
example : raceFree [(1, .acq 0 .S), (1, .wr 0), (1, .rel 0 .S), (2, .acq 0 .S), (2, .wr 0), (2, .rel 0 .S)] = false := by
  decide

/-- publication through a release sequence continued by a (relaxed) RMW of a third thread -/
def chainTrace : Trace := [(1, .wr 5), (1, .st 0 .rel), (3, .rmw 0 .rlx), (2, .ld 0 .acq), (2, .rd 5)]

example : HB chainTrace 0 4 ∧ raceFree chainTrace = true := by
  refine ⟨?_, by decide⟩
  refine C07_publication (a := 0) (i := 0) (k := 1) (w := 2) (l := 3) (j := 4) (by decide) (by decide) rfl rfl
    ⟨.rel, rfl, .inl rfl⟩ ⟨by decide, ?_⟩ ⟨by decide, ⟨3, _, rfl, .rlx, .inr rfl⟩, ?_⟩ rfl ⟨.acq, rfl, .inl rfl⟩ rfl
  · intro k' v o h1 h2
    have : k' = 2 := by omega
    subst this; simp [chainTrace]
  · intro k v e h1 h2; omega

/-- a plain store by another thread in between breaks the release sequence: rejected -/
example : raceFree [(1, .wr 5), (1, .st 0 .rel), (3, .st 0 .rlx), (2, .ld 0 .acq), (2, .rd 5)] = false := by decide

end ConcVerif.HB

/-! ## (v) the component models -/

namespace ConcVerif.LockFam

/-- **Lock-based wrappers.**  In every trace accepted by the wrapper model with locking enabled (any
wrapper, any of the four mutex types, any client program and interleaving), mapped to happens-before
events, each access to the wrapped object happens after every earlier conflicting access. -/
theorem C07_lockfam_payload {cap : Bool} {es : List (Tid × Ev)} {s : St} (h : run true cap es = some s) {i j : Nat}
    (hij : i < j) (hc : HB.ConflictOn (hbTrace es) 0 i j) : HB.HB (hbTrace es) i j :=
  lockfam_hb h hij hc

/-- … the mapped trace is consistent with mutex semantics and satisfies the lockset discipline, so
`C07_lockset` applies to every accepted trace, not only to the observed ones. -/
theorem C07_lockfam_lockset {cap : Bool} {es : List (Tid × Ev)} {s : St} (h : run true cap es = some s) :
    HB.MutexOK (hbTrace es) ∧ HB.LockSet (hbTrace es) 0 0 :=
  (hb_sim h).2

/-- … and the executable race checker accepts every trace the wrapper model accepts: a REJECT of the
`hb` driver on a wrapper trace can only come with a rejection by the wrapper model. -/
theorem C07_lockfam_accepted {cap : Bool} {es : List (Tid × Ev)} {s : St} (h : run true cap es = some s) :
    HB.raceFree (hbTrace es) = true :=
  HB.raceFree_complete (lockfam_no_race h)

def hbWitness : List (Tid × Ev) :=
  [(1, .callW (.st 5)), (1, .lk .X .block true), (1, .wr 5), (1, .rel .X), (1, .retW .unit),
   (2, .callW .ld), (2, .lk .X .block true), (2, .rd 5), (2, .rel .X), (2, .retW (.val 5))]

example : ∃ s, run true false hbWitness = some s ∧ HB.ConflictOn (hbTrace hbWitness) 0 2 7 :=
  ⟨_, rfl, 1, 2, _, _, rfl, rfl, .inr rfl, .inl rfl, .inl rfl⟩

end ConcVerif.LockFam

namespace ConcVerif.Barrier

/-- **Barrier.**  In every trace accepted by the Barrier model (any number of participants and
generations, drops, spurious wake-ups), each plain access to `threshold_` / `count_` / `generation_`
happens after every earlier one — even when all of them are counted as conflicting writes. -/
theorem C07_barrier_fields {P : List Tid} {es : List (Tid × Ev)} {s : St} (h : run P es = some s) {i j : Nat}
    (hij : i < j) (hc : HB.ConflictOn (hbTrace es) 0 i j) : HB.HB (hbTrace es) i j :=
  barrier_hb h hij hc

theorem C07_barrier_lockset {P : List Tid} {es : List (Tid × Ev)} {s : St} (h : run P es = some s) :
    HB.MutexOK (hbTrace es) ∧ HB.LockSet (hbTrace es) 0 0 :=
  (hb_sim h).2

theorem C07_barrier_accepted {P : List Tid} {es : List (Tid × Ev)} {s : St} (h : run P es = some s) :
    HB.raceFree (hbTrace es) = true :=
  HB.raceFree_complete (barrier_no_race h)

def hbWitness : List (Tid × Ev) :=
  [(1, .call .wait), (1, .mlk), (1, .plain), (1, .cwt ⟨none, some 1, some 0⟩),
   (2, .call .wait), (2, .mlk), (2, .plain), (2, .cna), (2, .mul ⟨some 2, some 2, some 1⟩), (2, .ret .wait),
   (1, .cwk .notified), (1, .plain), (1, .mul ⟨some 2, some 2, some 1⟩), (1, .ret .wait)]

/-- accesses on both sides of a condition-variable wait conflict with the other thread's -/
example : ∃ s, run [1, 2] hbWitness = some s ∧ HB.ConflictOn (hbTrace hbWitness) 0 2 6 ∧
    HB.ConflictOn (hbTrace hbWitness) 0 6 11 :=
  ⟨_, rfl, ⟨1, 2, _, _, rfl, rfl, .inr rfl, .inr rfl, .inl rfl⟩, ⟨2, 1, _, _, rfl, rfl, .inr rfl, .inr rfl, .inl rfl⟩⟩

end ConcVerif.Barrier

namespace ConcVerif.Latch

/-- **Latch, release sequence of the counter.**  For any sequence of Latch-model events: every
decrement of `counter_` (a seq_cst RMW) happens before every later seq_cst load of it, because the
counter is never written by a plain store. -/
theorem C07_latch_counter (es : List (Tid × Ev)) {i j : Nat} {t u : Tid} {old v : Int} (hij : i < j)
    (hi : es[i]? = some (t, .dec old)) (hj : es[j]? = some (u, .ld v)) : HB.HB (hbTrace es) i j :=
  dec_hb_ld es hij hi hj

/-- **Latch, fast path included.**  In every trace accepted by the Latch model, when `wait` /
`arrive_and_wait` returns at `r`, the thread has loaded the counter at some `l < r` and seen `v ≤ 0`;
`start - v ≥ start` decrements precede that load and each of them happens-before the return — whatever
the arriving threads wrote before `arrive()` is visible after `wait()`, also when `wait()` took no lock. -/
theorem C07_latch_fast {start : Int} {es : List (Tid × Ev)} {s : St} (h : run start es = some s) {r : Nat} {u : Tid}
    {k : Kind} (hr : es[r]? = some (u, .ret k)) (hk : k ≠ .arrive) :
    ∃ l v, l < r ∧ es[l]? = some (u, .ld v) ∧ v ≤ 0 ∧ (start - v : Int) = decs (es.take l) ∧
      ∀ i t old, i < l → es[i]? = some (t, .dec old) → HB.HB (hbTrace es) i r :=
  latch_wait_hb h hr hk

/-- thread 2 arrives (lock, decrement, notify); thread 1 calls `wait` afterwards and returns on the
lock-free fast path -/
def hbWitness : List (Tid × Ev) :=
  [(2, .call .arrive), (2, .mlk), (2, .dec 1), (2, .ld 0), (2, .cna), (2, .mul), (2, .ret .arrive),
   (1, .call .wait), (1, .ld 0), (1, .ret .wait)]

example : ∃ s, run 1 hbWitness = some s ∧ hbWitness[9]? = some (1, .ret .wait) ∧ hbWitness[2]? = some (2, .dec 1) :=
  ⟨_, rfl, rfl, rfl⟩

end ConcVerif.Latch
