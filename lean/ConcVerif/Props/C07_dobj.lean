import ConcVerif.Proof.HBDObj
import ConcVerif.Proof.HBDObjPub
import ConcVerif.Proof.HBComplete
/-! # C07 for `DelayedObjects` — the four promise maps behind `promiseLock`, and the value handed to a future

Every statement is about EVERY trace `es` accepted by the `DelayedObjects` model (`DObj.run es = some s`: any
number of threads, any interleaving of `getFuture` / `setDelayedValue` / `fulfillAllPromises` / the queries /
the destructor, consumers observing futures), mapped to happens-before events:

* `hbTrace es` (stateless map `toHB`): `mlk` / `mul` = exclusive acquire / release of `promiseLock` (mutex 0);
  `acc` = plain access to one of the four `std::map` objects, counted as a WRITE of one location (plain
  location 0 — every two accesses conflict: the strongest reading); `got p _` = acquire load of the shared
  state of promise `p` (atomic location `p + 1`); `call`, `ret` and `pset` = `nop` (the model's `pset v` does
  not name its promise, so the stateless map drops the release: fewer edges, stronger race-freedom claim).
* `hbTraceP L es`: in addition the `j`-th `pset` event is the release store to the shared state of the promise
  of the `j`-th entry of the log `L`; with `L := s.sets` (the model's ghost log of `set_value` calls) this is
  the entry the event's own critical section logged (`C07_dobj_pset_entry`).  TRUSTED: `std::promise::set_value`
  synchronises with the `std::future::get` / `wait` that finds the state ready ([futures.state]), i.e. they are a
  release/acquire pair on the shared state.

What the model allows outside the lock: ONLY the destructor's accesses after its own critical section (member
destruction of the maps: `acc` at pc `unlocked dtor`).  The model's client obligation for the destructor
(`callOk`): it is called when no thread is inside any call, and no call is accepted afterwards.  For those
accesses the lockset discipline does not hold; what holds — and is proved — is that they happen after every
earlier access, through the destructor's own lock acquisition (`C07_dobj_maps`), and that nothing can follow
them in another thread (`C07_dobj_access`).  So EVERY accepted trace is race free (`C07_dobj_accepted`). -/
namespace ConcVerif.DObj

/-- **Mutex consistency.**  Every accepted trace, mapped to happens-before events, respects the semantics of
`promiseLock`: it is acquired only when nobody holds it and released only by its holder. -/
theorem C07_dobj_mutex {es : List (Tid × Ev)} {s : St} (h : run es = some s) : HB.MutexOK (hbTrace es) := by
  rw [hbTrace_eq]; exact (sim_run [] h).lock.2

/-- … and what the mapped trace says is held before any position `n` is exactly the model's `lock` field
there: thread `u` holds `promiseLock` (exclusively) iff `lock = some u`. -/
theorem C07_dobj_lock_mirror {es : List (Tid × Ev)} {s1 : St} {n : Nat} (h1 : run (es.take n) = some s1) (u : Tid) :
    HB.held ((hbTrace es).take n) u 0 = if s1.lock = some u then some .X else none := by
  rw [hbTrace_eq]; exact held_prefix [] h1 u

/-- **Every access to the maps is made holding `promiseLock` — or is the destructor's member destruction.**
For every `acc` at position `n` by thread `c` of an accepted trace: either `c` holds the lock exclusively at
`n`, or `c` is the registered closer and (`DtorAt es c n`) there are positions `k < l < n` where `c` called the
destructor (`k`) and took the lock (`l`), and after `k` no other thread did anything — in the WHOLE trace, also
after `n` — but observe futures (`got`). -/
theorem C07_dobj_access {es : List (Tid × Ev)} {s : St} (h : run es = some s) {n : Nat} {c : Tid}
    (hn : es[n]? = some (c, Ev.acc)) :
    HB.held ((hbTrace es).take n) c 0 = some .X ∨ (s.closer = some c ∧ DtorAt es c n) := by
  rw [hbTrace_eq]; exact (sim_run [] h).acc n c hn

/-- **Lockset, until the destructor is called.**  As long as the destructor has not been called (`closer = none`
in the state reached) every plain access of the trace is made holding `promiseLock` exclusively, so the generic
lockset theorem `C07_lockset` applies. -/
theorem C07_dobj_lockset {es : List (Tid × Ev)} {s : St} (h : run es = some s) (hc : s.closer = none) :
    HB.MutexOK (hbTrace es) ∧ HB.LockSet (hbTrace es) 0 0 := by
  rw [hbTrace_eq]; exact ⟨(sim_run [] h).lock.2, dobj_lockset [] h hc⟩

/-- **Conflicting map accesses are ordered.**  In every accepted trace — destructor included — each access to
the maps happens after every earlier one, even with all of them counted as writes.  For two accesses under the
lock this is the unlock → lock edge; for the destructor's member destruction it is
`access → unlock (that thread) → lock (destructor) → member destruction (program order)`. -/
theorem C07_dobj_maps {es : List (Tid × Ev)} {s : St} (h : run es = some s) {i j : Nat} (hij : i < j)
    (hc : HB.ConflictOn (hbTrace es) 0 i j) : HB.HB (hbTrace es) i j := by
  rw [hbTrace_eq] at hc ⊢; exact dobj_hb [] h hij hc

/-- the same in terms of the model's events: any two `acc` events of an accepted trace are ordered -/
theorem C07_dobj_acc_ordered {es : List (Tid × Ev)} {s : St} (h : run es = some s) {i j : Nat} {t u : Tid} (hij : i < j)
    (hi : es[i]? = some (t, Ev.acc)) (hj : es[j]? = some (u, Ev.acc)) : HB.HB (hbTrace es) i j := by
  rw [hbTrace_eq]
  exact dobj_hb [] h hij ⟨t, u, _, _, hbTraceP_get [] hi, hbTraceP_get [] hj, .inr rfl, .inr rfl, .inl rfl⟩

/-- **No data race**: no accepted trace contains two conflicting plain accesses unordered by happens-before. -/
theorem C07_dobj_no_race {es : List (Tid × Ev)} {s : St} (h : run es = some s) : ¬ HB.Race (hbTrace es) := by
  rw [hbTrace_eq]; exact dobj_no_race [] h

/-- **The executable race checker accepts every trace the model accepts**: a REJECT of the `hb` driver on a
`DelayedObjects` trace can only come with a rejection by the model. -/
theorem C07_dobj_accepted {es : List (Tid × Ev)} {s : St} (h : run es = some s) : HB.raceFree (hbTrace es) = true :=
  HB.raceFree_complete (C07_dobj_no_race h)

/-- All of the above also holds for the promise-aware mapping, whatever log `L` names the promises: the
promise edges are not needed for (and do not disturb) the protection of the maps. -/
theorem C07_dobj_promise_aware (L : List (Id × Val)) {es : List (Tid × Ev)} {s : St} (h : run es = some s) :
    HB.MutexOK (hbTraceP L es) ∧
    (∀ i j, i < j → HB.ConflictOn (hbTraceP L es) 0 i j → HB.HB (hbTraceP L es) i j) ∧
    HB.raceFree (hbTraceP L es) = true :=
  ⟨(sim_run L h).lock.2, fun _ _ hij hc => dobj_hb L h hij hc, HB.raceFree_complete (dobj_no_race L h)⟩

/-! ## the value passing from `set_value` to the consumer -/

/-- **Every `set_value` is made holding `promiseLock`.** -/
theorem C07_dobj_pset_locked {es : List (Tid × Ev)} {s : St} (h : run es = some s) {q : Nat} {t : Tid} {v : Val}
    (hq : es[q]? = some (t, Ev.pset v)) : HB.held ((hbTrace es).take q) t 0 = some .X := by
  obtain ⟨s1, s2, h1, h2⟩ := runFrom_at h hq
  rw [hbTrace_eq, held_prefix [] h1]
  cases step_tr h2 with
  | pset o r todo v hpc hv =>
    rw [((inv_reachable ⟨_, h1⟩).lockPc t).2 ⟨o, r, todo, hpc⟩]; exact HB.ofOwner_self t

/-- **Which promise a `set_value` event satisfies.**  The `set_value(v)` event at position `q` of an accepted
trace is matched with the entry number `psetCount (es.take q)` (= number of earlier `set_value` events) of the
model's log `s.sets`; that entry carries the same value `v` (it is one of the entries the event's own critical
section logged when it took the lock), and distinct events are matched with distinct promises (`s.sets` names
no promise twice: `C18_exactly_once_at_most`). -/
theorem C07_dobj_pset_entry {es : List (Tid × Ev)} {s : St} (h : run es = some s) {q : Nat} {t : Tid} {v : Val}
    (hq : es[q]? = some (t, Ev.pset v)) : ∃ p, s.sets[psetCount (es.take q)]? = some (p, v) :=
  pset_entry h hq

/-- **Publication through a promise** (partial: see below).  When a consumer finds future `p` ready with value
`v` (`got p (val v)` at position `g` of an accepted trace), then
* EITHER the `set_value(v)` event matched with promise `p` is at some `q < g` and HAPPENS-BEFORE `g` in the
  promise-aware trace — so does everything the setting thread did before it, and the consumer's read of the
  value is ordered after the construction of the value into the shared state;
* OR the thread that satisfies `p` holds `promiseLock`, is inside its critical section and still has a
  `set_value(v)` to perform.

What is missing (hence `_partial`): the second case.  The model changes the promise state at the
linearisation point (the `mlk`), not at the `pset` event, so it accepts a `got` between the lock acquisition and
the `set_value` event of the same critical section.  Real executions cannot produce such a trace (a future is
not ready before `set_value` returns), but the model does not exclude it; an unconditional "the promise set
happens-before the consumer's get" needs `got p` to be enabled by the `pset` event, i.e. a change of `step`
(`pset` would have to name its promise). -/
theorem C07_dobj_publication_partial {es : List (Tid × Ev)} {s : St} (h : run es = some s) {g : Nat} {u : Tid} {p : Id}
    {v : Val} (hg : es[g]? = some (u, Ev.got p (.val v))) :
    (∃ q t, q < g ∧ es[q]? = some (t, Ev.pset v) ∧ s.sets[psetCount (es.take q)]? = some (p, v) ∧
        HB.HB (hbTraceP s.sets es) q g) ∨
    (∃ s1 t o r td, run (es.take g) = some s1 ∧ s1.lock = some t ∧ s1.pc t = .locked o r td ∧ v ∈ td) :=
  got_published h hg

/-- … in particular, a value observed while nobody holds `promiseLock` was published: its `set_value`
happens-before the observation. -/
theorem C07_dobj_publication_unlocked {es : List (Tid × Ev)} {s s1 : St} (h : run es = some s) {g : Nat} {u : Tid}
    {p : Id} {v : Val} (hg : es[g]? = some (u, Ev.got p (.val v))) (h1 : run (es.take g) = some s1)
    (hl : s1.lock = none) :
    ∃ q t, q < g ∧ es[q]? = some (t, Ev.pset v) ∧ s.sets[psetCount (es.take q)]? = some (p, v) ∧
      HB.HB (hbTraceP s.sets es) q g := by
  rcases got_published h hg with h2 | ⟨s1', t, _, _, _, h1', hl', _⟩
  · exact h2
  · rw [h1] at h1'; injection h1' with h1'; subst h1'; rw [hl] at hl'; cases hl'

/-! ## non-vacuity -/

/-- thread 1 requests key 1 (promise 0) and touches the maps under the lock; thread 2 sets the value 5 (map
access and `set_value` under the lock); thread 1 reads its future; thread 0 destroys the container: critical
section, then member destruction of the maps WITHOUT the lock.
positions: 2 = access of thread 1, 7 = access of thread 2, 8 = `set_value`, 11 = the consumer's `got`,
12 / 13 = the destructor's call / lock, 15 = its unlocked access -/
def hbWitness : List (Tid × Ev) :=
  [(1, .call (.get (.i 1) 0)), (1, .mlk), (1, .acc), (1, .mul), (1, .ret (.get (.i 1) 0) .unit),
   (2, .call (.set (.i 1) 5 false)), (2, .mlk), (2, .acc), (2, .pset 5), (2, .mul), (2, .ret (.set (.i 1) 5 false) .unit),
   (1, .got 0 (.val 5)),
   (0, .call .dtor), (0, .mlk), (0, .mul), (0, .acc), (0, .ret .dtor .unit)]

/-- the trace is accepted and contains conflicting accesses by different threads: 1 / 2 under the lock, and
2 / the destructor's unlocked access -/
example : ∃ s, run hbWitness = some s ∧ HB.ConflictOn (hbTrace hbWitness) 0 2 7 ∧
    HB.ConflictOn (hbTrace hbWitness) 0 7 15 :=
  ⟨_, rfl, ⟨1, 2, _, _, rfl, rfl, .inr rfl, .inr rfl, .inl rfl⟩, ⟨2, 0, _, _, rfl, rfl, .inr rfl, .inr rfl, .inl rfl⟩⟩

/-- the ordering theorem applies to both pairs -/
example : HB.HB (hbTrace hbWitness) 2 7 ∧ HB.HB (hbTrace hbWitness) 7 15 :=
  ⟨C07_dobj_maps (s := _) (es := hbWitness) rfl (by decide) ⟨1, 2, _, _, rfl, rfl, .inr rfl, .inr rfl, .inl rfl⟩,
   C07_dobj_acc_ordered (s := _) (es := hbWitness) (t := 2) (u := 0) rfl (by decide) rfl rfl⟩

/-- the access at 15 is NOT under the lock: it is the destructor's case of `C07_dobj_access` -/
example : HB.held ((hbTrace hbWitness).take 15) 0 0 = none ∧ DtorAt hbWitness 0 15 := by
  refine ⟨by decide, ?_⟩
  rcases C07_dobj_access (s := _) (es := hbWitness) (n := 15) (c := 0) rfl rfl with h | h
  · exact absurd h (by decide)
  · exact h.2

/-- the lockset discipline holds for the part before the destructor's call -/
example : HB.LockSet (hbTrace (hbWitness.take 12)) 0 0 :=
  (C07_dobj_lockset (s := _) (es := hbWitness.take 12) rfl rfl).2

/-- the executable checker accepts the mapped trace, stateless and promise-aware -/
example : HB.raceFree (hbTrace hbWitness) = true := by decide
example : HB.raceFree (hbTraceP [(0, 5)] hbWitness) = true := by decide
example : HB.raceFree (hbTrace hbWitness) = true := C07_dobj_accepted (s := _) rfl

/-- without the destructor's own lock / unlock its member destruction would race: the checker rejects the
mapped trace with positions 13, 14 (`mlk`, `mul` of the destructor) removed -/
example : HB.raceFree (hbTrace (hbWitness.take 13 ++ hbWitness.drop 15)) = false := by decide

/-- the model rejects an access outside the lock by anything but the destructor, before or after the
critical section -/
example : run [(1, .call (.get (.i 1) 0)), (1, .acc)] = none := rfl
example : run [(1, .call (.get (.i 1) 0)), (1, .mlk), (1, .mul), (1, .acc)] = none := rfl

/-- publication: the theorem applies to the consumer's `got` at 11 — first case: a `set_value(5)` event matched
with promise 0 happens-before it in the promise-aware trace (the final log is `[(0, 5)]`) -/
example : ∃ q t, q < 11 ∧ hbWitness[q]? = some (t, Ev.pset 5) ∧ HB.HB (hbTraceP [(0, 5)] hbWitness) q 11 := by
  rcases C07_dobj_publication_partial (s := _) (es := hbWitness) (g := 11) (u := 1) (p := 0) (v := 5) rfl rfl with
    ⟨q, t, hq, hp, _, hb⟩ | ⟨s1, t, o, r, td, h1, hl, _⟩
  · exact ⟨q, t, hq, hp, hb⟩
  · exfalso
    have e : (run (hbWitness.take 11)).map (fun s => s.lock) = some none := rfl
    rw [h1] at e; simp at e; rw [hl] at e; cases e

/-- the edge by hand (positions 8 → 11): release store of the shared state of promise 0 (location 1) → acquire load -/
example : HB.HB (hbTraceP [(0, 5)] hbWitness) 8 11 :=
  .sw (.atomic (i := 8) (j := 11) (t := 2) (u := 1) (a := 1) (by decide) rfl rfl ⟨.rel, rfl, .inl rfl⟩ ⟨.acq, rfl, .inl rfl⟩
    (by intro k v o h1 h2 hk
        have : k = 9 ∨ k = 10 := by omega
        rcases this with rfl | rfl <;> cases hk))

/-- the second case of `C07_dobj_publication_partial` is reachable in the model: thread 3 observes future 0
ready with 5 after thread 2 took the lock for `setDelayedValue(1, 5)` but before its `set_value` event -/
example : ∃ s, run [(1, .call (.get (.i 1) 0)), (1, .mlk), (1, .mul), (1, .ret (.get (.i 1) 0) .unit),
    (2, .call (.set (.i 1) 5 false)), (2, .mlk), (3, .got 0 (.val 5))] = some s ∧
    s.pc 2 = .locked (.set (.i 1) 5 false) .unit [5] :=
  ⟨_, rfl, rfl⟩

end ConcVerif.DObj
