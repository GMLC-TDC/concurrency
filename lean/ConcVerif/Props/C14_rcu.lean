import ConcVerif.Proof.RcuAll
/-! # C14 (rcu part) — reads on rcu_guarded / rcu_list never wait for writers

Read-side operations of the model in `Model/Rcu.lean`: registration (`rcu_read_lock`, performed lazily by
the first use of a handle: allocate and construct a record, push it with a CAS loop), `begin`, `++`, `*`,
and release (`rcu_guard::unlock`: scan the older records, reclaim, clear `owner`).  The same code runs
for read and write handles.

* `C14_rcu_no_mutex`  — at a read-side pc the model accepts no mutex event at all (the event vocabulary
  has no condition-variable event): a reader taking `m_write_mutex` is rejected by trace acceptance.
* `C14_rcu_enabled`   — in every reachable state, whatever the pcs of all other threads (a writer may be
  suspended at any primitive step of push / erase, other readers anywhere), a thread at a read-side pc has
  an accepted next event: it is never blocked.
* `C14_rcu_traversal_bounded` — `begin`, `++`, `*` are three own steps each (call, one load, return).
* `C14_rcu_cas_retry` / `C14_rcu_cas_succeeds` / `C14_rcu_reg_measure` — the registration loop: a failed
  CAS leaves the thread with the value of `m_zombie_head` it observed; if nobody moved `m_zombie_head`
  since, the next CAS succeeds (lock-free); every own step other than a CAS that fails (and other than
  the tap event `pstZn` of the record constructor's plain store) strictly decreases a bounded measure, and a CAS can fail (non-spuriously) only if another thread's push
  succeeded in between — so with everybody else suspended a registration takes at most 7 own steps
  after its allocation (wait-free), under the stated assumption that `compare_exchange_weak` does not fail spuriously forever. -/
namespace ConcVerif.Rcu

/-- pcs of registration, traversal and release -/
def readSide : Pc → Bool
  | .called .rel | .called .beg | .called .nxt | .called .der => true
  | .retp .rel | .retp .beg | .retp .nxt | .retp .der => true
  | .regAlloc .beg _ | .regCons .beg _ | .pushStore (.reg .beg) _ _ | .pushCas (.reg .beg) _ _ => true
  | .uOwner .. | .uNext .. | .rZn .. | .rDesN .. | .rFreN .. | .rNext .. | .rDesZ .. | .rFreZ .. | .uTrunc _ | .uClear _ => true
  | _ => false

/-- Read-side operations never touch the write mutex. -/
theorem C14_rcu_no_mutex {s : St} {t : Tid} (hr : readSide (s.pc t) = true) :
    step s t .mlk = none ∧ step s t .mul = none := by
  constructor
  · cases h : step s t .mlk with
    | none => rfl
    | some s' =>
      have hS := step_sound h
      cases hS <;> simp_all [readSide]
  · cases h : step s t .mul with
    | none => rfl
    | some s' =>
      have hS := step_sound h
      cases hS <;> simp_all [readSide]

/-- A thread at a read-side pc always has an accepted next event — in every reachable state, wherever
the writers (and everybody else) are. -/
theorem C14_rcu_enabled {s : St} {t : Tid} (h : Reachable s) (hr : readSide (s.pc t) = true) :
    ∃ e, (step s t e).isSome = true := by
  have hi := inv_reachable h
  have hok := hi.a.hok t
  have hitc := hi.a.itc t
  -- `step` is unfolded once; in each case the pc is a constructor, the accepted event is read off the model and its
  -- guard is proved
  unfold step
  generalize s.pc t = p at hr hok hitc
  cases p with
  | called k =>
    dsimp only
    cases k with
    | rel =>
      cases hh : s.hnd t with
      | none => rw [hh] at hok; cases hok
      | fresh w => exact ⟨.ret .rel, rfl⟩
      | reg w r =>
        cases hn : (s.recs r).next with
        | none => exact ⟨.ald (.rnext r) .sc none, isSome_ite ⟨rfl, rfl, hn.symm⟩ rfl⟩
        | some m => exact ⟨.ald (.rnext r) .sc (some m), isSome_ite ⟨rfl, rfl, hn.symm⟩ rfl⟩
    | beg =>
      cases hh : s.hnd t with
      | none => rw [hh] at hok; cases hok
      | fresh w => exact ⟨.alo true s.nR, isSome_ite rfl rfl⟩
      | reg w r => exact ⟨.ald .head .sc s.head, isSome_ite ⟨rfl, rfl⟩ rfl⟩
    | nxt =>
      obtain ⟨c, hc⟩ := hitc rfl
      cases hh : s.hnd t with
      | none => rw [hh] at hok; cases hok
      | fresh w => rw [hh] at hok; cases hok
      | reg w r => exact ⟨.ald (.nnext c) .sc (s.nodes c).next, isSome_ite ⟨hc, rfl, rfl⟩ rfl⟩
    | der =>
      obtain ⟨c, hc⟩ := hitc rfl
      cases hh : s.hnd t with
      | none => rw [hh] at hok; cases hok
      | fresh w => rw [hh] at hok; cases hok
      | reg w r => exact ⟨.pldData c (s.nodes c).val, isSome_ite ⟨hc, rfl⟩ rfl⟩
    | _ => cases hr
  | retp k => exact ⟨.ret k, isSome_ite rfl rfl⟩
  | regAlloc k r => exact ⟨.conR r (some t) none, isSome_ite ⟨rfl, rfl⟩ rfl⟩
  | regCons k r => exact ⟨.ald .zhead .rlx s.zhead, rfl⟩
  | pushStore c r exp => exact ⟨.ast (.rnext r) .sc exp, isSome_ite ⟨rfl, rfl⟩ rfl⟩
  | pushCas c r exp =>
    by_cases hz : s.zhead = exp
    · cases c with
      | reg k => exact ⟨.cas .sc exp (some r) true s.zhead, isSome_ite ⟨rfl, rfl, rfl, rfl, fun _ => hz⟩ rfl⟩
      | erase o => cases hr
    · exact ⟨.cas .sc exp (some r) false s.zhead, isSome_ite ⟨rfl, rfl, rfl, rfl, nofun⟩ rfl⟩
  | uOwner r c m =>
    cases ho : (s.recs m).owner with
    | none => exact ⟨.ald (.rowner m) .sc none, isSome_ite ⟨rfl, rfl, ho.symm⟩ rfl⟩
    | some u => exact ⟨.ald (.rowner m) .sc (some u), isSome_ite ⟨rfl, rfl, ho.symm⟩ rfl⟩
  | uNext r c m =>
    cases hn : (s.recs m).next with
    | none => exact ⟨.ald (.rnext m) .sc none, isSome_ite ⟨rfl, rfl, hn.symm⟩ rfl⟩
    | some m2 => exact ⟨.ald (.rnext m) .sc (some m2), isSome_ite ⟨rfl, rfl, hn.symm⟩ rfl⟩
  | rZn r m =>
    cases hz : (s.recs m).znode with
    | none => exact ⟨.pldZn m true, isSome_ite ⟨rfl, by rw [hz]; rfl⟩ (by rw [hz]; rfl)⟩
    | some d => exact ⟨.pldZn m false, isSome_ite ⟨rfl, by rw [hz]; rfl⟩ (by rw [hz]; rfl)⟩
  | rDesN r m d => exact ⟨.des false d, isSome_ite rfl rfl⟩
  | rFreN r m d => exact ⟨.fre false d, isSome_ite rfl rfl⟩
  | rNext r m => exact ⟨.ald (.rnext m) .sc (s.recs m).next, isSome_ite ⟨rfl, rfl, rfl⟩ rfl⟩
  | rDesZ r m nx => exact ⟨.des true m, isSome_ite rfl rfl⟩
  | rFreZ r m nx => exact ⟨.fre true m, isSome_ite rfl rfl⟩
  | uTrunc r => exact ⟨.ast (.rnext r) .sc none, isSome_ite ⟨rfl, rfl, rfl⟩ rfl⟩
  | uClear r => exact ⟨.ast (.rowner r) .sc none, isSome_ite ⟨rfl, rfl, rfl⟩ rfl⟩
  | _ => cases hr

/-- `begin`, `++`, `*` with a registered handle: one call marker, one load, one return marker. -/
def travRem : Pc → Nat
  | .called .beg | .called .nxt | .called .der => 2
  | .retp .beg | .retp .nxt | .retp .der => 1
  | _ => 0

theorem C14_rcu_traversal_bounded {s s' : St} {t : Tid} {e : Ev} (hs : step s t e = some s')
    (hreg : (s.hnd t).isReg = true) (hpos : 0 < travRem (s.pc t)) : travRem (s'.pc t) < travRem (s.pc t) := by
  cases step_sound hs with
  | beg _ _ _ hpc | nxt _ _ _ _ hpc | der _ _ _ hpc => rw [hpc, setPc_pc, upd_same]; exact Nat.lt_succ_self 1
  | ret k hpc => rw [hpc] at hpos ⊢; rw [setPc_pc, upd_same]; exact hpos
  | regAlo _ _ _ _ hh | regFail _ _ _ _ hh => rw [hh] at hreg; cases hreg
  | _ => exact absurd hpos (by rw [‹s.pc t = _›]; exact Nat.lt_irrefl 0)

/-- positive exactly at the pcs of a registration (the value bounds the own steps left if the next CAS succeeds); used as the
guard "is registering", the measure is `regPot` -/
def regRem : Pc → Nat
  | .regAlloc .. => 5
  | .regCons .. => 4
  | .pushStore (.reg _) .. => 2
  | .pushCas (.reg _) .. => 1
  | _ => 0

/-- A CAS that fails leaves the thread with the value of `m_zombie_head` it has just observed as its next
expected value: the loop retries with up-to-date information, it never waits. -/
theorem C14_rcu_cas_retry {s s' : St} {t : Tid} {o : Ord} {e d obs : Option Nat}
    (hs : step s t (.cas o e d false obs) = some s') :
    obs = s.zhead ∧ ∃ c r, s.pc t = .pushCas c r e ∧ s'.pc t = .pushStore c r s.zhead := by
  have hS := step_sound hs
  cases hS with
  | casFail c r exp o hpc ho => exact ⟨rfl, c, r, hpc, by simp [St.setPc]⟩

/-- If `m_zombie_head` still has the expected value the CAS succeeds (its success event is accepted) and
registration is complete: lock-freedom of the loop.  Together with `C14_rcu_cas_retry`: the CAS after a
failed one succeeds unless another thread's push moved `m_zombie_head` in between. -/
theorem C14_rcu_cas_succeeds {s : St} {t : Tid} {k : Op} {r : Nat} {exp : Option Nat}
    (hpc : s.pc t = .pushCas (.reg k) r exp) (hz : s.zhead = exp) :
    ∃ s', step s t (.cas .sc exp (some r) true s.zhead) = some s' ∧ s'.pc t = .called k ∧ s'.hnd t = .reg (s.hnd t).isW r := by
  have h1 : step s t (.cas .sc exp (some r) true s.zhead) = some ({ s with
      zhead := some r, log := r :: s.log, hnd := upd s.hnd t (.reg (s.hnd t).isW r) }.setPc t (.called k)) := by
    unfold step; rw [hpc]
    exact ite_some ⟨rfl, rfl, rfl, rfl, fun _ => hz⟩ rfl
  exact ⟨_, h1, upd_same .., upd_same ..⟩

/-- the store that precedes the CAS never changes `m_zombie_head`, so from `pushStore` with an up-to-date
expected value two own steps complete the registration -/
theorem C14_rcu_two_steps {s : St} {t : Tid} {k : Op} {r : Nat} (hpc : s.pc t = .pushStore (.reg k) r s.zhead) :
    ∃ s1 s2, step s t (.ast (.rnext r) .rlx s.zhead) = some s1 ∧
      step s1 t (.cas .sc s.zhead (some r) true s.zhead) = some s2 ∧ s2.pc t = .called k := by
  have h1 : step s t (.ast (.rnext r) .rlx s.zhead) =
      some ((s.setRNext r s.zhead).setPc t (.pushCas (.reg k) r s.zhead)) := by
    unfold step; rw [hpc]
    exact ite_some ⟨rfl, rfl⟩ rfl
  obtain ⟨s2, h2, h3, _⟩ := C14_rcu_cas_succeeds (s := (s.setRNext r s.zhead).setPc t (.pushCas (.reg k) r s.zhead))
    (t := t) (k := k) (r := r) (exp := s.zhead) (upd_same ..) rfl
  exact ⟨_, s2, h1, h2, h3⟩

/-- potential of a registration.  With a current expected value: 2 before the store of `next`, 1 before the CAS; with a
stale one 2 more (the CAS fails, store and CAS are repeated).  Before `m_zombie_head` is read the bound includes that retry:
6 before the load, 7 before the construction of the record -/
def regPot (s : St) (t : Tid) : Nat :=
  match s.pc t with
  | .regAlloc .. => 7
  | .regCons .. => 6
  | .pushStore (.reg _) _ e => if e = s.zhead then 2 else 4
  | .pushCas (.reg _) _ e => if e = s.zhead then 1 else 3
  | _ => 0

/-- Every own step of a registering thread other than a spuriously failing CAS and other than the tap event of the
constructor's plain store (`hplain`; it leaves the pc where it is) strictly decreases the potential (7 after the allocation).  `m_zombie_head` — hence the potential of a thread that is not
moving — changes only by another thread's successful push.  So with every other thread suspended a
registration completes after at most 7 further own steps (wait-free); in general a thread is delayed
only by other threads' successful pushes (lock-free). -/
theorem C14_rcu_reg_measure {s s' : St} {t : Tid} {e : Ev} (hs : step s t e = some s') (hin : 0 < regRem (s.pc t))
    (hspur : ∀ o x d, e = .cas o x d false x → False) (hplain : e.kind ≠ .plain) : regPot s' t < regPot s t := by
  cases step_sound hs with
  | regPst => exact absurd rfl hplain
  | regCon _ _ hpc => simp only [regPot, hpc, setPc_pc, upd_same]; exact Nat.lt_succ_self 6
  | regZh _ _ _ v hpc =>
    simp only [regPot, hpc, setPc_pc, upd_same, setPc_zhead]
    by_cases hv : v = s.zhead <;> simp only [hv, if_true, if_false] <;> decide
  | pushStore c _ exp _ hpc =>
    cases c with
    | erase o => rw [hpc] at hin; cases hin
    | reg k =>
      simp only [regPot, hpc, setPc_pc, upd_same, setPc_zhead, setRNext_zhead]
      by_cases hv : exp = s.zhead <;> simp only [hv, if_true, if_false] <;> decide
  | casRegOk _ _ _ hpc =>
    simp only [regPot, hpc, setPc_pc, upd_same, if_true]
    cases ‹Op› <;> exact Nat.one_pos
  | casEraseOk _ _ _ hpc => rw [hpc] at hin; cases hin
  | casFail c _ exp _ hpc =>
    cases c with
    | erase o => rw [hpc] at hin; cases hin
    | reg k =>
      have hne : ¬ exp = s.zhead := fun e => hspur _ s.zhead _ (by rw [e])
      simp only [regPot, hpc, setPc_pc, upd_same, setPc_zhead, if_true, hne, if_false]; decide
  | _ => exact absurd hin (by rw [‹s.pc t = _›]; exact Nat.lt_irrefl 0)

/-! Non-vacuity: a reader in the middle of its registration CAS loop while a writer is suspended inside
`push_front` holding the write mutex (after allocating its node, before linking it). -/
def witness14 : List (Tid × Ev) :=
  [(1, .call (.lock true)), (1, .ret (.lock true)), (1, .call (.push true false 5)), (1, .alo true 0),
   (1, .conR 0 (some 1) none), (1, .ald .zhead .rlx none), (1, .ast (.rnext 0) .rlx none),
   (1, .cas .sc none (some 0) true none), (1, .mlk), (1, .alo false 0),
   (2, .call (.lock false)), (2, .ret (.lock false)), (2, .call .beg), (2, .alo true 1), (2, .conR 1 (some 2) none),
   (2, .ald .zhead .rlx none), (2, .ast (.rnext 1) .rlx none)]

example : ∃ s, Reachable s ∧ s.wmtx = some 1 ∧ s.pc 1 = .pCons (.push true false 5) 0 ∧
    s.pc 2 = .pushCas (.reg .beg) 1 none ∧ readSide (s.pc 2) = true ∧ s.zhead = some 0 ∧
    (step s 2 (.cas .sc none (some 1) false (some 0))).isSome = true :=
  ⟨_, ⟨witness14, rfl⟩, by decide, by decide, by decide, by decide, by decide, by decide⟩

end ConcVerif.Rcu
