import ConcVerif.Proof.HBDeferredObj
/-! # C07 for `deferred_guarded` — the wrapped object, at the level of the model

`Props/C07_deferred.lean` covers the queued closure (edge `unlock qm → lock qm`).  This file covers the
WRAPPED OBJECT itself.  For EVERY trace accepted by the `deferred_guarded` model `Deferred.step` — any
value of `spur` (try-lock may or may not fail spuriously), any client program, any interleaving — mapped
to happens-before events by the same `Deferred.toHB o` / `hbTrace o` as the closure theorems
(`m` = mutex 0, shared-capable; `qm` = mutex 1; `m_pendingWrites` = atomic 0 with the ARBITRARY orders
`o : FlagOrds`, `relaxed` included; the object = plain location 0: `prd` ↦ `rd 0`, `pwr` ↦ `wr 0`;
successful `mtl` / `slk` / `stl` / `stf` ↦ acquisitions, `mul` / `sul` ↦ releases, failed try-locks and
all markers ↦ `nop`):

* the mapped trace is consistent with (shared) mutex semantics for `m` and for `qm`, and the
  happens-before view of who holds them is exactly the model's `mx` / `sh` / `qm`;
* every write of the object is made by a thread that holds `m` EXCLUSIVELY (the modifying function run
  by the caller of `modify_*` on the direct path, or by whichever thread drains the queue), every read by
  a thread that holds `m` in some mode (those, `load()`, and the holders of a shared handle);
* any two conflicting accesses of the object are ordered by happens-before;
* there is no data race in the whole mapped trace and the executable checker `raceFree` accepts it;
* what a DEFERRED function does to the object comes after the end of its push (object and queue together).

None of this depends on the orders of the flag: the flag never carries an edge that is needed. -/
namespace ConcVerif.Deferred

/-- **Mutex consistency of `m` and `qm`.**  Every accepted trace, mapped to happens-before events, respects
the semantics of (shared) mutexes at every acquisition and release: an acquisition happens only when the
thread holds nothing on that mutex and every other thread's hold is compatible (none, or shared against
shared), a release releases exactly what is held — for `m` (mutex 0) and `qm` (mutex 1), which are the
only mutexes of the mapped trace. -/
theorem C07_deferred_obj_mutex {spur : Bool} (o : FlagOrds) {es : List (Tid × Ev)} {s : St} (h : run spur es = some s) :
    HB.MutexOK (hbTrace o es) :=
  (hb_sim o h).M

/-- **Who holds what.**  After every accepted trace the happens-before bookkeeping of the mapped trace
agrees with the model state: thread `u` holds `m` exclusively iff it is `mx`, shared iff it is in `sh`
(never both), and holds `qm` iff it is the model's `qm`. -/
theorem C07_deferred_obj_held {spur : Bool} (o : FlagOrds) {es : List (Tid × Ev)} {s : St} (h : run spur es = some s)
    (u : Tid) :
    HB.held (hbTrace o es) u 0 = (if s.mx = some u then some .X else if u ∈ s.sh then some .S else none) ∧
    HB.held (hbTrace o es) u 1 = (if s.qm = some u then some .X else none) :=
  ⟨(hb_sim o h).H u 0, (hb_sim o h).H u 1⟩

/-- **Lockset discipline of the object.**  In every accepted trace every read of the wrapped object is made
while the reading thread holds `m` (in any mode) and every write while the writing thread holds `m`
exclusively — in the happens-before view of the mapped trace, so the generic lockset theorem
`C07_lockset` applies to every accepted trace. -/
theorem C07_deferred_obj_lockset {spur : Bool} (o : FlagOrds) {es : List (Tid × Ev)} {s : St}
    (h : run spur es = some s) : HB.MutexOK (hbTrace o es) ∧ HB.LockSet (hbTrace o es) 0 0 :=
  ⟨(hb_sim o h).M, (hb_sim o h).L⟩

/-- **Writes are exclusive.**  If position `n` of an accepted trace is a write `pwr v` of the object by
thread `t`, then just before it `t` holds `m` exclusively in the happens-before view, and in the model
state `t` is the exclusive holder and there is no shared holder at all. -/
theorem C07_deferred_obj_write_exclusive {spur : Bool} (o : FlagOrds) {es : List (Tid × Ev)} {s : St}
    (h : run spur es = some s) {n : Nat} {t : Tid} {v : Int} (hn : es[n]? = some (t, .pwr v)) :
    HB.held ((hbTrace o es).take n) t 0 = some .X ∧
    ∃ s1, run spur (es.take n) = some s1 ∧ s1.mx = some t ∧ s1.sh = [] := by
  obtain ⟨s1, h1, hw, _⟩ := obj_access_state h hn
  have hl := (hb_sim o h).L n (by rw [hbTrace_length]; exact HB.lq_lt hn)
  simp only [HB.lockedAt, hbTrace_get hn, toHB] at hl
  exact ⟨hl trivial, s1, h1, hw v rfl⟩

/-- **Reads are locked.**  If position `n` of an accepted trace is a read `prd v` of the object by thread
`t`, then just before it `t` holds `m` in some mode in the happens-before view, and in the model state
`t` is the exclusive holder, or nobody holds `m` exclusively and `t` is one of the shared holders. -/
theorem C07_deferred_obj_read_locked {spur : Bool} (o : FlagOrds) {es : List (Tid × Ev)} {s : St}
    (h : run spur es = some s) {n : Nat} {t : Tid} {v : Int} (hn : es[n]? = some (t, .prd v)) :
    HB.held ((hbTrace o es).take n) t 0 ≠ none ∧
    ∃ s1, run spur (es.take n) = some s1 ∧ (s1.mx = some t ∨ (s1.mx = none ∧ t ∈ s1.sh)) := by
  obtain ⟨s1, h1, _, hr⟩ := obj_access_state h hn
  have hl := (hb_sim o h).L n (by rw [hbTrace_length]; exact HB.lq_lt hn)
  simp only [HB.lockedAt, hbTrace_get hn, toHB] at hl
  exact ⟨hl trivial, s1, h1, hr v rfl⟩

/-- **Conflicting accesses are ordered.**  In every accepted trace, whenever positions `i < j` hold two
accesses of the wrapped object of which at least one is a write, `i` happens-before `j` — for any orders
of the flag.  (The edge is an `unlock m → lock m` pair, at least one side exclusive.) -/
theorem C07_deferred_obj_ordered {spur : Bool} (o : FlagOrds) {es : List (Tid × Ev)} {s : St} (h : run spur es = some s)
    {i j : Nat} (hij : i < j) (hc : HB.ConflictOn (hbTrace o es) 0 i j) : HB.HB (hbTrace o es) i j :=
  HB.lockset_hb (hb_sim o h).M (hb_sim o h).L hij hc

/-- … the same in terms of the model events: a `pwr` and a later `prd` / `pwr`, or a `prd` and a later
`pwr`, at positions `i < j` of an accepted trace are ordered by happens-before. -/
theorem C07_deferred_obj_ordered_events {spur : Bool} (o : FlagOrds) {es : List (Tid × Ev)} {s : St}
    (h : run spur es = some s) {i j : Nat} {t u : Tid} {ei ej : Ev} (hij : i < j) (hi : es[i]? = some (t, ei))
    (hj : es[j]? = some (u, ej))
    (hc : (∃ v, ei = .pwr v) ∧ ((∃ w, ej = .prd w) ∨ ∃ w, ej = .pwr w) ∨ (∃ v, ei = .prd v) ∧ ∃ w, ej = .pwr w) :
    HB.HB (hbTrace o es) i j := by
  apply C07_deferred_obj_ordered o h hij
  refine ⟨t, u, _, _, hbTrace_get hi, hbTrace_get hj, ?_⟩
  rcases hc with ⟨⟨v, rfl⟩, ⟨w, rfl⟩ | ⟨w, rfl⟩⟩ | ⟨⟨v, rfl⟩, ⟨w, rfl⟩⟩
  · exact ⟨.inr rfl, .inl rfl, .inl rfl⟩
  · exact ⟨.inr rfl, .inr rfl, .inl rfl⟩
  · exact ⟨.inl rfl, .inr rfl, .inr rfl⟩

/-- **No data race.**  No accepted trace contains a pair of conflicting plain accesses that is not
ordered by happens-before (the object is the only plain location of the mapped trace). -/
theorem C07_deferred_obj_no_race {spur : Bool} (o : FlagOrds) {es : List (Tid × Ev)} {s : St}
    (h : run spur es = some s) : ¬ HB.Race (hbTrace o es) := by
  intro ⟨i, j, hij, ⟨x, hc⟩, hn⟩
  have hx : x = 0 := by
    obtain ⟨t, u, ei, ej, h1, _, ha, _⟩ := hc
    exact hbTrace_access h1 ha
  subst hx
  exact hn (C07_deferred_obj_ordered o h hij hc)

/-- **The checker accepts.**  The executable vector-clock checker accepts the whole mapped trace — object,
both mutexes and the flag with ARBITRARY orders — of every trace the model accepts: a REJECT of the `hb`
driver on a `deferred_guarded` trace can only come with a rejection by the model. -/
theorem C07_deferred_obj_accepted {spur : Bool} (o : FlagOrds) {es : List (Tid × Ev)} {s : St}
    (h : run spur es = some s) : HB.raceFree (hbTrace o es) = true :=
  HB.raceFree_complete (C07_deferred_obj_no_race o h)

/-- **Object and queue together.**  If thread `t` performs the event at position `n` of an accepted trace
while it is inside the function of QUEUED task `j` (pc `dIn _ j` in the state reached by the prefix: a read
or a write of the object, the return or the throw of the function), then the `unlock qm` that ended the
push of `j` (position `p`) happens-before `n`: everything the submitter did before queueing the closure is
visible to what the closure does to the object, in whichever thread it runs — for any orders of the flag. -/
theorem C07_deferred_obj_after_push {spur : Bool} (o : FlagOrds) {es : List (Tid × Ev)} {s1 : St} {n : Nat} {t : Tid}
    {e : Ev} (hn : es[n]? = some (t, e)) (h1 : run spur (es.take n) = some s1) {c : Ctx} {j : TaskId}
    (hpc : s1.pc t = .dIn c j) : ∃ p, p < n ∧ Pushed spur es p j ∧ HB.HB (hbTrace o es) p n := by
  obtain ⟨q, p, hq, hp, hhb⟩ := inTask_run o h1 t c j hpc
  have hnl : n < es.length := HB.lq_lt hn
  have hlen : (es.take n).length = n := by simp [List.length_take]; omega
  have hqn : q < n := by have := HB.lq_lt hq; omega
  have hpn : p < n := by
    obtain ⟨_, _, _, _, _, h3⟩ := hp
    have := HB.lq_lt h3; omega
  have hp' : Pushed spur es p j := by
    have := hp.mono (es.drop n); rwa [List.take_append_drop] at this
  have hq' : es[q]? = some (t, Ev.ucb j) := by
    have := HB.lq_mono (es.drop n) hq; rwa [List.take_append_drop] at this
  have hhb' : HB.HB (hbTrace o es) p q := by
    have := hhb.mono (hbTrace o (es.drop n))
    rwa [← hbTrace_append, List.take_append_drop] at this
  exact ⟨p, hpn, hp', .trans hhb' (.po hqn (hbTrace_get hq') (hbTrace_get hn))⟩

/-- **Where a write comes from.**  Every write of the object in an accepted trace is made either inside the
caller's own function on the direct path (the closure never left the thread), or inside the function of
a queued task — and then after the end of that task's push. -/
theorem C07_deferred_obj_write_origin {spur : Bool} (o : FlagOrds) {es : List (Tid × Ev)} {s : St}
    (h : run spur es = some s) {n : Nat} {t : Tid} {v : Int} (hn : es[n]? = some (t, .pwr v)) :
    ∃ s1, run spur (es.take n) = some s1 ∧
      ((∃ k a, s1.pc t = .aIn k a) ∨
       (∃ c j, s1.pc t = .dIn c j ∧ ∃ p, p < n ∧ Pushed spur es p j ∧ HB.HB (hbTrace o es) p n)) := by
  obtain ⟨s1, s2, h1, h2⟩ := runFrom_at h hn
  refine ⟨s1, h1, ?_⟩
  rcases pwr_origin h2 with hd | ⟨c, j, hpc⟩
  · exact .inl hd
  · exact .inr ⟨c, j, hpc, C07_deferred_obj_after_push o hn h1 hpc⟩

/-! ### Non-vacuity -/

/-- thread 1 takes a shared handle and reads the object (4); thread 2 calls `modify_detach` (task 7): the
try-lock fails against the reader, the closure is queued (push ends at 8) and the flag raised; thread 1
reads again (11) and releases; thread 3 calls `lock_shared`, sees the flag, takes `m`, drains the queue and
runs task 7, which reads (21) and writes (22) the object, then gets its shared handle and reads (27);
thread 1 calls `load()` (read 31); thread 3 releases; thread 2 calls `modify_async` (task 8), gets `m` at
once and runs its own function on the direct path (read 39, write 40) -/
def hbObjWitness : List (Tid × Ev) :=
  [(1, .callSh .block), (1, .fld false), (1, .slk), (1, .got true), (1, .prd 0),
   (2, .callMod 7 false), (2, .mtl false), (2, .qlk), (2, .qul), (2, .fst true), (2, .ret),
   (1, .prd 0), (1, .sul),
   (3, .callSh .block), (3, .fld true), (3, .mtl true), (3, .fld true), (3, .fst false), (3, .qlk), (3, .qul),
   (3, .ucb 7), (3, .prd 0), (3, .pwr 5), (3, .uce 7 0), (3, .mul), (3, .slk), (3, .got true), (3, .prd 5),
   (1, .callLoad), (1, .fld false), (1, .slk), (1, .prd 5), (1, .sul), (1, .ret),
   (3, .sul),
   (2, .callMod 8 true), (2, .mtl true), (2, .fld false), (2, .ucb 8), (2, .prd 5), (2, .pwr 9), (2, .uce 8 1), (2, .mul),
   (2, .ret)]

/-- relaxed flag operations: the weakest instance -/
def rlxOrds : FlagOrds := { ld := .rlx, st := .rlx }

/-- the trace is accepted (with and without spurious try-lock failures) and contains conflicting accesses
of the object by different threads: reader 1 / deferred writer 3 (11, 22), deferred writer 3 / `load()` of
thread 1 (22, 31), deferred writer 3 / direct writer 2 (22, 40), reader 3 / direct writer 2 (27, 40) -/
example : (∃ s, run false hbObjWitness = some s) ∧ (∃ s, run true hbObjWitness = some s) ∧
    HB.ConflictOn (hbTrace rlxOrds hbObjWitness) 0 11 22 ∧ HB.ConflictOn (hbTrace rlxOrds hbObjWitness) 0 22 31 ∧
    HB.ConflictOn (hbTrace rlxOrds hbObjWitness) 0 22 40 ∧ HB.ConflictOn (hbTrace rlxOrds hbObjWitness) 0 27 40 :=
  ⟨⟨_, rfl⟩, ⟨_, rfl⟩, ⟨1, 3, _, _, rfl, rfl, .inl rfl, .inr rfl, .inr rfl⟩,
    ⟨3, 1, _, _, rfl, rfl, .inr rfl, .inl rfl, .inl rfl⟩, ⟨3, 2, _, _, rfl, rfl, .inr rfl, .inr rfl, .inl rfl⟩,
    ⟨3, 2, _, _, rfl, rfl, .inl rfl, .inr rfl, .inr rfl⟩⟩

/-- the theorems apply to it: the four pairs are ordered although both flag operations are relaxed -/
example : HB.HB (hbTrace rlxOrds hbObjWitness) 11 22 ∧ HB.HB (hbTrace rlxOrds hbObjWitness) 22 31 ∧
    HB.HB (hbTrace rlxOrds hbObjWitness) 22 40 ∧ HB.HB (hbTrace rlxOrds hbObjWitness) 27 40 :=
  have h : run false hbObjWitness = some _ := rfl
  ⟨C07_deferred_obj_ordered_events rlxOrds h (by decide) rfl rfl (.inr ⟨⟨_, rfl⟩, _, rfl⟩),
   C07_deferred_obj_ordered_events rlxOrds h (by decide) rfl rfl (.inl ⟨⟨_, rfl⟩, .inl ⟨_, rfl⟩⟩),
   C07_deferred_obj_ordered_events rlxOrds h (by decide) rfl rfl (.inl ⟨⟨_, rfl⟩, .inr ⟨_, rfl⟩⟩),
   C07_deferred_obj_ordered_events rlxOrds h (by decide) rfl rfl (.inr ⟨⟨_, rfl⟩, _, rfl⟩)⟩

/-- the deferred write at 22 (thread 3, task 7 queued by thread 2) is made holding `m` exclusively with no
shared holder, and comes after the end of the push at 8 -/
example : HB.held ((hbTrace rlxOrds hbObjWitness).take 22) 3 0 = some .X ∧
    ∃ p, p < 22 ∧ Pushed false hbObjWitness p 7 ∧ HB.HB (hbTrace rlxOrds hbObjWitness) p 22 :=
  ⟨(C07_deferred_obj_write_exclusive rlxOrds (es := hbObjWitness) (s := _) (spur := false) rfl (n := 22) rfl).1,
   C07_deferred_obj_after_push rlxOrds (es := hbObjWitness) (n := 22) (s1 := _) (c := .sh (.acq .block)) rfl rfl rfl⟩

/-- the mapped trace is consistent with mutex semantics and satisfies the lockset discipline (decided
directly, independently of the theorem) -/
example : HB.MutexOK (hbTrace rlxOrds hbObjWitness) ∧ HB.LockSet (hbTrace rlxOrds hbObjWitness) 0 0 := by decide

/-- the whole mapped trace is race free with relaxed flag operations -/
example : HB.raceFree (hbTrace rlxOrds hbObjWitness) = true := by decide

/-- the model is not vacuously permissive: a write by a thread that only holds a shared handle, a write
with no lock at all, and a read after the handle was released are all rejected -/
example : run false [(1, .callSh .block), (1, .fld false), (1, .slk), (1, .got true), (1, .pwr 5)] = none ∧
    run false [(1, .pwr 5)] = none ∧
    run false [(1, .callSh .block), (1, .fld false), (1, .slk), (1, .got true), (1, .sul), (1, .prd 0)] = none :=
  ⟨rfl, rfl, rfl⟩

/-- … and the checker does reject the corresponding unprotected write: the reader of position 11 against a
write by thread 3 that is not bracketed by `m` -/
example : HB.raceFree [(1, .acq 0 .S), (1, .rd 0), (3, .wr 0), (1, .rel 0 .S)] = false := by decide

end ConcVerif.Deferred
