import ConcVerif.Proof.CowInv
import ConcVerif.Props.C14_lr
/-! # C14, cow_guarded part — `lock_shared` and its try forms never wait for a writer

A `lock_shared` form of cow_guarded is a left-right read acquisition (`ald cl ; rmw cnt +1 ; ald rl`), the copy of the
`shared_ptr` stored in the side the read handle points to (two plain loads and one reference increment) and the
left-right release (`rmw cnt -1`): seven events of the calling thread.  Theorems over `Model/Cow.lean` (every
`Reachable` state: any number of threads, writers suspended anywhere — inside `lock()`, inside the publication, inside
either wait loop, inside `cancel()`):
(1) in every reachable state the thread's next event is enabled, whatever all other threads' pcs are;
(2) no mutex, yield or spin event is ever accepted inside a `lock_shared` form;
(3) each own step decreases the number of steps left (at most 7) by one, steps of other threads do not change it;
and for the writer: (4) `lock()` waits only for the writer mutex; (5) `m_data`'s own write mutex is never contended;
(6) the publication's wait loops are the left-right model's (so `Props/C14_lr.lean` applies to `s.lr`): a counter with
nobody registered is observed at zero and the second application is enabled once both were; (7) only threads INSIDE a
`lock_shared` form or inside the read phase of `lock()` are registered in a counter — a snapshot handle kept by a client
never delays a writer. -/
namespace ConcVerif.Cow
open ConcVerif.LR (Side lk LK)

macro "cow_unfold14 " hs:ident : tactic => `(tactic|
  simp [stepIdle, stepRdA, stepRdH, stepRdP, stepRdD, stepDr, stepLkCalled, stepLkA, stepLkH, stepLkC, stepLkD, stepLkT,
    stepLkTD, stepLkExc, stepWHold, stepRelA, stepRelB, stepRelC, stepRelU, stepCn] at $hs:ident)

/-- pcs inside `lock_shared` / `try_lock_shared` / `_for` / `_until` -/
def Pc.inShared : Pc → Bool
  | .rdA _ | .rdH _ _ | .rdP _ _ | .rdD _ _ => true
  | _ => false

/-- own steps left until the current `lock_shared` form returns -/
def rdLeft : Pc → LR.Pc → Nat
  | .rdA _, .rdCalled => 7
  | .rdA _, .rdCL _ => 6
  | .rdA _, .rdInc _ => 5
  | .rdH _ none, _ => 4
  | .rdH _ (some _), _ => 3
  | .rdP _ _, _ => 2
  | .rdD _ _, _ => 1
  | _, _ => 0

/-- (1) Wait-free: a thread inside a `lock_shared` form has an enabled event in every reachable state — it never waits
for any other thread, wherever the writers are. -/
theorem C14_cow_reader_enabled {s : St} (h : Reachable s) {t : Tid} (hp : (s.pc t).inShared = true) :
    ∃ e, (step s t e).isSome = true := by
  have hl := (inv_reachable h).l.link t
  cases hq : s.pc t with
  | rdA k =>
    rw [hq] at hl
    rcases LR.lk_pre hl with h1 | ⟨c, h1⟩ | ⟨c, h1⟩
    · exact ⟨.lr (.ldCL s.lr.cl), by simp [step, hq, stepRdA, (LR.Step.ldCL h1).to_step]⟩
    · exact ⟨.lr (.inc c (s.lr.reg c).length), by simp [step, hq, stepRdA, (LR.Step.inc h1).to_step]⟩
    · exact ⟨.lr (.ldRL s.lr.rl), by simp [step, hq, stepRdA, LR.lrGot_enabled h1]⟩
  | rdH k g =>
    rw [hq] at hl
    obtain ⟨c, x, h1⟩ := LR.lk_hold hl
    cases g with
    | none => exact ⟨.ldPtr x (s.sv x), by simp [step, hq, stepRdH, lrRd, (LR.Step.rd h1).to_step]⟩
    | some v => exact ⟨.ldCtl x, by simp [step, hq, stepRdH, lrRd, (LR.Step.rd h1).to_step]⟩
  | rdP k v =>
    rw [hq] at hl
    obtain ⟨c, x, h1⟩ := LR.lk_hold hl
    exact ⟨.lr (.dec c (s.lr.reg c).length), by simp [step, hq, stepRdP, LR.lrRel_enabled h1]⟩
  | rdD k v => exact ⟨.retGot (.lockShared k) v, by simp [step, hq, stepRdD]⟩
  | _ => rw [hq] at hp; cases hp

/-- (2) No blocking operation inside a `lock_shared` form: the model accepts no operation on either mutex, no yield and
no counter load (spin) from these pcs — a change that makes readers take a mutex or wait is rejected by `step`. -/
theorem C14_cow_reader_never_blocks (s : St) (t : Tid) (hp : (s.pc t).inShared = true) :
    step s t .olock = none ∧ step s t .ounlock = none ∧ step s t (.lr .lock) = none ∧ step s t (.lr .unlock) = none ∧
      step s t (.lr .yld) = none ∧ ∀ c v, step s t (.lr (.ldCnt c v)) = none := by
  cases hq : s.pc t with
  | rdA | rdH | rdP | rdD => simp [step, hq, stepRdA, stepRdH, stepRdP, stepRdD]
  | _ => rw [hq] at hp; cases hp

/-- (3) Bounded: every own step inside a `lock_shared` form decreases the number of steps left by exactly one; the call
takes 7 steps of the calling thread. -/
theorem C14_cow_reader_bounded {s s' : St} (h : Reachable s) {t : Tid} {e : Ev} (hp : (s.pc t).inShared = true)
    (hs : step s t e = some s') : rdLeft (s'.pc t) (s'.lr.pc t) + 1 = rdLeft (s.pc t) (s.lr.pc t) := by
  have hl := (inv_reachable h).l.link t
  cases Step.of_step hs with
  | rdA_ldCL hq h1 =>
    rw [hq] at hl
    obtain ⟨a, b⟩ := LR.step_pre_ldCL_exact hl h1
    simp [rdLeft, hq, a, b]
  | rdA_inc hq h1 =>
    rw [hq] at hl
    obtain ⟨a, b⟩ := LR.step_pre_inc_exact hl h1
    simp [rdLeft, hq, a, b]
  | rdA_ldRL hq h1 =>
    rw [hq] at hl
    obtain ⟨c, a, b⟩ := LR.lrGot_exact hl h1
    simp [rdLeft, hq, a]
  | rdH_ldPtr hq | rdH_ldCtl hq | rdP_dec hq | rdD_ret hq => simp [rdLeft, hq]
  | _ hq => rw [hq] at hp; cases hp

theorem C14_cow_reader_at_most_7 (p : Pc) (q : LR.Pc) : rdLeft p q ≤ 7 := by
  unfold rdLeft; split <;> simp

/-- ... and steps of other threads do not change it: the reader's position is its own. -/
theorem C14_cow_reader_undisturbed {s s' : St} {t u : Tid} {e : Ev} (hs : step s u e = some s') (hu : t ≠ u) :
    rdLeft (s'.pc t) (s'.lr.pc t) = rdLeft (s.pc t) (s.lr.pc t) := by
  have hf := frame_step hs
  rw [hf.other t hu, hf.star.pc_other hu]

/-! ## writers: delayed only by the writer mutex and by readers inside an acquisition -/

/-- (4) `lock()` waits for the writer mutex and for nothing else: as soon as nobody owns it, `mlk wm` is enabled ... -/
theorem C14_cow_lock_enabled {s : St} (h : Reachable s) {t : Tid} (hp : s.pc t = .lkCalled) (hw : s.wm = none) :
    (step s t .olock).isSome = true := by
  have hi := inv_reachable h
  have hl : s.lr.pc t = .idle := LR.lk_idle (by rw [hi.l.link t, hp]; rfl)
  simp [step, hp, stepLkCalled, hw, (LR.Step.callLs hl).to_step]

/-- ... and while it is not enabled, some thread owns the mutex and is between `lock()` and release / cancel. -/
theorem C14_cow_lock_waits_for_owner {s : St} (h : Reachable s) {t : Tid} (hp : s.pc t = .lkCalled)
    (hb : step s t .olock = none) : ∃ u, s.wm = some u ∧ (s.pc u).holds = true := by
  cases hw : s.wm with
  | none => have := C14_cow_lock_enabled h hp hw; rw [hb] at this; cases this
  | some u => exact ⟨u, rfl, ((inv_reachable h).l.wmh u).mpr hw⟩

/-- (5) `m_data`'s own write mutex is never contended: the publishing thread owns `wm`, so when it asks for the inner
mutex nobody holds it. -/
theorem C14_cow_inner_mutex_uncontended {s : St} (h : Reachable s) {t : Tid} {v : Ver} (hp : s.pc t = .relA v)
    (hq : s.lr.pc t = .wCalled v) : s.lr.mtx = none ∧ (step s t (.lr .lock)).isSome = true := by
  have hi := inv_reachable h
  have hw : s.wm = some t := (hi.l.wmh t).mp (by rw [hp]; rfl)
  have hm := quiet_of_holder hi.l hw (by rw [hq]; rfl)
  exact ⟨hm, by simp [step, hp, stepRelA, (LR.Step.lock hq hm).to_step]⟩

/-- (6) The wait loops of the publication are the left-right model's: inside `relB` every load / yield / counting-flag
store is accepted exactly when `LR.step` accepts it on the embedded state (which is a reachable LR state), so
`C14_lr_writer_sees_zero`, `C14_lr_spin_enabled`, `C14_lr_wait_closed` … speak about cow_guarded's writer too. -/
theorem C14_cow_wait_is_lr {s : St} {t : Tid} {v : Ver} {f : Bool} {e : LR.Ev} (hp : s.pc t = .relB v f)
    (hn : neutral e = true) : (step s t (.lr e)).isSome = (LR.step s.lr t e).isSome := by
  cases e <;> simp [neutral] at hn <;> simp [step, hp, stepRelB, neutral]

theorem C14_cow_lr_reachable {s : St} (h : Reachable s) : LR.Reachable s.lr := (inv_reachable h).l.reach

/-- A counter in which nobody is registered is observed at zero (the only value the model accepts) ... -/
theorem C14_cow_wait_sees_zero {s : St} (h : Reachable s) {t : Tid} {v : Ver} {f : Bool} {l c : Side} {zL zR : Bool}
    (hp : s.pc t = .relB v f) (hq : s.lr.pc t = .wWait v l zL zR) (hnone : ∀ u, (s.lr.pc u).regIn ≠ some c) :
    (step s t (.lr (.ldCnt c 0))).isSome = true ∧ ∀ n, n ≠ 0 → step s t (.lr (.ldCnt c n)) = none := by
  obtain ⟨h1, h2⟩ := LR.C14_lr_writer_sees_zero (C14_cow_lr_reachable h) hq hnone
  constructor
  · rw [C14_cow_wait_is_lr hp rfl, h1]; rfl
  · intro n hn
    have := C14_cow_wait_is_lr (s := s) (t := t) hp (e := .ldCnt c n) rfl
    rw [h2 n hn] at this
    cases hst : step s t (.lr (.ldCnt c n)) with
    | none => rfl
    | some x => rw [hst] at this; cases this

/-- ... and once both counters have been seen empty the second application (the assignment window on the old side) is
enabled: the writer leaves the wait loops. -/
theorem C14_cow_wait_exits {s : St} {t : Tid} {v : Ver} {f : Bool} {l : Side} (hp : s.pc t = .relB v f)
    (hq : s.lr.pc t = .wWait v l true true) : (step s t (.stPtr l v)).isSome = true := by
  simp [step, hp, stepRelB, LR.C14_lr_writer_exits s.lr t v l hq]

/-- (7) Who can keep a counter non-zero: only a thread INSIDE a `lock_shared` form or inside the read phase of `lock()`
(between its increment and its decrement).  A snapshot handle owned by a client — however long it is kept — is not
registered anywhere and never delays a writer. -/
theorem C14_cow_registered_inside {s : St} (h : Reachable s) {u : Tid} {c : Side} (hu : u ∈ s.lr.reg c) :
    (s.pc u).cls = .pre ∨ (s.pc u).cls = .hold := by
  have hi := inv_reachable h
  have hreg := (hi.l.full.inv.mem u c).mp hu
  have hl := hi.l.link u
  cases hq : s.lr.pc u <;> rw [hq] at hreg hl <;> simp [LR.Pc.regIn] at hreg <;> simp [lk] at hl
  · exact Or.inl hl.symm
  · exact absurd hl.symm (cls_ne_other _)
  · exact Or.inr hl.symm
  · exact absurd hl.symm (cls_ne_other _)

theorem C14_cow_snapshot_holder_not_registered {s : St} (h : Reachable s) {u : Tid} (hp : s.pc u = .idle) (c : Side) :
    u ∉ s.lr.reg c := by
  intro hu
  rcases C14_cow_registered_inside h hu with h1 | h1 <;> rw [hp] at h1 <;> cases h1

/-! ## non-vacuity: a reader completes while the writer is suspended inside its second wait loop -/

/-- thread 1 is inside `lock_shared` (registered in counter L, handle on side L); thread 2 has locked, copied, written,
started its release, flipped `m_readingLeft`, and spins on counter L (`ald cnt[L]` = 1, `yld`) -/
def exWait : List (Tid × Ev) :=
  [(1, .call (.lockShared 0)), (1, .lr (.ldCL .L)), (1, .lr (.inc .L 0)), (1, .lr (.ldRL .L)),
   (2, .call .lock), (2, .olock), (2, .lr (.ldCL .L)), (2, .lr (.inc .L 1)), (2, .lr (.ldRL .L)), (2, .ldPtr .L 0),
   (2, .pcp 1 0 0), (2, .lr (.dec .L 2)), (2, .retGot .lock 1), (2, .pwr 1 1), (2, .call .release), (2, .lr .lock),
   (2, .lr (.ldRL .L)), (2, .stPtr .R 1), (2, .ldCtl .R), (2, .ldCtl .R), (2, .stCtl .R), (2, .lr (.stRL .R)),
   (2, .lr (.ldCL .L)), (2, .lr (.ldCnt .R 0)), (2, .lr (.stCL .R)), (2, .lr (.ldCnt .L 1)), (2, .lr .yld)]

example : ∃ s, run (init true) exWait = some s ∧ (s.pc 1).inShared = true ∧ s.pc 1 = .rdH 0 none ∧ s.pc 2 = .relB 1 true ∧
    s.lr.pc 2 = .wWait 1 .L false true ∧ rdLeft (s.pc 1) (s.lr.pc 1) = 4 ∧ 1 ∈ s.lr.reg .L :=
  ⟨_, rfl, rfl, rfl, rfl, rfl, rfl, by decide⟩

/-- ... the reader finishes alone (4 steps), version 0 in hand, while the writer stays where it is; then the writer sees
the counter at zero and opens its second window -/
example : ∃ s, run (init true) (exWait ++ [(1, .ldPtr .L 0), (1, .ldCtl .L), (1, .lr (.dec .L 1)), (1, .retGot (.lockShared 0) 0),
    (2, .lr (.ldCnt .L 0)), (2, .stPtr .L 1)]) = some s ∧ s.pc 1 = .idle ∧ (1, 0) ∈ s.snaps ∧ s.det = some .L :=
  ⟨_, rfl, rfl, by decide, rfl⟩

/-- a second writer waits for the writer mutex only: `mlk wm` is rejected while thread 2 owns it -/
example : ∃ s s1, run (init true) exWait = some s ∧ step s 3 (.call .lock) = some s1 ∧ step s1 3 .olock = none ∧
    s1.wm = some 2 := ⟨_, _, rfl, rfl, rfl, rfl⟩

end ConcVerif.Cow
