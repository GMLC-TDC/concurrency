import ConcVerif.Proof.DDInv
/-! # C20 (DelayedDestructor part) — a throwing callback never leaves the container locked or half-modified

`destroyObjects()` is `noexcept` with a `catch (...)` around the callbacks.  In the model a callback may throw at any
invocation (`uth k` is accepted whenever the callback for `k` is running, under every interleaving). -/
namespace ConcVerif.DD
open ConcVerif

/-- **C20_dd (swallowed, lock not held).** A throw from the callback is always handled inside destroyObjects: the
event is accepted, the thread does not hold `destructionLock` at that moment and nobody's lock state changes, and the
caller's frames are all still there (nothing propagates to the caller). -/
theorem C20_dd_throw_swallowed {cb ns nt} {s : St} {t : Tid} {sz : Nat} {ec cbs todo : List ObjId} {k : ObjId}
    {rest : List Frame} (h : Reachable cb ns nt s) (hfs : s.stk t = .dInCb sz ec cbs k todo :: rest)
    (hu : userLevel rest = true) :
    ∃ s', step s t (.uth k) = some s' ∧ s.lock ≠ some t ∧ s'.lock = s.lock ∧ rest <:+ s'.stk t ∧ s'.vec = s.vec := by
  refine ⟨drain s t sz cbs true rest ec, by simp [step, hfs], ?_, by simp, drain_suffix _ _ _ _ _ hu _, ?_⟩
  · intro hl
    have := (inv_reachable h).lockI t hl
    simp [hfs, holds, holdsF] at this
  · exact drain_vec_user _ _ _ _ _ hu _

/-- **C20_dd (the call still returns).** After the throw the remaining `ecall` entries are released one by one
(`dClear … true`); when the last payload destructor has returned, the call is about to return the recorded size
`sz` normally — no exception, no second lock acquisition. -/
theorem C20_dd_returns_size {s s' : St} {t : Tid} {sz : Nat} {cbs : List ObjId} {k : ObjId} {rest : List Frame}
    (hfs : s.stk t = .inDt k :: .dClear sz [] cbs true :: rest) (hu : userLevel rest = true)
    (hs : step s t (.pde k) = some s') : s'.stk t = .dRet (some sz) :: rest ∧ s'.lock = s.lock := by
  simp [step, hfs, resume, drain, dDone_user _ _ _ hu] at hs
  subst hs; simp

/-- **C20_dd (remaining reaped objects are destroyed).** Every object without a reference — in particular every
object the unwinding `ecall` vector released last — has been destroyed or its destructor is the next action of the
releasing thread; and once the call has returned, the thread owns no `ecall` entry any more. -/
theorem C20_dd_remaining_destroyed {cb ns nt} {s : St} (h : Reachable cb ns nt s) :
    (∀ k, k ∈ s.created → refs s k = 0 → k ∈ s.destroyed ∨ ∃ t, Frame.dying k ∈ s.stk t) ∧
    (∀ t, s.stk t = [] → ∀ k, (t, k) ∉ s.ecs) := by
  have hI := inv_reachable h
  refine ⟨fun k hk h0 => ?_, fun t ht k => own_idle hI.own ht k⟩
  rcases (hI.life.zero k).mp h0 with hc | hp | hd
  · exact absurd hk hc
  · obtain ⟨u, hu⟩ := hI.pend k hp
    exact Or.inr ⟨u, mem_dyingOf hu⟩
  · exact Or.inl hd

/-- **C20_dd (the container stays usable).** Whatever happened before (throws included), a thread back at script
level holds no lock, its next calls are accepted, and whoever holds the lock can release it. -/
theorem C20_dd_usable {cb ns nt} {s : St} {t : Tid} (h : Reachable cb ns nt s) (ht : s.stk t = [])
    (hd : s.dead = none) :
    s.lock ≠ some t ∧ (step s t .callSize).isSome = true ∧ (step s t .callDestroy).isSome = true ∧
    (∀ u, s.lock = some u → (step s u .mul).isSome = true) := by
  have hI := inv_reachable h
  have hv : s.vdead = false := by
    cases hvd : s.vdead with
    | false => rfl
    | true => exact absurd hd (hI.dt.g1 hvd).2
  have hm : s.mayCall t = true := by simp [St.mayCall, ht, userLevel, hd, hv]
  refine ⟨fun hl => ?_, by simp [step, ht, stepUser, hm], by simp [step, ht, stepUser, hm],
    fun u hl => holder_mul hl (hI.lockI u hl)⟩
  have := hI.lockI t hl
  simp [ht, holds] at this

/-! ## Non-vacuity -/

def throwTrace : List (Tid × Ev) :=
  [(1, .new 1), (1, .new 2), (1, .callAdd 1 true), (1, .mlk), (1, .mul), (1, .retAdd true),
   (1, .callAdd 2 true), (1, .mlk), (1, .mul), (1, .retAdd true),
   (1, .callDestroy), (1, .mtf true []), (1, .mul), (1, .ucb 1), (1, .uth 1),
   (1, .pdt 1), (1, .pde 1), (1, .pdt 2), (1, .pde 2), (1, .retDestroy (some 0)), (1, .callSize)]

/-- the callback for object 1 is running and may throw -/
example : ∃ s, Reachable true 0 1 s ∧ s.stk 1 = [.dInCb 0 [1, 2] [] 1 [2]] ∧ (step s 1 (.uth 1)).isSome = true :=
  ⟨_, ⟨throwTrace.take 14, rfl⟩, by decide, by decide⟩

/-- after the throw: object 1 is dying, object 2 (whose callback never ran) is still to be released, the lock is free -/
example : ∃ s, Reachable true 0 1 s ∧ s.stk 1 = [.dying 1, .dClear 0 [2] [] true] ∧ s.lock = none :=
  ⟨_, ⟨throwTrace.take 15, rfl⟩, by decide, by decide⟩

/-- both objects destroyed, the call returned 0, and the next call is under way -/
example : ∃ s, Reachable true 0 1 s ∧ s.destroyed = [2, 1] ∧ s.stk 1 = [.sizeCalled] ∧ s.ecs = [] :=
  ⟨_, ⟨throwTrace, rfl⟩, by decide, by decide, by decide⟩

end ConcVerif.DD
