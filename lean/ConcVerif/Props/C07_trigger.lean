import ConcVerif.Proof.HBTrigger
/-! # C07 for TriggerVariable — publication through `triggered` / `activated`, at the level of the model

The model's event grammar has only seq_cst stores and acquire / seq_cst loads of the two flags (the
driver parses nothing weaker), so:

* `C07_trigger_edge`: in ANY sequence of model events, a store of a flag synchronises with every later
  load of it that reads from it (no store of that flag in between);
* `C07_trigger_reads`: in every trace ACCEPTED by `Trigger.step`, a load that returns a value different
  from the flag's initial value reads from a store of exactly that value, and that store
  happens-before the load — e.g. the load of `triggered = true` that ends `wait()` / `wait_for()` or is
  `isTriggered()` is ordered after the set-triggered store of a `trigger()` call;
* `C07_trigger_publication`: hence whatever the triggering (activating) thread did before its store
  happens-before whatever the waiting thread does after such a load — client data handed over through
  `trigger()` → `wait()` is not racy, also when the waiter never blocked.

Not stated here: a `wait()` that returns because the variable was INACTIVE has seen no trigger; nothing
is published to it (that is the specified behaviour, C11). -/
namespace ConcVerif.Trigger

/-- **A store of a flag synchronises with the later load that reads from it** (any event list). -/
theorem C07_trigger_edge (es : List (Tid × Ev)) {k l : Nat} {t r : Tid} {a : Side} {v v' : Bool} {o : Ord} (hkl : k < l)
    (hk : es[k]? = some (t, .st a v)) (hl : es[l]? = some (r, .ld a o v'))
    (hno : ∀ m w v'', k < m → m < l → es[m]? ≠ some (w, Ev.st a v'')) : HB.HB (hbTrace es) k l :=
  .sw (st_sw_ld es hkl hk hl hno)

/-- **A load that sees a non-initial value reads from a store of it, which happens-before the load**
(every accepted trace, any number of threads, spurious wake-ups and time-outs included). -/
theorem C07_trigger_reads {active : Bool} {es : List (Tid × Ev)} {s : St} (h : run active es = some s) {l : Nat} {r : Tid}
    {a : Side} {o : Ord} {v : Bool} (hl : es[l]? = some (r, .ld a o v)) (hv : v ≠ (init active).flag a) :
    ∃ k w, k < l ∧ es[k]? = some (w, Ev.st a v) ∧ (∀ m w' v', k < m → m < l → es[m]? ≠ some (w', Ev.st a v')) ∧
      HB.HB (hbTrace es) k l :=
  ld_reads_store h hl hv

/-- **Publication through trigger / wait.**  If thread `r` loads `triggered = true` at `l` (`triggered`
is initially false), there is a set-triggered store at some `k < l` by a thread `w` such that every
earlier event `i` of `w` happens-before every later event `j` of `r`. -/
theorem C07_trigger_publication {active : Bool} {es : List (Tid × Ev)} {s : St} (h : run active es = some s) {l : Nat}
    {r : Tid} {o : Ord} (hl : es[l]? = some (r, .ld .trig o true)) :
    ∃ k w, k < l ∧ es[k]? = some (w, Ev.st .trig true) ∧
      ∀ i j ei ej, i < k → l < j → es[i]? = some (w, ei) → es[j]? = some (r, ej) → HB.HB (hbTrace es) i j := by
  have hv : true ≠ (init active).flag .trig := by simp [init]
  obtain ⟨k, w, hkl, hk, _, hb⟩ := ld_reads_store h hl hv
  refine ⟨k, w, hkl, hk, ?_⟩
  intro i j ei ej hik hlj hi hj
  exact .trans (.po hik (hbTrace_get hi) (hbTrace_get hk)) (.trans hb (.po hlj (hbTrace_get hl) (hbTrace_get hj)))

/-- thread 2 triggers the (active) variable; thread 1 then calls `wait()`: it takes `triggerLock`, loads
`triggered = true` and returns without blocking -/
def hbWitness : List (Tid × Ev) :=
  [(2, .call .trigger), (2, .ld .act .sc true), (2, .mlk .trig), (2, .st .trig true), (2, .cna .trig), (2, .mul .trig),
   (2, .ret .trigger true),
   (1, .call .wait), (1, .ld .act .sc true), (1, .mlk .trig), (1, .ld .trig .sc true), (1, .mul .trig),
   (1, .ret .wait true)]

example : ∃ s, run true hbWitness = some s ∧ hbWitness[10]? = some (1, .ld .trig .sc true) ∧
    hbWitness[3]? = some (2, .st .trig true) :=
  ⟨_, rfl, rfl, rfl⟩

/-- the call of `trigger()` (0) happens-before the return of `wait()` (12) -/
example : HB.HB (hbTrace hbWitness) 0 12 := by
  obtain ⟨k, w, hkl, hk, hpub⟩ := C07_trigger_publication (active := true) (s := _) (es := hbWitness) (l := 10) (r := 1)
    (o := .sc) rfl rfl
  have hk3 : k = 3 ∧ w = 2 := by
    have : k < 10 := hkl
    match k, hk with
    | 3, hk => cases hk; exact ⟨rfl, rfl⟩
    | 0, hk | 1, hk | 2, hk | 4, hk | 5, hk | 6, hk | 7, hk | 8, hk | 9, hk => cases hk
    | n + 10, _ => omega
  obtain ⟨rfl, rfl⟩ := hk3
  exact hpub 0 12 _ _ (by decide) (by decide) rfl rfl

end ConcVerif.Trigger
