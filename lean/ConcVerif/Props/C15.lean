import ConcVerif.Proof.LockFamReg
/-! # C15 — atomic_guarded and whole-object load/store behave as one atomic register

Model: `Model/LockFam.lean` (locking enabled).  Every whole-object operation (`load`, `store`,
`operator=`, `operator T`, `modify`, `read`, `exchange`, `compare_exchange`) is one bracket of the
wrapper's mutex; at the closing release the model checks that the accesses observed inside the
bracket amount to the register operation the call claims (`wResult`) and appends the operation with
its result to the ghost history `hist`; writes made through an exclusive handle are recorded as
stores.  `Reg.apply` is the sequential specification of a single register and `Reg.run` replays a
history through it, failing if a recorded result differs.  (deferred_guarded: `Props/C15_deferred.lean`.) -/
namespace ConcVerif.LockFam

/-- Linearizability: for every concurrent execution (any threads, any interleaving) the operations,
in the order of their linearisation points, form a legal sequential register history with exactly
the results the callers obtained, ending in the committed value. -/
theorem C15_linearizable {cap : Bool} {s : St} (h : Reachable true cap s) :
    Reg.run 0 s.hist = some s.committed :=
  (linv_reachable h).rep

/-- The wrapped object itself holds the committed value whenever no writer is between its write and
its release (in particular whenever the mutex is free). -/
theorem C15_value_committed {cap : Bool} {s : St} (h : Reachable true cap s)
    (hq : ∀ t, (s.loc t).pc.writing = false) : s.val = s.committed :=
  (linv_reachable h).quiet hq

/-- A load (any read inside a whole-object bracket) returns the committed value — never a value that
is being written: a partially written value is never observed. -/
theorem C15_load_committed {cap : Bool} {s s' : St} {t : Tid} {v : Int} {w : WOp} {m : Mode} {a b : Option Int}
    {c : Bool} (h : Reachable true cap s) (hp : (s.loc t).pc = .whole w m a b c)
    (hs : step s t (.rd v) = some s') : v = s.committed := by
  have hb := (linv_reachable h).bracket t w m a b c hp
  cases Step.of_step_at hp hs with
  | wRd hv => rw [hv (reachable_enabled h)]; exact hb.2.2 rfl

/-- The result a caller receives is the one recorded at the linearisation point. -/
theorem C15_result_recorded {s s' : St} {t : Tid} {r r' : Res} (he : s.enabled = true)
    (hp : (s.loc t).pc = .wDone r) (hs : step s t (.retW r') = some s') : r' = r := by
  cases Step.of_step_at hp hs with
  | retW hr => exact hr.resolve_left (by rw [he]; exact Bool.noConfusion)

/-- The linearisation point lies inside the call: the entry is appended by the operation's own
closing release, i.e. after its `call` and before its `ret`; and the history is append-only, so
an operation that returned before another was called precedes it in the history (real-time order),
and each thread's operations appear in program order. -/
theorem C15_entry_inside_call {s s' : St} {t : Tid} {sd : Side} {w : WOp} {m : Mode} {a b : Option Int}
    (he : s.enabled = true) (hp : (s.loc t).pc = .whole w m a b false) (hs : step s t (.rel sd) = some s') :
    ∃ r, s'.hist = s.hist ++ [{ t := t, op := w, res := r }] ∧ (s'.loc t).pc = .wDone r := by
  cases Step.of_step_at hp hs with
  | wRelOff _ he' _ => rw [he] at he'; cases he'
  | wRel _ _ _ hr => exact ⟨_, congrArg (· ++ _) (release_untouched hr).hist, setPc_pc _ _ _⟩

theorem C15_history_append_only {s s' : St} {t : Tid} {e : Ev} (hs : step s t e = some s') :
    ∃ l, s'.hist = s.hist ++ l :=
  (Step.of_step hs).hist_append

/-- `exchange` returns the value it replaced. -/
theorem C15_exchange (v x : Int) : Reg.apply v (.xc x) = (x, .val v) := rfl

/-- `compare_exchange` succeeds exactly when the current value equals the expected one (installing
the desired value) and otherwise leaves the value alone and reports the current value. -/
theorem C15_cas (v e d : Int) :
    (v = e → Reg.apply v (.ce e d) = (d, .cas true e)) ∧ (v ≠ e → Reg.apply v (.ce e d) = (v, .cas false v)) := by
  constructor <;> intro h <;> simp [Reg.apply, h]

/-- what the real bracket did is what the specification says: soundness of the per-bracket check -/
theorem C15_bracket_is_register_op {w : WOp} {seen wrote : Option Int} {r : Res} {v0 v1 : Int}
    (h : wResult w seen wrote = some r) (hs : ∀ c, seen = some c → c = v0)
    (hw : ∀ v, wrote = some v → v1 = v) (hn : wrote = none → v1 = v0) : Reg.apply v0 w = (v1, r) :=
  wResult_sound h hs hw hn

/-! Non-vacuity: two threads — an `exchange(3)` that returns 0 and a failing
`compare_exchange(expected 0, desired 9)` that reports 3 — give the history `[xc 3 ↦ 0, ce 0 9 ↦ (false, 3)]`. -/
example : ∃ s, Reachable true false s ∧ s.hist.length = 2 ∧ s.committed = 3 ∧
    Reg.run 0 s.hist = some 3 ∧ (s.loc 2).pc = .wDone (.cas false 3) :=
  ⟨_, ⟨[(1, .callW (.xc 3)), (2, .callW (.ce 0 9)), (1, .lk .X .block true), (1, .rd 0), (1, .wr 3), (1, .rel .X),
        (2, .lk .X .block true), (2, .rd 3), (2, .rd 3), (2, .rel .X), (1, .retW (.val 0))], rfl⟩,
   by decide, by decide, by decide, by decide⟩

end ConcVerif.LockFam
