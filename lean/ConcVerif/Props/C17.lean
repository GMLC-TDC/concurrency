import ConcVerif.Proof.SOH
import ConcVerif.Proof.SOHLive
/-! # C17 — SearchableObjectHolder is an atomic, memory-safe name-to-object map

Model: `Model/SOH.lean`.  `Maps` mirrors the two `std::map`s of the class (association lists with
strictly ascending keys), `apply` is the sequential specification (one case per public method),
`step` is the concurrent layer: every call is one critical section of `mapLock`, the specification
is applied at the lock acquisition, `ret` must carry the specification's result.

Part 1 — what the specification says (for all well-formed maps and all arguments);
Part 2 — every concurrent execution is linearizable w.r.t. that specification, with mutual
         exclusion and no leaked lock;
Part 3 — an object handed to a caller stays alive while the caller holds it;
last   — termination and deadlock-freedom in terms of library steps (`C17_terminates`, `C17_progress`).

The clause "every operation is memory-safe for every sequence of calls" concerns node lifetimes
inside `std::map`, which `Maps` does not represent: it is covered by the tie only (ASan/UBSan builds
of the same runs), see the `partial` entry of the registry. -/
namespace ConcVerif.SOH

/-! ## Part 1 — map semantics of the specification -/

/-- every operation keeps both maps sorted with unique keys (the `std::map` invariant) -/
theorem C17_wf_preserved {m : Maps} (h : WF m) (op : Op) : WF (apply m op).1 := apply_wf h op

/-- a stored name has exactly one object: `lookup` is membership -/
theorem C17_lookup_iff_mem {m : Maps} (h : WF m) (n : Name) (k : ObjId) :
    lookup n m.objs = some k ↔ (n, k) ∈ m.objs :=
  ⟨lookup_some_mem, mem_lookup h.1⟩

/-- `addObject` (both forms) on an existing name returns false and changes nothing — it never replaces -/
theorem C17_add_refuses_dup {m : Maps} (h : WF m) {n : Name} {j : ObjId} (hn : lookup n m.objs = some j)
    (k : ObjId) (ty : Ty) :
    apply m (.add n k) = (m, .bool false) ∧ apply m (.addT n k ty) = (m, .bool false) := by
  have := emplace_present (v := k) h.1 hn
  constructor <;> simp [apply, hn, this]

/-- `addObject(name, obj)` on a new name returns true and stores exactly that binding; every other
name and all tags are untouched -/
theorem C17_add_fresh {m : Maps} {n : Name} (hn : lookup n m.objs = none) (k : ObjId) :
    (apply m (.add n k)).2 = .bool true ∧
    (∀ x, lookup x (apply m (.add n k)).1.objs = if x = n then some k else lookup x m.objs) ∧
    (apply m (.add n k)).1.tags = m.tags := by
  refine ⟨by simp [apply, hn], fun x => ?_, rfl⟩
  exact lookup_emplace_absent hn

/-- `addObject(name, obj, type)` on a new name: as above, and the name's tag entry becomes `[type]` —
unless an orphan tag entry (left by `addType` on an unknown name) exists, which `emplace` keeps -/
theorem C17_addT_fresh {m : Maps} (h : WF m) {n : Name} (hn : lookup n m.objs = none) (k : ObjId) (ty : Ty) :
    (apply m (.addT n k ty)).2 = .bool true ∧
    (∀ x, lookup x (apply m (.addT n k ty)).1.objs = if x = n then some k else lookup x m.objs) ∧
    (∀ x, lookup x (apply m (.addT n k ty)).1.tags =
      if x = n then (match lookup n m.tags with | some l => some l | none => some [ty]) else lookup x m.tags) := by
  simp only [apply, hn]
  exact ⟨trivial, fun _ => lookup_emplace_absent hn,
    fun _ => (lookup_emplace h.2).trans (by cases lookup n m.tags <;> rfl)⟩

/-- `addObject(name, obj)` on a new name followed by `findObject(name)` returns that object -/
theorem C17_add_then_find {m : Maps} {n : Name} (hn : lookup n m.objs = none) (k : ObjId) :
    (apply (apply m (.add n k)).1 (.find n)).2 = .obj (some k) := by
  have := (C17_add_fresh hn k).2.1 n
  simp only [apply] at this ⊢
  rw [this]; simp

/-- `findObject(name)` returns exactly the object stored under the name (null if none) and changes nothing -/
theorem C17_find_exact (m : Maps) (n : Name) : apply m (.find n) = (m, .obj (lookup n m.objs)) := rfl

/-- `getObjects()` returns exactly the stored objects, in key order, and changes nothing -/
theorem C17_getObjects_exact (m : Maps) :
    apply m .get = (m, .objs (m.objs.map (·.2))) ∧ (∀ k, k ∈ m.objs.map (·.2) ↔ ∃ n, (n, k) ∈ m.objs) := by
  refine ⟨rfl, fun k => ?_⟩
  simp only [List.mem_map]
  constructor
  · rintro ⟨⟨n, j⟩, he, hk⟩; exact ⟨n, by simpa [← hk] using he⟩
  · rintro ⟨n, he⟩; exact ⟨(n, k), he, rfl⟩

/-- `empty()` -/
theorem C17_empty_exact (m : Maps) : apply m .empty = (m, .bool m.objs.isEmpty) := rfl

/-- `findObject(pred)` with a predicate that does not throw: the result is the FIRST object in key
order that satisfies the predicate — and there is a result whenever some object satisfies it -/
theorem C17_findPred_first {m : Maps} {p : Pred} (hp : p.thr = 0) (k : ObjId) :
    (apply m (.fp p)).1 = m ∧
    ((apply m (.fp p)).2 = .obj (some k) ↔
      ∃ n pre post, m.objs = pre ++ (n, k) :: post ∧ p.base.eval k = true ∧ ∀ e ∈ pre, p.base.eval e.2 = false) ∧
    ((apply m (.fp p)).2 = .obj none ↔ ∀ e ∈ m.objs, p.base.eval e.2 = false) :=
  ⟨rfl, search_some.trans ((scan_found_iff hp 0).trans (by simp only [Pred.hit, anyName, Bool.and_true])),
    search_none.trans ((scan_none_iff hp 0).trans (by simp only [Pred.hit, anyName, Bool.and_true]))⟩

/-- `findObject(pred, type)`: the first object in key order that satisfies the predicate AND carries
the type tag -/
theorem C17_findPredType_first {m : Maps} {p : Pred} (hp : p.thr = 0) (ty : Ty) (k : ObjId) :
    (apply m (.fpt p ty)).1 = m ∧
    ((apply m (.fpt p ty)).2 = .obj (some k) ↔
      ∃ n pre post, m.objs = pre ++ (n, k) :: post ∧ (p.base.eval k = true ∧ hasType m.tags n ty = true) ∧
        ∀ e ∈ pre, (p.base.eval e.2 && hasType m.tags e.1 ty) = false) :=
  ⟨rfl, search_some.trans ((scan_found_iff hp 0).trans (by simp only [Pred.hit, Bool.and_eq_true]))⟩

/-- `copyObject(from, to)` with `from` stored and `to` free: returns true, `to` now names THE SAME
object, nothing else changes in the object map, and `to` gets a copy of `from`'s tags (an orphan tag
entry of `to`, if any, is kept instead) -/
theorem C17_copy_aliases {m : Maps} (h : WF m) {a b : Name} {k : ObjId} (ha : lookup a m.objs = some k)
    (hb : lookup b m.objs = none) :
    (apply m (.cp a b)).2 = .bool true ∧
    lookup b (apply m (.cp a b)).1.objs = some k ∧ lookup a (apply m (.cp a b)).1.objs = some k ∧
    (∀ x, x ≠ b → lookup x (apply m (.cp a b)).1.objs = lookup x m.objs) ∧
    (∀ x, lookup x (apply m (.cp a b)).1.tags =
      if x = b then (match lookup b m.tags with | some l => some l | none => lookup a m.tags) else lookup x m.tags) := by
  have hab : a ≠ b := by intro hh; rw [hh, hb] at ha; cases ha
  simp only [apply, ha, hb, lookup_emplace_absent hb]
  refine ⟨trivial, if_pos trivial, if_neg hab, fun x hx => if_neg hx, fun x => ?_⟩
  cases lookup a m.tags with
  | some l => exact (lookup_emplace h.2).trans (by cases lookup b m.tags <;> rfl)
  | none =>
    by_cases hx : x = b
    · rw [hx, if_pos rfl]; cases lookup b m.tags <;> rfl
    · rw [if_neg hx]

/-- `copyObject` is refused, without any change, if the source is missing or the target exists -/
theorem C17_copy_refused {m : Maps} (h : WF m) {a b : Name}
    (hr : lookup a m.objs = none ∨ ∃ j, lookup b m.objs = some j) : apply m (.cp a b) = (m, .bool false) := by
  cases ha : lookup a m.objs with
  | none => simp [apply, ha]
  | some k =>
    rcases hr with hr | ⟨j, hj⟩
    · rw [ha] at hr; contradiction
    · have := emplace_present (v := k) h.1 hj
      simp [apply, ha, hj, this]

/-- `removeObject(name)` on a stored name: returns true; exactly that entry and its tag entry
disappear, every other name keeps its object and its tags -/
theorem C17_remove_name {m : Maps} (h : WF m) {n : Name} {k : ObjId} (hn : lookup n m.objs = some k) :
    (apply m (.rm n)).2 = .bool true ∧
    (∀ x, lookup x (apply m (.rm n)).1.objs = if x = n then none else lookup x m.objs) ∧
    (∀ x, lookup x (apply m (.rm n)).1.tags = if x = n then none else lookup x m.tags) := by
  refine ⟨by simp [apply, hn], fun x => ?_, fun x => ?_⟩
  · simp only [apply, hn]; exact lookup_erase h.1
  · simp only [apply, hn]; exact lookup_erase h.2

theorem C17_remove_name_absent {m : Maps} {n : Name} (hn : lookup n m.objs = none) :
    apply m (.rm n) = (m, .bool false) := by
  simp [apply, hn]

/-- `removeObject(pred)` (predicate does not throw): removes exactly the FIRST entry in key order whose
object satisfies the predicate, together with its tags; nothing else changes; only one entry goes
even if several match -/
theorem C17_remove_pred {m : Maps} (h : WF m) {p : Pred} (hp : p.thr = 0) {n : Name} {k : ObjId}
    {pre post : List (Name × ObjId)} (hl : m.objs = pre ++ (n, k) :: post) (hk : p.base.eval k = true)
    (hpre : ∀ e ∈ pre, p.base.eval e.2 = false) :
    (apply m (.rp p)).2 = .bool true ∧
    (∀ x, lookup x (apply m (.rp p)).1.objs = if x = n then none else lookup x m.objs) ∧
    (∀ x, lookup x (apply m (.rp p)).1.tags = if x = n then none else lookup x m.tags) ∧
    (∀ e, e ∈ (apply m (.rp p)).1.objs ↔ e ∈ m.objs ∧ e.1 ≠ n) := by
  have hs : scan p anyName 0 m.objs = .found n k :=
    hl ▸ scan_first hp 0 (fun e he => by simpa [Pred.hit, anyName] using hpre e he)
      (by simpa [Pred.hit, anyName] using hk)
  simp only [apply, hs]
  exact ⟨trivial, fun _ => lookup_erase h.1, fun _ => lookup_erase h.2, fun _ => mem_erase_iff h.1⟩

theorem C17_remove_pred_none {m : Maps} {p : Pred} (hp : p.thr = 0) (hall : ∀ e ∈ m.objs, p.base.eval e.2 = false) :
    apply m (.rp p) = (m, .bool false) := by
  have hs : scan p anyName 0 m.objs = .none :=
    (scan_none_iff hp 0).mpr fun e he => by simpa [Pred.hit, anyName] using hall e he
  simp only [apply, hs]

/-- `checkObjectType(name, type)`: true exactly if the name has a tag entry containing the type -/
theorem C17_checkType (m : Maps) (n : Name) (ty : Ty) :
    apply m (.chk n ty) = (m, .bool (hasType m.tags n ty)) ∧
    (hasType m.tags n ty = true ↔ ∃ l, lookup n m.tags = some l ∧ ty ∈ l) := by
  refine ⟨rfl, ?_⟩
  cases hl : lookup n m.tags with
  | none => simp [hasType, hl]
  | some l => simp [hasType, hl]

/-- `addType(name, type)`: the name's tag entry (created empty if there is none — also for a name
without object) gets the type appended; objects and other names untouched -/
theorem C17_addType {m : Maps} (h : WF m) (n : Name) (ty : Ty) :
    (apply m (.addType n ty)).1.objs = m.objs ∧
    (∀ x, lookup x (apply m (.addType n ty)).1.tags =
      if x = n then some ((match lookup n m.tags with | some w => w | none => []) ++ [ty]) else lookup x m.tags) :=
  ⟨rfl, fun _ => lookup_pushTag h.2⟩

/-- `empty()`, `getObjects()`, `checkObjectType`, and the three `findObject` forms leave `objectMap` and `typeMap` as they were -/
theorem C17_readonly (m : Maps) :
    (apply m .empty).1 = m ∧ (apply m .get).1 = m ∧ (∀ n ty, (apply m (.chk n ty)).1 = m) ∧
    (∀ n, (apply m (.find n)).1 = m) ∧ (∀ p, (apply m (.fp p)).1 = m) ∧ (∀ p ty, (apply m (.fpt p ty)).1 = m) :=
  ⟨rfl, rfl, fun _ _ => rfl, fun _ => rfl, fun _ => rfl, fun _ _ => rfl⟩

/-! ## Part 2 — atomicity: every concurrent execution is linearizable -/

/-- Linearizability.  For EVERY execution (any number of threads, any interleaving, throwing predicates
included) the calls, taken in the order of their linearisation points (the acquisition of `mapLock`),
replay through the sequential specification from the empty holder, reproduce exactly the result each
caller received, and end in the current contents of the two maps. -/
theorem C17_linearizable {s : St} (h : Reachable s) (hg : s.gone = false) :
    replay Maps.empty s.hist = some s.maps :=
  (inv_reachable h).h.rep hg

/-- the maps always satisfy the `std::map` invariant (sorted, unique names) -/
theorem C17_maps_wf {s : St} (h : Reachable s) : WF s.maps := (inv_reachable h).h.wf

/-- The linearisation point lies inside the call: the history entry is appended by the call's own
lock acquisition — after its `call`, before its `ret` — with the specification's result, and the maps
change at that very step to the specification's successor state. -/
theorem C17_lin_point_inside_call {s s' : St} {t : Tid} {op : Op} (hp : s.pc t = .called op)
    (hs : step s t .mlk = some s') :
    s'.hist = s.hist ++ [⟨t, op, (apply s.maps op).2⟩] ∧ s'.maps = (apply s.maps op).1 ∧
    ∃ pend, s'.pc t = .cs op (apply s.maps op).2 pend := by
  cases step_tr hs with
  | lin op' hp' => cases hp.symm.trans hp'; exact ⟨rfl, rfl, _, setPc_pc_same _ _ _⟩
  | dLock hp' | dRelock _ hp' => cases hp.symm.trans hp' 

/-- the history only grows (so real-time order and each thread's program order are respected) -/
theorem C17_history_append_only {s s' : St} {t : Tid} {e : Ev} (hs : step s t e = some s') :
    ∃ l, s'.hist = s.hist ++ l := by
  cases step_tr hs with
  | lin => exact ⟨_, rfl⟩
  | _ => exact ⟨[], (List.append_nil _).symm⟩

/-- only the thread that acquires the lock for a call changes the maps (plus the destructor's final
release): no step of any thread in any other position touches them -/
theorem C17_maps_change_only_at_lin {s s' : St} {t : Tid} {e : Ev} (hs : step s t e = some s')
    (hne : s'.maps ≠ s.maps) : (∃ op, s.pc t = .called op ∧ e = .mlk) ∨ (∃ c, s.pc t = .dLocked c ∧ e = .mul) := by
  cases step_tr hs with
  | lin op hp => exact .inl ⟨op, hp, rfl⟩
  | dFinal c hp => exact .inr ⟨c, hp, rfl⟩
  | _ => exact absurd rfl hne

/-- The value a caller receives is the one the specification produced at the caller's latest
linearisation point (it is that thread's last history entry). -/
theorem C17_result_is_spec_result {s s' : St} {t : Tid} {r : Res} (h : Reachable s)
    (hs : step s t (.ret r) = some s') : ∃ op, lastOf t s.hist = some ⟨t, op, r⟩ ∧ r ≠ .threw := by
  cases step_tr hs with
  | ret op res hp hr => exact ⟨op, (inv_reachable h).h.mine t op r (by rw [hp]; rfl), hr⟩

/-- Two threads are never both between the `mlk` and the `mul` of a call (or of a destructor round): the method bodies
exclude each other. -/
theorem C17_mutual_exclusion {s : St} (h : Reachable s) {t u : Tid} (ht : (s.pc t).inCS = true)
    (hu : (s.pc u).inCS = true) : t = u :=
  have hl := (inv_reachable h).lk
  Option.some.inj (((hl t).mpr ht).symm.trans ((hl u).mpr hu))

/-- The lock is held exactly while a thread is inside a method's critical section: no leaked lock —
in particular a thread that is idle, has not yet locked, or has returned holds nothing. -/
theorem C17_lock_iff_in_cs {s : St} (h : Reachable s) (t : Tid) : s.lock = some t ↔ (s.pc t).inCS = true :=
  (inv_reachable h).lk t

theorem C17_idle_holds_nothing {s : St} (h : Reachable s) {t : Tid} (hp : s.pc t = .idle) : s.lock ≠ some t := by
  intro hl
  have := ((inv_reachable h).lk t).mp hl
  rw [hp] at this; cases this

/-- Every plain access to the two maps that the model accepts is made by the thread holding `mapLock`
(or by the destructor tearing the maps down after its final release), it changes nothing in the model,
and while the holder exists two different threads can never both be in a position to access the maps:
the maps are data-race-free. -/
theorem C17_map_access_under_lock {s s' : St} {t : Tid} (h : Reachable s) (hs : step s t .mac = some s') :
    s' = s ∧ (s.lock = some t ∨ s.gone = true) := by
  cases step_tr hs with
  | mac hl => exact ⟨rfl, hl.imp_right ((inv_reachable h).d t)⟩

theorem C17_map_access_exclusive {s : St} {t u : Tid} (h : Reachable s) (hg : s.gone = false)
    (ht : (step s t .mac).isSome = true) (hu : (step s u .mac).isSome = true) : t = u := by
  obtain ⟨s1, h1⟩ := Option.isSome_iff_exists.mp ht
  obtain ⟨s2, h2⟩ := Option.isSome_iff_exists.mp hu
  have alive : ∀ {v}, s.lock = some v ∨ s.gone = true → s.lock = some v := fun a =>
    a.resolve_right (by rw [hg]; exact Bool.noConfusion)
  exact Option.some.inj ((alive (C17_map_access_under_lock h h1).2).symm.trans
    (alive (C17_map_access_under_lock h h2).2))

/-- Some event of the lock holder is accepted.  As stated this is weak: the tap observation `mac` alone is such an
event; that the holder has an enabled LIBRARY step is `holder_lib` (Proof/SOHLive.lean), used for `C17_progress`. -/
theorem C17_holder_enabled {s : St} (h : Reachable s) {t : Tid} (hl : s.lock = some t) :
    ∃ e, (step s t e).isSome = true :=
  let ⟨e, _, he⟩ := holder_lib (inv_reachable h) hl
  ⟨e, he⟩

/-- each critical section is finite: a bounded measure strictly decreases with every step of the holder
(payload destructions and plain map accesses, which the model accepts as stutter steps, aside) -/
def csMeasure : Pc → Nat
  | .cs _ res pend => pend.length + (if res = .threw then 3 else 2)
  | .thrown _ => 2
  | .dLocked _ => 2
  | _ => 1

theorem C17_cs_bounded {s s' : St} {t : Tid} {e : Ev} (hcs : (s.pc t).inCS = true) (hs : step s t e = some s')
    (hne : ∀ k, e ≠ .pdt k) (hnm : e ≠ .mac) : csMeasure (s'.pc t) < csMeasure (s.pc t) := by
  cases step_tr hs with
  | pdt k => exact absurd rfl (hne k)
  | mac => exact absurd rfl hnm
  | callNew _ _ hp | call _ hp | rel _ hp | lin _ hp | ret _ _ hp | exc _ hp | callD hp | dLock hp | dYld _ hp
  | dSlp _ hp | dRelock _ hp | retD hp => rw [hp] at hcs; cases hcs
  | pcl _ _ _ _ hp | uth _ hp | mulThrown _ hp | dFinal _ hp | dRetry _ hp =>
    rw [setPc_pc_same, hp]; simp [csMeasure]
  | mulCs _ _ hp hr => rw [setPc_pc_same, hp]; simp [csMeasure, hr]

/-- Whenever `mapLock` is free and the holder has not been destroyed, every thread that wants the lock can take it.
`C17_no_deadlock` then: a thread inside a call has an accepted event itself, or the lock is held by another thread
that has one (an event, not necessarily a library step: see `C17_holder_enabled`), or it is a call that raced with the
completed destructor.  The form with library steps only is `C17_progress`. -/
theorem C17_acquirer_enabled_when_free {s : St} {t : Tid} (hl : s.lock = none) (hg : s.gone = false) :
    (∀ op, s.pc t = .called op → (step s t .mlk).isSome = true) ∧
    (s.pc t = .dCalled → (step s t .mlk).isSome = true) ∧
    (∀ c, s.pc t = .dRelock c → (step s t .mlk).isSome = true) :=
  ⟨fun op hp => (Tr.lin op hp hl hg).enabled, fun hp => (Tr.dLock hp hl).enabled,
    fun c hp => (Tr.dRelock c hp hl).enabled⟩

theorem C17_no_deadlock {s : St} (h : Reachable s) (t : Tid) (hp : s.pc t ≠ .idle) :
    (∃ e, (step s t e).isSome = true) ∨ (∃ u, u ≠ t ∧ s.lock = some u ∧ ∃ e, (step s u e).isSome = true) ∨
    (s.gone = true ∧ ∃ op, s.pc t = .called op) := by
  cases hl : s.lock with
  | none =>
    rcases free_lib (inv_reachable h) hl t with h1 | ⟨e, _, he⟩ | h1
    · exact absurd h1 hp
    · exact .inl ⟨e, he⟩
    · exact .inr (.inr h1)
  | some u =>
    by_cases hut : u = t
    · exact .inl (C17_holder_enabled h (hut ▸ hl))
    · exact .inr (.inl ⟨u, hut, rfl, C17_holder_enabled h hl⟩)

/-! ## Part 3 — a returned object stays alive while the caller holds it -/

/-- The payload destructor is accepted only for an object that no map entry and no caller-held
reference refers to (this guard is what trace acceptance checks against the real `shared_ptr`s). -/
theorem C17_destroyed_only_unreferenced {s s' : St} {t : Tid} {k : ObjId} (hs : step s t (.pdt k) = some s') :
    (∀ x ∈ s.maps.objs, x.2 ≠ k) ∧ (∀ h ∈ s.held, h.2 ≠ k) ∧ k ∉ s.dead := by
  cases step_tr hs with
  | pdt k hc hd hm hh => exact ⟨hm, hh, hd⟩

/-- In every reachable state, whatever the other threads did meanwhile (including removing the entry):
an object a caller holds a reference to has not been destroyed, and neither has any stored object. -/
theorem C17_alive {s : St} (h : Reachable s) :
    (∀ t k, (t, k) ∈ s.held → k ∉ s.dead) ∧ (∀ n k, (n, k) ∈ s.maps.objs → k ∉ s.dead) :=
  ⟨fun t k hk => (inv_reachable h).a.heldAlive (t, k) hk, fun n k hk => (inv_reachable h).a.mapAlive (n, k) hk⟩

/-- Every object in a result is owned by the caller from the linearisation point on — so when the call
returns, each returned object is held by the caller and alive; it stays alive until the caller's own
`rel` (by `C17_alive`, since no step of another thread removes the caller's entry from `held`). -/
theorem C17_returned_alive {s s' : St} {t : Tid} {r : Res} (h : Reachable s) (hs : step s t (.ret r) = some s') :
    ∀ k ∈ r.ids, (t, k) ∈ s'.held ∧ k ∉ s'.dead := by
  have hr' := reachable_step h hs
  cases step_tr hs with
  | ret op res hp hr =>
    intro k hk
    have hheld := (inv_reachable h).a.resHeld t op r (by rw [hp]; rfl) k hk
    exact ⟨hheld, (C17_alive hr').1 t k hheld⟩

/-- no step of ANOTHER thread takes a reference away from a caller -/
theorem C17_held_stable {s s' : St} {t u : Tid} {e : Ev} {k : ObjId} (hs : step s u e = some s') (hut : u ≠ t)
    (hk : (t, k) ∈ s.held) : (t, k) ∈ s'.held := by
  cases step_tr hs with
  | callNew => exact List.mem_cons_of_mem _ hk
  | rel j => exact (List.mem_erase_of_ne (fun hh => hut (Prod.mk.inj hh).1.symm)).mpr hk
  | lin => exact mem_heldAfter_other (Ne.symm hut) hk
  | _ => exact hk

/-- a destroyed object is never handed out again -/
theorem C17_dead_never_returned {s s' : St} {t : Tid} {r : Res} {k : ObjId} (h : Reachable s) (hd : k ∈ s.dead)
    (hs : step s t (.ret r) = some s') : k ∉ r.ids := by
  intro hk
  have := (C17_returned_alive h hs k hk).2
  cases step_tr hs with
  | ret => exact this hd

/-! ## Non-vacuity -/

/-- a reachable concurrent state: thread 1 added `b ↦ 1` (typed), thread 2's duplicate add was refused and
its object destroyed, thread 3 copied `b` to `a`, thread 2 found `a` and holds object 1, thread 1 removed
BOTH names by predicate, one per call (first match in key order first); object 1 is still alive, the destructor of 1 is
not acceptable, and the history has six linearised calls -/
example : ∃ s, Reachable s ∧ s.maps = ⟨[], []⟩ ∧ s.held = [(2, 1)] ∧ s.dead = [2] ∧ s.hist.length = 6 ∧
    replay Maps.empty s.hist = some s.maps ∧ step s 3 (.pdt 1) = none ∧ s.lock = none :=
  ⟨_, ⟨[(1, .call (.addT 1 1 0)), (2, .call (.add 1 2)), (1, .mlk), (1, .mul), (1, .ret (.bool true)),
        (2, .mlk), (2, .mul), (2, .pdt 2), (2, .ret (.bool false)),
        (3, .call (.cp 1 0)), (3, .mlk), (3, .mul), (3, .ret (.bool true)),
        (2, .call (.find 0)), (1, .call (.rp ⟨.always, 0⟩)), (2, .mlk), (2, .mul), (1, .mlk), (1, .pcl 1), (1, .mul),
        (2, .ret (.obj (some 1))), (1, .ret (.bool true)),
        (1, .call (.rp ⟨.idEq 1, 0⟩)), (1, .mlk), (1, .pcl 1), (1, .mul), (1, .ret (.bool true))], rfl⟩,
   by decide, by decide, by decide, by decide, by decide, by decide, by decide⟩

/-- the states the spec theorems talk about exist: a well-formed map with two names, a duplicate, a copy -/
example : WF ⟨[(0, 5), (2, 7)], [(2, [1])]⟩ ∧ lookup 2 ([(0, 5), (2, 7)] : List (Name × ObjId)) = some 7 ∧
    lookup 1 ([(0, 5), (2, 7)] : List (Name × ObjId)) = none ∧
    apply ⟨[(0, 5), (2, 7)], [(2, [1])]⟩ (.cp 2 1) = (⟨[(0, 5), (1, 7), (2, 7)], [(1, [1]), (2, [1])]⟩, .bool true) ∧
    apply ⟨[(0, 5), (2, 7)], [(2, [1])]⟩ (.rp ⟨.always, 0⟩) = (⟨[(2, 7)], [(2, [1])]⟩, .bool true) := by
  refine ⟨⟨?_, ?_⟩, by decide, by decide, by decide, by decide⟩
  · simp [Sorted]
  · simp [Sorted]

/-- the destructor loop: a holder destroyed while an object is still stored gives up after 7 rounds -/
example : ∃ s, Reachable s ∧ s.gone = true ∧ s.maps = Maps.empty ∧ s.pc 0 = .dDone :=
  ⟨_, ⟨[(0, .call (.add 0 1)), (0, .mlk), (0, .mul), (0, .ret (.bool true)), (0, .callD), (0, .mlk),
        (0, .mul), (0, .yld), (0, .mlk), (0, .mul), (0, .slp), (0, .mlk), (0, .mul), (0, .yld), (0, .mlk),
        (0, .mul), (0, .slp), (0, .mlk), (0, .mul), (0, .yld), (0, .mlk), (0, .mul), (0, .slp), (0, .mlk),
        (0, .mul), (0, .yld), (0, .mlk), (0, .mul)], rfl⟩, by decide, by decide, by decide⟩

/-! ## Liveness: every call returns — for every scheduler

Environment events (`isEnv`, Proof/SOHLive.lean): `call`, `callD`, the client dropping a reference (`rel`),
the payload destructor (`pdt`) and the tap observation `mac`; every other event is a step of the library
(`mlk`, each predicate invocation `pcl` of a scan, `uth`, `mul`, `ret`/`exc`, the destructor's retry loop).
* `C17_terminates` (no livelock): an execution that makes no environment event from some point on cannot be
  infinite, whatever the scheduler does.  Two-level rank: first "has not taken `mapLock` yet" (other calls may
  still enlarge the map a waiting scan will walk), then the remaining work inside the critical section —
  `pend.length + 3`, the predicate invocations being bounded by the map as it is when the lock is taken — and
  `3·(7 − c) + …` for the destructor's at most 7 retry rounds.
* `C17_progress` / `C17_stuck_all_returned` (no deadlock): a reachable state without enabled library step has
  every thread returned, except calls racing with the completed destructor (use after destruction).
Not covered: starvation of one caller by infinitely many calls of others under an unfair mutex. -/

theorem C17_terminates (x : Live.Exec step) (N : Nat) (ts : List Tid) (hnd : ts.Nodup)
    (hts : ∀ n, N ≤ n → x.who n ∈ ts) (hnc : ∀ n, N ≤ n → isEnv (x.ev n) = false) : False :=
  Live.no_infinite_run_lex rankedLex ts hnd x N trivial hts hnc

/-- inside one critical section the number of remaining library steps is fixed at the lock acquisition: it is
the number of predicate invocations of the scan over the map as it is then, plus at most 3 -/
theorem C17_cs_work_fixed_at_lock {s s' : St} {t : Tid} {op : Op} (hp : s.pc t = .called op)
    (hs : step s t .mlk = some s') : μ s' t = (predCalls s.maps op).length + 3 := by
  cases step_tr hs with
  | lin op' hp' => cases hp.symm.trans hp'; exact congrArg Pc.rank (setPc_pc_same _ _ _)
  | dLock hp' | dRelock _ hp' => cases hp.symm.trans hp' 

/-- deadlock-freedom: if some thread is inside a call, some thread has an enabled library step — unless the
holder has been destroyed and every thread still inside a call is a call that raced with the destructor -/
theorem C17_progress {s : St} (h : Reachable s) {t : Tid} (ht : s.pc t ≠ .idle) :
    (∃ u, LibEnabled s u) ∨ (s.gone = true ∧ ∃ op, s.pc t = .called op) := by
  have hi := inv_reachable h
  cases hl : s.lock with
  | some u => exact Or.inl ⟨u, holder_lib hi hl⟩
  | none =>
    rcases free_lib hi hl t with h1 | h1 | h1
    · exact absurd h1 ht
    · exact Or.inl ⟨t, h1⟩
    · exact Or.inr h1

/-- a reachable state without enabled library step: every thread has returned, except calls made after the
holder's destructor completed -/
theorem C17_stuck_all_returned {s : St} (h : Reachable s) (hstuck : ∀ u, ¬ LibEnabled s u) (t : Tid) :
    s.pc t = .idle ∨ (s.gone = true ∧ ∃ op, s.pc t = .called op) := by
  by_cases ht : s.pc t = .idle
  · exact Or.inl ht
  · rcases C17_progress h ht with ⟨u, hu⟩ | h1
    · exact absurd hu (hstuck u)
    · exact Or.inr h1

/-- … in particular while the holder is alive: no enabled library step ⇒ every thread is idle -/
theorem C17_stuck_all_returned_alive {s : St} (h : Reachable s) (hg : s.gone = false)
    (hstuck : ∀ u, ¬ LibEnabled s u) (t : Tid) : s.pc t = .idle := by
  rcases C17_stuck_all_returned h hstuck t with h1 | ⟨h1, _⟩
  · exact h1
  · rw [hg] at h1; cases h1

/-- non-vacuity: thread 1 is inside a removing scan with one predicate invocation to come (rank 4), thread 2
waits for `mapLock` and cannot take it; thread 1 has an enabled library step -/
example : ∃ s, Reachable s ∧ s.pc 1 = .cs (.rp ⟨.always, 0⟩) (.bool true) [1] ∧ μ s 1 = 4 ∧ α s 2 = 1 ∧
    step s 2 .mlk = none ∧ LibEnabled s 1 :=
  ⟨_, ⟨[(1, .call (.add 1 1)), (1, .mlk), (1, .mul), (1, .ret (.bool true)), (2, .call (.find 1)),
        (1, .call (.rp ⟨.always, 0⟩)), (1, .mlk)], rfl⟩,
   by decide, by decide, by decide, by decide, ⟨.pcl 1, rfl, by decide⟩⟩

end ConcVerif.SOH
