import ConcVerif.Proof.CowInv
import ConcVerif.Props.C03
/-! # C04 — cow_guarded snapshots are immutable; commits are atomic and never lost

Theorems over the executable model `Model/Cow.lean` (`step` is the function the trace driver runs on the traces of the
real `cow_guarded.hpp`; the model embeds the left-right model `Model/LR.lean` and delegates every primitive operation on
`m_data` to `LR.step`, so the C03 theorems hold for `s.lr`).  All statements quantify over every `Reachable` state /
every accepted trace: any number of threads, writers (lock, write, release | cancel | move), readers that keep any
number of snapshots for any time, and interleavings.

Reading guide: `(u, v) ∈ s.snaps` — thread `u` owns a snapshot handle (`shared_ptr<const T>`, in flight inside
`lock_shared` or held by the client) of version `v`; `s.sv x` — the version side `x` of `m_data` points to;
`s.lr.committed` — the versions committed so far, in commit order (a version is committed by the store that flips
`m_readingLeft`); `s.pub v` — `v` is the constructor's version or has been installed on a side; `s.cont v` — payload
value; `s.dead` — destroyed versions; `s.wm` — owner of `cow_guarded::m_writeMutex`; `s.det = some x` — the writer is
inside the assignment `sptr = newPtr` on side `x`; pcs `lkA … lkD` = inside `lock()`, `wHold v` = the client owns the
write handle with private copy `v`, `relA/relB/relC v` = inside the handle's destruction (publication of `v`),
`relU v` = writer mutex released, `cn v u d` = inside `cancel()`. -/
namespace ConcVerif.Cow
open ConcVerif.LR (Side lk LK)

/-- unfold every per-pc step function -/
macro "cow_unfold " hs:ident : tactic => `(tactic|
  simp [stepIdle, stepRdA, stepRdH, stepRdP, stepRdD, stepDr, stepLkCalled, stepLkA, stepLkH, stepLkC, stepLkD, stepLkT, stepLkTD,
    stepLkExc, stepWHold, stepRelA, stepRelB, stepRelC, stepRelU, stepCn] at $hs:ident)

/-! ## a snapshot is immutable: every write goes to a private, unpublished copy -/

/-- A payload is written only through the write handle that owns it: the writing thread holds the writer mutex, the
version is private — never installed on a side, not committed, no snapshot handle names it — and no other payload
changes. -/
theorem C04_write_private {s s' : St} (h : Reachable s) {t : Tid} {v : Ver} {c : Nat} (hs : step s t (.pwr v c) = some s') :
    s.pc t = .wHold v ∧ s.wm = some t ∧ ¬ s.pub v ∧ v ∉ s.lr.committed ∧ (∀ u, (u, v) ∉ s.snaps) ∧ (∀ x, s.sv x ≠ v) ∧
      ∀ w, w ≠ v → s'.cont w = s.cont w := by
  have hi := inv_reachable h
  cases Step.of_step hs with
  | wHold_pwr hp =>
    obtain ⟨_, _, hnp⟩ := hi.h.ownOk t v (by rw [hp]; rfl)
    exact ⟨hp, (hi.l.wmh t).mp (by rw [hp]; rfl), hnp, fun hc => hnp (hi.c.comPub v hc),
      fun u hu => hnp (hi.h.snapsOk u v hu).1, fun x hx => hnp (hx ▸ sv_pub s x), fun w hw => if_neg hw⟩

/-- Step form of immutability: no step of any thread changes the value of a published version — in particular of any
version a snapshot handle names (`C04_snapshot_value_constant`). -/
theorem C04_snapshot_immutable {s s' : St} (h : Reachable s) {t : Tid} {e : Ev} {v : Ver} (hs : step s t e = some s')
    (hv : s.pub v) : s'.cont v = s.cont v := by
  have hi := inv_reachable h
  cases e with
  | pwr w c =>
    obtain ⟨_, _, hnp, _, _, _, hc⟩ := C04_write_private h hs
    exact hc v (fun e => hnp (e ▸ hv))
  | pcp n a c =>
    cases Step.of_step hs with
    | lkH_pcp _ hn => exact if_neg fun (e : v = n) => hn (e ▸ hi.h.pubAlloc v hv)
  | _ => exact congrFun ((frame_step hs).cont (by intro _ _ h; cases h) (by intro _ _ _ h; cases h)) v

theorem C04_snapshot_value_constant {s s' : St} (h : Reachable s) {t u : Tid} {e : Ev} {v : Ver}
    (hs : step s t e = some s') (hu : (u, v) ∈ s.snaps) : s'.cont v = s.cont v :=
  C04_snapshot_immutable h hs ((inv_reachable h).h.snapsOk u v hu).1

/-- A read through a snapshot handle (or through the write handle) returns the version's value. -/
theorem C04_read_observes {s s' : St} {t : Tid} {v : Ver} {c : Nat} (hs : step s t (.prd v c) = some s') :
    c = s.cont v ∧ s' = s ∧ ((t, v) ∈ s.snaps ∨ s.pc t = .wHold v) := by
  cases Step.of_step hs with
  | idle_prd hp hm hc => exact ⟨hc, setPc_self hp, .inl hm⟩
  | wHold_prd hp hm hc => exact ⟨hc, setPc_self hp, hm.elim (fun e => .inr (e ▸ hp)) .inl⟩

/-! ## a snapshot stays valid: versions are destroyed only when nothing refers to them (ghost reference ledger) -/

/-- The version a snapshot handle names is allocated and not destroyed. -/
theorem C04_snapshot_alive {s : St} (h : Reachable s) {u : Tid} {v : Ver} (hu : (u, v) ∈ s.snaps) :
    v ∉ s.dead ∧ v ∈ s.alloc ∧ s.pub v :=
  have hi := inv_reachable h
  ⟨(hi.h.snapsOk u v hu).2, hi.h.pubAlloc v (hi.h.snapsOk u v hu).1, (hi.h.snapsOk u v hu).1⟩

/-- The version a side points to is alive, except for the old version of the side inside an open assignment window
(which no read handle can point to: `C04_window_untouched`). -/
theorem C04_side_alive {s : St} (h : Reachable s) {x : Side} (hx : s.det ≠ some x) : s.sv x ∉ s.dead :=
  (inv_reachable h).h.sidesOk x hx

theorem C04_window_untouched {s : St} (h : Reachable s) {r : Tid} {c x : Side} (hr : s.lr.pc r = .rdHold c x) :
    s.det ≠ some x :=
  held_not_det (inv_reachable h).l hr

/-- A private copy is alive, allocated and unpublished as long as its handle owns it. -/
theorem C04_private_alive {s : St} (h : Reachable s) {t : Tid} {v : Ver} (hp : (s.pc t).own = some v) :
    v ∈ s.alloc ∧ v ∉ s.dead ∧ ¬ s.pub v :=
  (inv_reachable h).h.ownOk t v hp

theorem C04_no_window_when_quiet {s : St} (h : Reachable s) (hm : s.lr.mtx = none) : s.det = none := by
  have hi := inv_reachable h
  cases hd : s.det with
  | none => rfl
  | some y =>
    obtain ⟨w, hw⟩ := hi.l.win y hd
    have := (hi.l.full.inv.holder w).mp (writing_post hw)
    rw [hm] at this; cases this

/-- In-flight copy inside `lock()`: the source of the copy is the latest committed version, both sides point to it, and
it is alive. -/
theorem C04_copy_source_alive {s : St} (h : Reachable s) {t : Tid} {src : Ver} (hp : s.pc t = .lkH (some src)) :
    src = cur s.lr.committed ∧ (∀ x, s.sv x = src) ∧ s.det = none ∧ src ∉ s.dead := by
  have hi := inv_reachable h
  have hw : s.wm = some t := (hi.l.wmh t).mp (by rw [hp]; rfl)
  have hk : lk (s.lr.pc t) = .hold := by rw [hi.l.link t, hp]; rfl
  have hq := quiet_of_holder hi.l hw (LR.lk_hold_not_post hk)
  have hd := C04_no_window_when_quiet h hq
  have hsrc := hi.c.src t src hp
  have hsv : ∀ x, s.sv x = src := fun x => by rw [hsrc]; simp [St.sv, val_committed hi.l hq x]
  exact ⟨hsrc, hsv, hd, hsv .L ▸ hi.h.sidesOk .L (by rw [hd]; simp)⟩

/-- Destruction: `pdt v` is accepted only when `v` has not been destroyed before and nothing refers to it — no snapshot
handle (in flight or held), no side outside an assignment window, no copy in progress, no other thread's write handle. -/
theorem C04_destroy_unreferenced {s s' : St} (h : Reachable s) {t : Tid} {v : Ver} (hs : step s t (.pdt v) = some s') :
    v ∉ s.dead ∧ (∀ u, (u, v) ∉ s.snaps) ∧ (∀ x, s.det ≠ some x → s.sv x ≠ v) ∧
      (∀ u src, s.pc u = .lkH (some src) → src ≠ v) ∧ (∀ u, u ≠ t → (s.pc u).own ≠ some v) ∧ s'.dead = v :: s.dead := by
  have hi := inv_reachable h
  have hcopy : (∀ x, s.det ≠ some x → s.sv x ≠ v) → ∀ u src, s.pc u = .lkH (some src) → src ≠ v := by
    intro hx u src hu
    obtain ⟨_, hsv, hd, _⟩ := C04_copy_source_alive h hu
    exact hsv .L ▸ hx .L (by rw [hd]; simp)
  cases Step.of_step hs with
  | dr_pdt hp _ hnd hrf =>
    -- snapshot drop
    obtain ⟨hox, hos⟩ := refd_false hrf
    exact ⟨hnd, hos, hox, hcopy hox, fun u _ hu => own_not_pub hi hu (hi.h.drPub t _ _ hp) rfl, rfl⟩
  | relB_pdt _ hwin hnd hrf =>
    -- the writer, inside its assignment window
    obtain ⟨hox, hos⟩ := refd_false hrf
    exact ⟨hnd, hos, hox, hcopy hox, fun u _ hu => own_not_pub hi hu (winRef_pub hwin) rfl, rfl⟩
  | cn_pdt hp =>
    -- cancel: the private copy
    have hown : (s.pc t).own = some v := by rw [hp]; rfl
    obtain ⟨_, a2, a3⟩ := hi.h.ownOk t v hown
    have hx : ∀ x, s.det ≠ some x → s.sv x ≠ v := fun x _ hx => a3 (hx ▸ sv_pub s x)
    exact ⟨a2, fun u hu => a3 (hi.h.snapsOk u v hu).1, hx, hcopy hx,
      fun u hut hu => hi.h.ownUniq u t v hut hu hown, rfl⟩

/-- ... and is not optional.  A thread that removed the last reference outside any assignment window can do nothing but
destroy the version. -/
theorem C04_last_drop_destroys {s s' : St} {t : Tid} {e : Ev} {v : Ver} (hp : s.pc t = .dr v .must)
    (hs : step s t e = some s') : e = .pdt v := by
  cases Step.of_step hs with
  | dr_pdt hp' => cases hp.symm.trans hp'; rfl
  | dr_ret hp' hn => cases hp.symm.trans hp'; exact absurd rfl hn
  | _ hp' => cases hp.symm.trans hp'

/-- How the dropping thread decides (`needOf`): other references remain (`no`), only the side inside the open assignment
window still points to the version (`maybe`: that side's reference is given up at a moment the trace does not show, so
either the dropping thread or the writer destroys — `C04_window_close` makes sure one of them does), or none (`must`). -/
theorem C04_drop_decision {s s' : St} {t : Tid} {v : Ver} (hs : step s t (.call (.drop v)) = some s') :
    (t, v) ∈ s.snaps ∧ s'.snaps = s.snaps.erase (t, v) ∧ s'.pc t = .dr v (s'.needOf v) := by
  cases Step.of_step hs with
  | idle_callDrop _ hm => exact ⟨hm, rfl, setPc_pc_self ..⟩

/-- An assignment window on side `x` cannot be closed while the version `x` pointed to is neither referenced nor
destroyed: together with `C04_destroy_unreferenced` — a version is destroyed exactly when its last reference goes. -/
theorem C04_window_close {s s' : St} {t : Tid} {x : Side} (hs : step s t (.stCtl x) = some s') :
    s.det = some x ∧ (s.sv x ∈ s.dead ∨ s.refd (s.sv x) = true) := by
  cases Step.of_step hs with
  | relA_stCtl _ hd hr | relB_stCtl _ hd hr => exact ⟨hd, hr⟩

/-- Trace form: from the moment a snapshot handle exists until its owner drops it, whatever all threads do in between —
any number of commits, cancels, other snapshots taken and dropped — the handle keeps naming the same version, the
version's value does not change and the version is not destroyed. -/
theorem C04_snapshot_stable {s s' : St} {es : List (Tid × Ev)} {u : Tid} {v : Ver} (h : Reachable s)
    (hrun : run s es = some s') (hu : (u, v) ∈ s.snaps) (hno : (u, Ev.call (.drop v)) ∉ es) :
    (u, v) ∈ s'.snaps ∧ s'.cont v = s.cont v ∧ v ∉ s'.dead := by
  induction es generalizing s with
  | nil => cases hrun; exact ⟨hu, rfl, (C04_snapshot_alive h hu).1⟩
  | cons a es ih =>
    obtain ⟨t, e⟩ := a
    obtain ⟨s1, hst, hrun⟩ := runFrom_cons_eq_some.mp hrun
    have hu1 : (u, v) ∈ s1.snaps := (frame_step hst).snaps u v hu (by
      rintro ⟨rfl, rfl⟩; exact hno (by simp))
    have := ih (reachable_step h hst) hrun hu1 (fun hm => hno (List.mem_cons_of_mem _ hm))
    exact ⟨this.1, this.2.1.trans (C04_snapshot_value_constant h hst hu), this.2.2⟩

/-! ## writers are serialised from lock() until release / cancel -/

/-- The writer mutex is owned exactly by the threads between `mlk wm` inside `lock()` and `mul wm` inside the handle's
destruction / `cancel()` / the unwinding of a throwing `lock()` (`Pc.holds`) — in particular by every thread that owns a
write handle or is publishing — and by at most one thread. -/
theorem C04_writers_serial {s : St} (h : Reachable s) {t : Tid} : (s.pc t).holds = true ↔ s.wm = some t :=
  (inv_reachable h).l.wmh t

theorem C04_writers_exclusive {s : St} (h : Reachable s) {t u : Tid} (ht : (s.pc t).holds = true) (hu : (s.pc u).holds = true) :
    t = u := by
  have h1 := (C04_writers_serial h).mp ht
  have h2 := (C04_writers_serial h).mp hu
  rw [h1] at h2; injection h2

theorem C04_handle_owns_mutex {s : St} (h : Reachable s) {t : Tid} {v : Ver} (hp : s.pc t = .wHold v) : s.wm = some t :=
  (C04_writers_serial h).mp (by rw [hp]; rfl)

/-- `m_data.modify` runs only inside the writer-mutex section: a thread holding `m_data`'s write mutex owns `wm`. -/
theorem C04_publication_inside {s : St} (h : Reachable s) {t : Tid} (hp : s.lr.mtx = some t) : s.wm = some t :=
  have hi := inv_reachable h
  post_holds hi.l ((hi.l.full.inv.holder t).mpr hp)

/-- At most one private copy is on its way to being committed. -/
theorem C04_one_private_copy {s : St} (h : Reachable s) {t u : Tid} {v w : Ver} (ht : (s.pc t).carry = some v)
    (hu : (s.pc u).carry = some w) : t = u ∧ v = w := by
  have := C04_writers_exclusive h (carry_holds ht) (carry_holds hu)
  subst this
  rw [ht] at hu; injection hu with hu
  exact ⟨rfl, hu⟩

/-- `mlk wm` is granted only when nobody owns the writer mutex. -/
theorem C04_lock_waits {s s' : St} {t : Tid} (hs : step s t .olock = some s') : s.wm = none ∧ s'.wm = some t := by
  cases Step.of_step hs with
  | lkCalled_olock _ h0 => exact ⟨h0, rfl⟩

/-! ## each write handle starts from the latest committed value -/

/-- `lock()` copies the latest committed version: the copy constructor's source is `cur committed` (both sides point to
it), the copy starts with its value, is fresh, and the copying thread owns the writer mutex. -/
theorem C04_starts_from_latest {s s' : St} (h : Reachable s) {t : Tid} {new src : Ver} {c : Nat}
    (hs : step s t (.pcp new src c) = some s') :
    src = cur s.lr.committed ∧ (∀ x, s.sv x = src) ∧ c = s.cont src ∧ s'.cont new = s.cont src ∧ s'.parent new = src ∧
      new ∉ s.alloc ∧ s.wm = some t ∧ s'.pc t = .lkC new := by
  cases Step.of_step hs with
  | lkH_pcp hp hn hc =>
    obtain ⟨h1, h2, _, _⟩ := C04_copy_source_alive h hp
    exact ⟨h1, h2, hc, (if_pos rfl).trans hc, if_pos rfl, hn, (C04_writers_serial h).mp (by rw [hp]; rfl), setPc_pc_self ..⟩

/-- ... and it still is the latest when the handle is released: as long as a thread carries a private copy (from the copy
constructor to the flip that commits it) the copy's parent is the latest committed version — nobody commits in between. -/
theorem C04_still_latest {s : St} (h : Reachable s) {t : Tid} {v : Ver} (hp : (s.pc t).carry = some v) :
    s.parent v = cur s.lr.committed :=
  (inv_reachable h).c.top t v hp

/-- The commit: the flip of `m_readingLeft` by the publishing thread appends its version — whose parent is the version
committed just before — to `committed`; no other step changes `committed`. -/
theorem C04_commit_step {s s' : St} (h : Reachable s) {t : Tid} {e : Ev} (hs : step s t e = some s') :
    s'.lr.committed = s.lr.committed ∨
      ∃ v y, e = .lr (.stRL y) ∧ s.pc t = .relB v false ∧ s.wm = some t ∧ s.parent v = cur s.lr.committed ∧
        s'.lr.committed = s.lr.committed ++ [v] := by
  have hi := inv_reachable h
  by_cases hst : ∃ y, e = .lr (.stRL y)
  · obtain ⟨y, rfl⟩ := hst
    right
    cases Step.of_step hs with
    | relA_neutral _ hn | relB_neutral _ hn => cases hn
    | @relB_stRL v _ _ hp hl =>
      have hk : lk (s.lr.pc t) = .wB v := by rw [hi.l.link t, hp]; rfl
      exact ⟨v, y, rfl, hp, (C04_writers_serial h).mp (by rw [hp]; rfl), hi.c.top t v (by rw [hp]; rfl),
        (LR.step_wB_stRL hk hl).2.1⟩
  · left
    exact (frame_step hs).committed (fun y he => hst ⟨y, he⟩)

/-! ## commits form a chain: no update is lost -/

/-- Each committed version was copied from the version committed just before it (the first one from the constructor's
version 0). -/
theorem C04_chain {s : St} (h : Reachable s) : Chain s.parent 0 s.lr.committed := (inv_reachable h).c.chain

theorem C04_chain_first {s : St} (h : Reachable s) {v : Ver} {l : List Ver} (hc : s.lr.committed = v :: l) : s.parent v = 0 := by
  have := C04_chain h
  rw [hc] at this
  exact this.1

theorem C04_chain_next {s : St} (h : Reachable s) {a b : Ver} {l1 l2 : List Ver} (hc : s.lr.committed = l1 ++ a :: b :: l2) :
    s.parent b = a := by
  have hch := C04_chain h
  rw [hc] at hch
  have : ∀ (l : List Ver) (p : Ver), Chain s.parent p (l ++ a :: b :: l2) → s.parent b = a := by
    intro l
    induction l with
    | nil => intro p hp; exact hp.2.1
    | cons x l ih => intro p hp; exact ih x hp.2
  exact this l1 0 hch

/-- No lost update: the committed versions are exactly the versions whose release has unlocked the writer mutex, in that
order, plus the one the current owner of the writer mutex has committed but not yet unlocked.  Whenever the writer mutex
is free: `committed = released` — as many committed versions as (non-cancelled) releases. -/
theorem C04_no_lost_update {s : St} (h : Reachable s) :
    (s.wm = none → s.lr.committed = s.released) ∧
      (∀ t, s.wm = some t → s.lr.committed = s.released ++ ((s.pc t).pend).toList) ∧ s.released <+: s.lr.committed := by
  have hi := inv_reachable h
  refine ⟨hi.c.rel0, hi.c.rel, ?_⟩
  cases hw : s.wm with
  | none => rw [hi.c.rel0 hw]; exact List.prefix_refl _
  | some t => rw [hi.c.rel t hw]; exact List.prefix_append _ _

/-- `released` grows by exactly the released version at the `mul wm` of a release, and by nothing else. -/
theorem C04_released_step {s s' : St} {t : Tid} {e : Ev} (hs : step s t e = some s') :
    s'.released = s.released ∨ ∃ v, s.pc t = .relC v ∧ e = .ounlock ∧ s'.released = s.released ++ [v] := by
  cases Step.of_step hs with
  | relC_ounlock hp => exact .inr ⟨_, hp, rfl, rfl⟩
  | _ => exact .inl rfl

/-- While nobody is publishing, both sides of `m_data` point to the latest committed version. -/
theorem C04_sides_latest {s : St} (h : Reachable s) (hm : s.lr.mtx = none) (x : Side) : s.sv x = cur s.lr.committed := by
  simp [St.sv, val_committed (inv_reachable h).l hm x]

/-- The end-of-run observation: both sides point to the last released version, which carries the observed value. -/
theorem C04_final {s s' : St} (h : Reachable s) {t : Tid} {vl vr : Ver} {c : Nat} (hs : step s t (.fin vl vr c) = some s') :
    vl = cur s.released ∧ vr = vl ∧ s.lr.committed = s.released ∧ c = s.cont vl := by
  cases Step.of_step hs with
  | idle_fin _ hw hm hl hr hc =>
    have hcr := (C04_no_lost_update h).1 hw
    rw [C04_sides_latest h hm, hcr] at hl hr
    exact ⟨hl, hr.trans hl.symm, hcr, hc⟩

/-! ## a release publishes to every later lock_shared -/

/-- The copy made by a `lock_shared` form (or by `lock()`) reads the pointer of the side the LR read handle points to. -/
theorem C04_copy_reads_held_side {s s' : St} {t : Tid} {x : Side} {u : Ver} (hs : step s t (.ldPtr x u) = some s') :
    u = cur (s.lr.val x) ∧ ∃ c, s.lr.pc t = .rdHold c x := by
  cases Step.of_step hs with
  | rdH_ldPtr _ hv hl | lkH_ldPtr _ hv hl =>
    obtain ⟨c, hc, _⟩ := LR.step_rd hl
    exact ⟨hv, c, hc⟩

/-- Trace form.  The release of version `v` by thread `w` returns (event `ret release`, from `s0` to `s1`); thread `r` is
idle at that point, so whatever `lock_shared` it makes is called later.  Whenever `r` then copies the `shared_ptr` out of
the side its read handle points to, the version `u` it obtains is the last element of a prefix `s2.lr.val x` of the commit
order which extends everything committed when the release returned and contains `v`: `u` is `v` or a version committed
after `v` — never an older one. -/
theorem C04_publish {s0 s1 s2 s3 : St} {es : List (Tid × Ev)} {w r : Tid} {v u : Ver} {x : Side} (h0 : Reachable s0)
    (hv : s0.pc w = .relU v) (hret : step s0 w (.ret .release) = some s1) (hidle : s1.pc r = .idle)
    (hrun : run s1 es = some s2) (hcopy : step s2 r (.ldPtr x u) = some s3) :
    u = cur (s2.lr.val x) ∧ s0.lr.committed <+: s2.lr.val x ∧ v ∈ s2.lr.val x ∧ s2.lr.val x <+: s2.lr.committed := by
  have hi0 := inv_reachable h0
  have h1 : Reachable s1 := reachable_step h0 hret
  have h2 : Reachable s2 := reachable_run h1 hrun
  have hi1 := inv_reachable h1
  have hi2 := inv_reachable h2
  have hvc : v ∈ s0.lr.committed := (C04_no_lost_update h0).2.2.subset (hi0.c.relU w v hv)
  -- an invariant of the LR state along the run from s1
  let P : LR.St → Prop := fun a => s0.lr.committed <+: a.committed ∧ ((a.pc r).inRead = true → s0.lr.committed <+: a.snap r)
  have hP : ∀ a b q e, P a → LR.step a q e = some b → P b := by
    intro a b q e ⟨hc, hsn⟩ hst
    refine ⟨hc.trans (LR.step_committed_le hst), ?_⟩
    intro hin
    rcases LR.step_snap hst r with ⟨e1, e2⟩ | ⟨_, _, e3⟩
    · rw [e1]; exact hsn (e2 hin)
    · rw [e3]; exact hc
  have hP1 : P s1.lr := by
    refine ⟨step_committed_le hret, ?_⟩
    have : lk (s1.lr.pc r) = .idle := by rw [hi1.l.link r, hidle]; rfl
    rw [LR.lk_idle this]; intro hc; cases hc
  obtain ⟨_, hsn⟩ := run_lr_inv hP hrun hP1
  obtain ⟨hu, c, hc⟩ := C04_copy_reads_held_side hcopy
  have hheld : (s2.lr.pc r).held = some x := by rw [hc]; rfl
  have hpre : s0.lr.committed <+: s2.lr.val x :=
    (hsn (LR.held_inRead hheld)).trans (LR.C03_realtime_inv hi2.l.reach hheld)
  exact ⟨hu, hpre, hpre.subset hvc, LR.held_val_le hi2.l.full.inv hi2.l.full.vinv hheld⟩

/-- At the return of a release the released version is committed. -/
theorem C04_release_returns {s s' : St} (h : Reachable s) {t : Tid} (hs : step s t (.ret .release) = some s') :
    ∃ v, s.pc t = .relU v ∧ v ∈ s.released ∧ v ∈ s.lr.committed ∧ s.wm ≠ some t ∧ s'.pc t = .idle := by
  have hi := inv_reachable h
  cases Step.of_step hs with
  | relU_ret hp =>
    have hr := hi.c.relU t _ hp
    refine ⟨_, hp, hr, (C04_no_lost_update h).2.2.subset hr, ?_, setPc_pc_self ..⟩
    intro hw
    have := (C04_writers_serial h).mpr hw
    rw [hp] at this; cases this

/-! ## cancel() discards the copy, leaves the committed value untouched and frees the writer lock -/

theorem C04_cancel_starts {s s' : St} {t : Tid} (hs : step s t (.call .cancel) = some s') :
    ∃ v, s.pc t = .wHold v ∧ s' = s.setPc t (.cn v false false) := by
  cases Step.of_step hs with
  | wHold_callCancel hp => exact ⟨_, hp, rfl⟩

/-- Inside `cancel()` exactly three things can happen, each once: the writer mutex is unlocked (`u`: false → true), the
private copy is destroyed (`d`: false → true), and — only after both — the call returns.  None of them touches `m_data`
(nothing is published: sides, `committed` and `released` are unchanged) or any payload value. -/
theorem C04_cancel {s s' : St} {t : Tid} {e : Ev} {v : Ver} {u d : Bool} (hp : s.pc t = .cn v u d)
    (hs : step s t e = some s') :
    s'.lr = s.lr ∧ s'.released = s.released ∧ s'.cont = s.cont ∧
      ((e = .ounlock ∧ u = false ∧ s.wm = some t ∧ s'.wm = none ∧ s'.dead = s.dead ∧ s'.pc t = .cn v true d) ∨
       (e = .pdt v ∧ d = false ∧ s'.wm = s.wm ∧ s'.dead = v :: s.dead ∧ s'.pc t = .cn v u true) ∨
       (e = .ret .cancel ∧ u = true ∧ d = true ∧ s'.wm = s.wm ∧ s'.dead = s.dead ∧ s'.pc t = .idle)) := by
  cases Step.of_step hs with
  | cn_ounlock hp' hw =>
    cases hp.symm.trans hp'
    exact ⟨rfl, rfl, rfl, .inl ⟨rfl, rfl, hw, rfl, rfl, setPc_pc_self ..⟩⟩
  | cn_pdt hp' =>
    cases hp.symm.trans hp'
    exact ⟨rfl, rfl, rfl, .inr (.inl ⟨rfl, rfl, rfl, rfl, setPc_pc_self ..⟩)⟩
  | cn_ret hp' =>
    cases hp.symm.trans hp'
    exact ⟨rfl, rfl, rfl, .inr (.inr ⟨rfl, rfl, rfl, rfl, rfl, setPc_pc_self ..⟩)⟩
  | _ hp' => cases hp.symm.trans hp'

/-- Once `cancel()` has unlocked, the thread does not own the writer mutex: another writer can lock. -/
theorem C04_cancel_frees {s : St} (h : Reachable s) {t : Tid} {v : Ver} {d : Bool} (hp : s.pc t = .cn v true d) :
    s.wm ≠ some t := by
  intro hw
  have := (C04_writers_serial h).mpr hw
  rw [hp] at this; cases this

/-- Until `cancel()` destroys it, the private copy is alive, unpublished and not committed: it is destroyed exactly
once (`C04_destroy_unreferenced`: never a second time) and never becomes visible. -/
theorem C04_cancel_private {s : St} (h : Reachable s) {t : Tid} {v : Ver} {u : Bool} (hp : s.pc t = .cn v u false) :
    v ∉ s.dead ∧ ¬ s.pub v ∧ v ∉ s.lr.committed ∧ (∀ w, (w, v) ∉ s.snaps) := by
  have hi := inv_reachable h
  obtain ⟨_, a2, a3⟩ := hi.h.ownOk t v (by rw [hp]; rfl)
  exact ⟨a2, a3, fun hc => a3 (hi.c.comPub v hc), fun w hw => a3 (hi.h.snapsOk w v hw).1⟩

/-! ## non-vacuity: a concrete accepted trace (observed on the real header) and the states the theorems talk about

Thread 1 takes a snapshot of version 0 and keeps it; thread 2 locks (copy 1 of version 0), writes, releases (both wait
loops pass, version 0 survives: the snapshot refers to it), locks again; thread 1 re-reads its snapshot and drops it —
the last reference: it destroys version 0; thread 2's second handle (copy 2 of version 1) is cancelled. -/
def exTrace : List (Tid × Ev) :=
  [(1, .call (.lockShared 0)), (1, .lr (.ldCL .L)), (1, .lr (.inc .L 0)), (1, .lr (.ldRL .L)), (1, .ldPtr .L 0),
   (1, .ldCtl .L), (1, .lr (.dec .L 1)), (1, .retGot (.lockShared 0) 0),
   (2, .call .lock), (2, .olock), (2, .lr (.ldCL .L)), (1, .prd 0 0), (2, .lr (.inc .L 0)), (2, .lr (.ldRL .L)),
   (2, .ldPtr .L 0), (2, .pcp 1 0 0), (2, .lr (.dec .L 1)), (2, .retGot .lock 1), (2, .pwr 1 1),
   (2, .call .release), (2, .lr .lock), (2, .lr (.ldRL .L)), (2, .stPtr .R 1), (2, .ldCtl .R), (2, .ldCtl .R),
   (2, .stCtl .R), (2, .lr (.stRL .R)), (2, .lr (.ldCL .L)), (2, .lr (.ldCnt .R 0)), (2, .lr (.stCL .R)),
   (2, .lr (.ldCnt .L 0)), (2, .stPtr .L 1), (2, .ldCtl .L), (2, .ldCtl .L), (2, .stCtl .L), (2, .lr .unlock),
   (2, .ounlock), (2, .ret .release),
   (2, .call .lock), (2, .olock), (2, .lr (.ldCL .R)), (2, .lr (.inc .R 0)), (1, .prd 0 0), (1, .call (.drop 0)),
   (1, .pdt 0), (1, .ret (.drop 0)), (2, .lr (.ldRL .R)), (2, .ldPtr .R 1), (2, .pcp 2 1 1), (2, .lr (.dec .R 1)),
   (2, .retGot .lock 2), (2, .pwr 2 2), (2, .call .cancel), (2, .ounlock), (2, .pdt 2), (2, .ret .cancel),
   (0, .fin 1 1 1)]

/-- the whole trace is accepted -/
example : (run (init false) exTrace).isSome = true := by decide

/-- after the release has returned (38 events): version 1 is committed and released, both sides point to it, and thread
1 still owns its snapshot of version 0 — alive, value unchanged (hypotheses of `C04_snapshot_stable`, `_alive`,
`_immutable`, `C04_no_lost_update`, `C04_chain`) -/
example : ∃ s, run (init false) (exTrace.take 38) = some s ∧ (1, 0) ∈ s.snaps ∧ s.lr.committed = [1] ∧ s.released = [1] ∧
    s.sv .L = 1 ∧ s.sv .R = 1 ∧ s.cont 0 = 0 ∧ s.cont 1 = 1 ∧ s.dead = [] ∧ s.parent 1 = 0 ∧ s.wm = none :=
  ⟨_, rfl, by decide, rfl, rfl, rfl, rfl, rfl, rfl, rfl, rfl, rfl⟩

/-- the write through the handle (event 18) goes to the private copy 1 (hypothesis of `C04_write_private`) -/
example : ∃ s s', run (init false) (exTrace.take 18) = some s ∧ step s 2 (.pwr 1 1) = some s' ∧ s.pc 2 = .wHold 1 :=
  ⟨_, _, rfl, rfl, rfl⟩

/-- the copy (event 15) is made from version 0, the latest committed one (hypothesis of `C04_starts_from_latest`) -/
example : ∃ s s', run (init false) (exTrace.take 15) = some s ∧ step s 2 (.pcp 1 0 0) = some s' ∧ (s'.pc 2).carry = some 1 :=
  ⟨_, _, rfl, rfl, rfl⟩

/-- the commit (event 26; second alternative of `C04_commit_step`) -/
example : ∃ s s', run (init false) (exTrace.take 26) = some s ∧ step s 2 (.lr (.stRL .R)) = some s' ∧
    s.lr.committed = [] ∧ s'.lr.committed = [1] := ⟨_, _, rfl, rfl, rfl, rfl⟩

/-- the snapshot drop that removes the last reference must destroy (events 43, 44; `C04_drop_decision`,
`C04_last_drop_destroys`, `C04_destroy_unreferenced`) -/
example : ∃ s s', run (init false) (exTrace.take 44) = some s ∧ s.pc 1 = .dr 0 .must ∧ step s 1 (.pdt 0) = some s' ∧
    s'.dead = [0] := ⟨_, _, rfl, rfl, rfl, rfl⟩

/-- `C04_publish`: the release of version 1 returns (event 37), thread 2 is idle, and its later copy (event 47, inside
its next `lock()`) obtains version 1 -/
example : ∃ s0 s1 s2 s3, run (init false) (exTrace.take 37) = some s0 ∧ s0.pc 2 = .relU 1 ∧
    step s0 2 (.ret .release) = some s1 ∧ s1.pc 2 = .idle ∧ run s1 ((exTrace.drop 38).take 9) = some s2 ∧
    step s2 2 (.ldPtr .R 1) = some s3 := ⟨_, _, _, _, rfl, rfl, rfl, rfl, rfl, rfl⟩

/-- cancel (events 52–55): inside `cancel()` with the mutex released and the copy not yet destroyed; at the end the copy
is destroyed, nothing was published, the writer mutex is free (`C04_cancel`, `C04_cancel_frees`, `C04_cancel_private`,
`C04_final`) -/
example : ∃ s, run (init false) (exTrace.take 54) = some s ∧ s.pc 2 = .cn 2 true false ∧ s.wm = none ∧ s.dead = [0] :=
  ⟨_, rfl, rfl, rfl, rfl⟩

example : ∃ s, run (init false) exTrace = some s ∧ s.dead = [2, 0] ∧ s.lr.committed = [1] ∧ s.released = [1] ∧ s.wm = none ∧
    s.cont 1 = 1 := ⟨_, rfl, rfl, rfl, rfl, rfl, rfl⟩

end ConcVerif.Cow
