import ConcVerif.Proof.CowInv
/-! # C20, cow_guarded part — a throwing copy constructor never leaves the wrapper locked or half-modified

The only user code cow_guarded runs is T's copy constructor inside `lock()` (`new T(**data)`), between the left-right
read acquisition and its release, with the writer mutex held.  Theorems over `Model/Cow.lean` (every `Reachable` state;
the throw edge `uth` is part of the model, so every C04 / C14 theorem holds with throws included):
* `uth` is accepted only there; the unwinding is forced: release of the LR read handle (`rmw cnt -1`), `mul wm`, then the
  exception leaves `lock()` — each step enabled, none of them (nor any other step of `lock()`) touches a side of
  `m_data`, `committed`, `released`, the snapshot ledger or any payload; no payload object was constructed;
* afterwards the thread owns nothing: not the writer mutex, no LR registration — the wrapper is usable by everybody;
* the copy constructor's is the only throwing edge of the model: `uth` is rejected at every pc of the handle's
  destruction and of `cancel()` (the commit functor `sptr = newPtr`, a `shared_ptr` assignment, is modelled without
  one), and in no reachable state is a thread at a roll-back / roll-forward position of `lr_guarded::modify`. -/
namespace ConcVerif.Cow
open ConcVerif.LR (Side lk LK)

macro "cow_unfold20 " hs:ident : tactic => `(tactic|
  simp [stepIdle, stepRdA, stepRdH, stepRdP, stepRdD, stepDr, stepLkCalled, stepLkA, stepLkH, stepLkC, stepLkD, stepLkT,
    stepLkTD, stepLkExc, stepWHold, stepRelA, stepRelB, stepRelC, stepRelU, stepCn] at $hs:ident)

/-- pcs inside `lock()` -/
def Pc.inLock : Pc → Bool
  | .lkCalled | .lkA | .lkH _ | .lkC _ | .lkD _ | .lkT | .lkTD | .lkExc => true
  | _ => false

/-- The copy constructor can throw only where it runs: inside `lock()`, after the pointer of the held side has been
loaded; the thread then starts unwinding. -/
theorem C20_cow_throw_only_in_lock {s s' : St} {t : Tid} (hs : step s t .uth = some s') :
    ∃ src, s.pc t = .lkH (some src) ∧ s' = s.setPc t .lkT := by
  cases Step.of_step hs with
  | lkH_uth hp => exact ⟨_, hp, rfl⟩

/-- The model has no throwing edge outside `lock()`: `uth` is rejected while a thread owns a write handle, publishes
or cancels. -/
theorem C20_cow_commit_cannot_throw (s : St) (t : Tid)
    (hp : (∃ v, s.pc t = .wHold v) ∨ (∃ v, s.pc t = .relA v) ∨ (∃ v f, s.pc t = .relB v f) ∨ (∃ v, s.pc t = .relC v) ∨
      (∃ v, s.pc t = .relU v) ∨ ∃ v u d, s.pc t = .cn v u d) : step s t .uth = none := by
  rcases hp with ⟨v, h⟩ | ⟨v, h⟩ | ⟨v, f, h⟩ | ⟨v, h⟩ | ⟨v, h⟩ | ⟨v, u, d, h⟩ <;>
    simp [step, h, stepWHold, stepRelA, stepRelB, stepRelC, stepRelU, stepCn]

/-- In a reachable state no thread is at a roll-back / roll-forward (or exception) position of the left-right model. -/
theorem C20_cow_no_rollback {s : St} (h : Reachable s) (t : Tid) :
    lk (s.lr.pc t) ≠ .other := by
  rw [(inv_reachable h).l.link t]; exact cls_ne_other _

/-- No step of `lock()` — normal or unwinding — publishes anything: the sides of `m_data`, `committed`, `released`, the
destroyed set and the snapshot ledger are untouched; only the copy constructor's success allocates (one fresh version). -/
theorem C20_cow_lock_publishes_nothing {s s' : St} {t : Tid} {e : Ev} (hp : (s.pc t).inLock = true)
    (hs : step s t e = some s') :
    s'.lr.valL = s.lr.valL ∧ s'.lr.valR = s.lr.valR ∧ s'.lr.committed = s.lr.committed ∧ s'.released = s.released ∧
      s'.dead = s.dead ∧ s'.snaps = s.snaps ∧ s'.det = s.det ∧
      ((s'.alloc = s.alloc ∧ s'.cont = s.cont) ∨ ∃ n a c, e = .pcp n a c) := by
  have fin : ∀ {l : LR.St} {p : Pc} {wm : Option Tid} {s1 : St}, LR.Same s.lr l →
      s1 = ({ s with lr := l, wm := wm } : St).setPc t p →
      s1.lr.valL = s.lr.valL ∧ s1.lr.valR = s.lr.valR ∧ s1.lr.committed = s.lr.committed ∧ s1.released = s.released ∧
        s1.dead = s.dead ∧ s1.snaps = s.snaps ∧ s1.det = s.det ∧
        ((s1.alloc = s.alloc ∧ s1.cont = s.cont) ∨ ∃ n a c, e = .pcp n a c) := by
    rintro l p wm _ hsm rfl
    exact ⟨hsm.valL, hsm.valR, hsm.committed, rfl, rfl, rfl, rfl, .inl ⟨rfl, rfl⟩⟩
  cases Step.of_step hs with
  | lkCalled_olock _ _ hl | lkA_ldCL _ hl | lkA_inc _ hl => exact fin (LR.same_of_quiet rfl hl) rfl
  | lkA_ldRL _ hl => exact fin (lrGot_same hl) rfl
  | lkH_ldPtr _ _ hl => exact fin (lrRd_same hl) rfl
  | lkC_dec _ hl | lkT_dec _ hl => exact fin (lrRel_same hl) rfl
  | lkH_uth | lkD_ret | lkExc_exc | lkTD_ounlock => exact fin (.refl _) rfl
  | lkH_pcp => exact ⟨rfl, rfl, rfl, rfl, rfl, rfl, rfl, .inr ⟨_, _, _, rfl⟩⟩
  | _ hq => rw [hq] at hp; cases hp

/-- The unwinding is forced and never blocked: after the throw the thread releases the LR read handle, then the writer
mutex, then leaves `lock()` with the exception — in every reachable state exactly that next event is enabled. -/
theorem C20_cow_unwind_enabled {s : St} (h : Reachable s) {t : Tid}
    (hp : s.pc t = .lkT ∨ s.pc t = .lkTD ∨ s.pc t = .lkExc) : ∃ e, (step s t e).isSome = true := by
  have hi := inv_reachable h
  rcases hp with hp | hp | hp
  · obtain ⟨c, x, h1⟩ := LR.lk_hold (p := s.lr.pc t) (by rw [hi.l.link t, hp]; rfl)
    exact ⟨.lr (.dec c (s.lr.reg c).length), by simp [step, hp, stepLkT, LR.lrRel_enabled h1]⟩
  · have hw : s.wm = some t := (hi.l.wmh t).mp (by rw [hp]; rfl)
    exact ⟨.ounlock, by simp [step, hp, stepLkTD, hw]⟩
  · exact ⟨.exc .lock, by simp [step, hp, stepLkExc]⟩

theorem C20_cow_unwind_forced {s s' : St} {t : Tid} {e : Ev} (hs : step s t e = some s') :
    (s.pc t = .lkT → (∃ c old, e = .lr (.dec c old)) ∧ s'.pc t = .lkTD) ∧
    (s.pc t = .lkTD → e = .ounlock ∧ s.wm = some t ∧ s'.wm = none ∧ s'.pc t = .lkExc) ∧
    (s.pc t = .lkExc → e = .exc .lock ∧ s'.pc t = .idle) := by
  cases Step.of_step hs with
  | lkT_dec hq =>
    exact ⟨fun _ => ⟨⟨_, _, rfl⟩, setPc_pc_self ..⟩, fun hp => Pc.noConfusion (hq.symm.trans hp), fun hp => Pc.noConfusion (hq.symm.trans hp)⟩
  | lkTD_ounlock hq hw =>
    exact ⟨fun hp => Pc.noConfusion (hq.symm.trans hp), fun _ => ⟨rfl, hw, rfl, setPc_pc_self ..⟩, fun hp => Pc.noConfusion (hq.symm.trans hp)⟩
  | lkExc_exc hq =>
    exact ⟨fun hp => Pc.noConfusion (hq.symm.trans hp), fun hp => Pc.noConfusion (hq.symm.trans hp), fun _ => ⟨rfl, setPc_pc_self ..⟩⟩
  | _ hq =>
    exact ⟨fun hp => Pc.noConfusion (hq.symm.trans hp), fun hp => Pc.noConfusion (hq.symm.trans hp), fun hp => Pc.noConfusion (hq.symm.trans hp)⟩

/-- When the exception leaves `lock()` the thread owns nothing: not the writer mutex, no LR read handle (it is idle
inside `m_data` and registered in no counter), no private copy — the wrapper stays usable by all threads: a `lock()` of
any thread is enabled as soon as the writer mutex is free (`C14_cow_lock_enabled`), readers are never affected
(`C14_cow_reader_enabled`). -/
theorem C20_cow_nothing_held {s : St} (h : Reachable s) {t : Tid} (hp : s.pc t = .lkExc) :
    s.wm ≠ some t ∧ s.lr.pc t = .idle ∧ (∀ c, t ∉ s.lr.reg c) ∧ s.lr.mtx ≠ some t ∧ (s.pc t).own = none := by
  have hi := inv_reachable h
  have hidle : s.lr.pc t = .idle := LR.lk_idle (by rw [hi.l.link t, hp]; rfl)
  refine ⟨?_, hidle, ?_, ?_, by rw [hp]; rfl⟩
  · intro hw
    have := (hi.l.wmh t).mpr hw
    rw [hp] at this; cases this
  · intro c hc
    have := (hi.l.full.inv.mem t c).mp hc
    rw [hidle] at this; cases this
  · intro hm
    have := (hi.l.full.inv.holder t).mpr hm
    rw [hidle] at this; cases this

/-! ## non-vacuity: a `lock()` whose copy constructor throws, observed on the real header, and the next `lock()` -/
def exThrow : List (Tid × Ev) :=
  [(1, .call .lock), (1, .olock), (1, .lr (.ldCL .L)), (1, .lr (.inc .L 0)), (1, .lr (.ldRL .L)), (1, .ldPtr .L 0),
   (1, .uth), (1, .lr (.dec .L 1)), (1, .ounlock), (1, .exc .lock)]

example : ∃ s, run (init false) (exThrow.take 7) = some s ∧ s.pc 1 = .lkT ∧ s.wm = some 1 ∧ s.lr.regL = [1] :=
  ⟨_, rfl, rfl, rfl, rfl⟩

example : ∃ s, run (init false) (exThrow.take 9) = some s ∧ s.pc 1 = .lkExc ∧ s.wm = none ∧ s.lr.regL = [] :=
  ⟨_, rfl, rfl, rfl, rfl⟩

/-- after the exception: nothing published, nothing allocated, and thread 2 locks and copies version 0 (it then owns the
write handle with the private copy 1) -/
example : ∃ s, run (init false) (exThrow ++ [(2, .call .lock), (2, .olock), (2, .lr (.ldCL .L)), (2, .lr (.inc .L 0)),
    (2, .lr (.ldRL .L)), (2, .ldPtr .L 0), (2, .pcp 1 0 0), (2, .lr (.dec .L 1)), (2, .retGot .lock 1)]) = some s ∧
    s.pc 1 = .idle ∧ s.pc 2 = .wHold 1 ∧ s.lr.committed = [] ∧ s.alloc = [1, 0] ∧ s.wm = some 2 :=
  ⟨_, rfl, rfl, rfl, rfl, rfl, rfl⟩

end ConcVerif.Cow
