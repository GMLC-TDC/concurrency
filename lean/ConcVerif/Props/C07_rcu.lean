import ConcVerif.Proof.HBRcuRReclaim
import ConcVerif.Proof.HBComplete
/-! # C07 for `rcu_list` / `rcu_guarded` — publication and reclamation are ordered by happens-before, at the level of the model

For EVERY trace accepted by the rcu_list model `Rcu.step` (any number of reader / writer handles, any client program,
any interleaving of primitive steps; the same `step` the observed traces of the real `rcu_list.hpp` are checked
against by the `rcu` component) that has not entered the list destructor (`s.dt = false`; the destructor is ordered
after every other use by the client, as for any object), mapped to happens-before events by `Rcu.toHB` (the atomics
`m_head m_tail m_zombie_head`, `next back` of every node, `next owner` of every log record with their memory orders,
the write mutex, the plain fields `data deleted zombie_node`, construction / destruction / deallocation as plain
writes):

* (a) **publication of nodes** — every access to a list node (atomic or plain, by a reader's iterator, a writer, a
  reclaimer) happens-after the plain initialisation of the node (`deleted`, `data`, the non-atomic initial values of
  its links).  Edges: the write mutex between writers; `m_head.store / next.store → load` that reads it for readers.
* (b) **publication of log records** — every access to a zombie / reader record happens-after its plain initialisation
  (`zombie_node`, initial `owner`, `next`) and after the CAS that pushed it.  Edge: every successful CAS on
  `m_zombie_head` synchronises with every later one (the location is only ever written by RMWs, so its release
  sequences are never broken); a thread only accesses records that were pushed before its own.  The relaxed load of
  `m_zombie_head` and the relaxed store of the new record's `next` before the CAS carry no obligation.
* (c) **reclamation** — the destruction and the deallocation of a node / of a record by a handle release happen-after
  EVERY earlier access to it by any thread.  Edge: `owner.store(nullptr)` (release) → the reclaimer's load of that
  `owner` (acquire) — the happens-before content of the grace period (C05): an access is *covered* by the open
  section of a thread for which the object is protected (`Safe`, layer E of the C05 invariant), then by the store
  that closed that section while its record stays on the log, then by the reclaimer that scanned that record.
* (d) **necessity** — for each of the four orders the proof uses on the reader path, a concrete accepted trace that
  has a data race when that one order is relaxed; for the CAS a trace in which a scanner's atomic load of `owner`
  is no longer ordered after the record's construction.

The theorems are stated for an arbitrary assignment `o : Ords` of memory orders to the operations the model requires
to be `seq_cst`, satisfying `o.OK` (stores of links and of `owner` release, their loads acquire, the CAS acq_rel);
today's code is `Ords.sc`.  `sel` chooses the plain field a whole-node event (construction, destruction,
deallocation) is shown at (`data` / `deleted`); every statement holds for both. -/
namespace ConcVerif.Rcu

/-- acquire / release on the five operations `Ords.OK` constrains (six conditions: the CAS both ways), relaxed everywhere else -/
def Ords.weakest : Ords :=
  { ldLink := .acq, stLink := .rel, cas := .ar, casFail := .rlx, ldZh := .rlx, ldRNext := .rlx, stRNext := .rlx,
    ldOwner := .acq, stOwner := .rel }

theorem Ords.weakest_ok : Ords.weakest.OK := ⟨rfl, rfl, rfl, rfl, rfl, rfl⟩

/-- **(a) Publication of nodes.**  Every access `ej` to node `n` (its `next`, `back`, `deleted`, `data`; by any
thread) happens-after every event `ei` of the initialisation of `n` (`initN`: the constructor and its plain stores). -/
theorem C07_rcu_node_publication {o : Ords} (ho : o.OK) (sel : Bool) {es : List (Tid × Ev)} {s : St} (h : run es = some s)
    (hdt : s.dt = false) {i j : Nat} {u t : Tid} {ei ej : Ev} {n : Nat} (hij : i < j) (hi : es[i]? = some (u, ei))
    (hj : es[j]? = some (t, ej)) (hinit : ei.initN = some n) (hacc : ej.nodeAcc = some n) :
    HB.HB (hbTrace o sel es) i j :=
  node_pub ho h hdt hij hi hj hinit hacc

/-- **(b) Publication of log records.**  Every access `ej` to record `m` (its `next`, `owner`, `zombie_node`) happens-after
every event `ei` of its publication (`initR`: the constructor, its plain store, the CAS that pushed it). -/
theorem C07_rcu_record_publication {o : Ords} (ho : o.OK) (sel : Bool) {es : List (Tid × Ev)} {s : St} (h : run es = some s)
    (hdt : s.dt = false) {i j : Nat} {u t : Tid} {ei ej : Ev} {m : Nat} (hij : i < j) (hi : es[i]? = some (u, ei))
    (hj : es[j]? = some (t, ej)) (hinit : ei.initR = some m) (hacc : ej.recAcc = some m) :
    HB.HB (hbTrace o sel es) i j :=
  rec_pub ho h hdt hij hi hj hinit hacc

/-- **(c) Reclamation of nodes.**  The destruction / deallocation `ej` of node `d` (`des N d`, `fre N d`) happens-after
every earlier access `ei` to `d` — construction, reader dereference, traversal loads, writer stores. -/
theorem C07_rcu_node_reclamation {o : Ords} (ho : o.OK) (sel : Bool) {es : List (Tid × Ev)} {s : St} (h : run es = some s)
    (hdt : s.dt = false) {i j : Nat} {u t : Tid} {ei ej : Ev} {d : Nat} (hij : i < j) (hi : es[i]? = some (u, ei))
    (hj : es[j]? = some (t, ej)) (hacc : ei.nodeAcc = some d) (hend : ej.nodeEnd = some d) :
    HB.HB (hbTrace o sel es) i j :=
  node_reclaim ho h hdt hij hi hj hacc hend

/-- … in particular a reader's plain read of `data` is ordered before the destructor of the element. -/
theorem C07_rcu_reader_before_destroy {es : List (Tid × Ev)} {s : St} (h : run es = some s) (hdt : s.dt = false)
    {i j : Nat} {r t : Tid} {d : Nat} {v : Int} (hij : i < j) (hi : es[i]? = some (r, .pldData d v))
    (hj : es[j]? = some (t, .des false d)) : HB.HB (hbTrace .sc true es) i j :=
  node_reclaim Ords.sc_ok h hdt hij hi hj rfl rfl

/-- **(c) Reclamation of log records.**  The destruction / deallocation `ej` of record `m` happens-after every earlier
access `ei` to `m` — construction, the owner's own loads and stores, the scans of other releasing threads. -/
theorem C07_rcu_record_reclamation {o : Ords} (ho : o.OK) (sel : Bool) {es : List (Tid × Ev)} {s : St} (h : run es = some s)
    (hdt : s.dt = false) {i j : Nat} {u t : Tid} {ei ej : Ev} {m : Nat} (hij : i < j) (hi : es[i]? = some (u, ei))
    (hj : es[j]? = some (t, ej)) (hacc : ei.recAcc = some m) (hend : ej.recEnd = some m) :
    HB.HB (hbTrace o sel es) i j :=
  rec_reclaim ho h hdt hij hi hj hacc hend

/-- acquire / release on those five operations and relaxed everywhere else is enough for (a)–(c) (NOT for the
interleaving the model describes, which the operational abstraction of `Base/HB.lean` takes as given) -/
theorem C07_rcu_weakest_orders (sel : Bool) {es : List (Tid × Ev)} {s : St} (h : run es = some s) (hdt : s.dt = false)
    {i j : Nat} {u t : Tid} {ei ej : Ev} {d : Nat} (hij : i < j) (hi : es[i]? = some (u, ei))
    (hj : es[j]? = some (t, ej)) (hacc : ei.nodeAcc = some d) (hend : ej.nodeEnd = some d) :
    HB.HB (hbTrace Ords.weakest sel es) i j :=
  node_reclaim Ords.weakest_ok h hdt hij hi hj hacc hend

/-! ## non-vacuity and necessity of the orders -/

/-- writer 1 pushes element N0; reader 2 parks on it and reads it; writer 1 erases it (zombie record Z2); both release
(neither can reclaim: the other's record is below its own / nothing is below); handle 3 registers and releases: it scans
Z2, Z1, Z0 (all inactive), destroys and frees N0 and the three records -/
def hbWitness : List (Tid × Ev) :=
  [(1, .call (.lock true)), (1, .ret (.lock true)), (1, .call (.push false false 5)),
   (1, .alo true 0), (1, .pstZn 0 true), (1, .conR 0 (some 1) none), (1, .ald .zhead .rlx none), (1, .ast (.rnext 0) .rlx none),
   (1, .cas .sc none (some 0) true none),
   (1, .mlk), (1, .alo false 0), (1, .pstDel 0 false), (1, .pstData 0 5), (1, .conN 0 5), (1, .ald .tail .rlx none),
   (1, .ast .head .sc (some 0)), (1, .ast .tail .sc (some 0)), (1, .mul), (1, .ret (.push false false 5)),
   (2, .call (.lock false)), (2, .ret (.lock false)), (2, .call .beg), (2, .alo true 1), (2, .pstZn 1 true),
   (2, .conR 1 (some 2) none), (2, .ald .zhead .rlx (some 0)), (2, .ast (.rnext 1) .rlx (some 0)),
   (2, .cas .sc (some 0) (some 1) true (some 0)), (2, .ald .head .sc (some 0)), (2, .ret .beg),
   (2, .call .der), (2, .pldData 0 5), (2, .ret .der),
   (1, .call .beg), (1, .ald .head .sc (some 0)), (1, .ret .beg), (1, .call (.erase true)), (1, .mlk),
   (1, .ald (.nnext 0) .sc none), (1, .pldDel 0 false), (1, .alo true 2), (1, .pstZn 2 false), (1, .conR 2 none (some 0)),
   (1, .pstDel 0 true), (1, .ald (.nback 0) .sc none),
   (1, .ald (.nnext 0) .sc none), (1, .ast .head .sc none), (1, .ast .tail .sc none), (1, .ald .zhead .rlx (some 1)),
   (1, .ast (.rnext 2) .rlx (some 1)), (1, .cas .sc (some 1) (some 2) true (some 1)), (1, .mul), (1, .ret (.erase true)),
   (2, .call .rel), (2, .ald (.rnext 1) .sc (some 0)), (2, .ald (.rowner 0) .sc (some 1)), (2, .ast (.rowner 1) .sc none), (2, .ret .rel),
   (1, .call .rel), (1, .ald (.rnext 0) .sc none), (1, .ast (.rnext 0) .sc none), (1, .ast (.rowner 0) .sc none), (1, .ret .rel),
   (3, .call (.lock false)), (3, .ret (.lock false)), (3, .call .beg), (3, .alo true 3), (3, .pstZn 3 true),
   (3, .conR 3 (some 3) none), (3, .ald .zhead .rlx (some 2)), (3, .ast (.rnext 3) .rlx (some 2)),
   (3, .cas .sc (some 2) (some 3) true (some 2)), (3, .ald .head .sc none), (3, .ret .beg),
   (3, .call .rel), (3, .ald (.rnext 3) .sc (some 2)), (3, .ald (.rowner 2) .sc none), (3, .ald (.rnext 2) .sc (some 1)),
   (3, .ald (.rowner 1) .sc none), (3, .ald (.rnext 1) .sc (some 0)), (3, .ald (.rowner 0) .sc none), (3, .ald (.rnext 0) .sc none),
   (3, .pldZn 2 false), (3, .des false 0), (3, .fre false 0), (3, .ald (.rnext 2) .sc (some 1)), (3, .des true 2), (3, .fre true 2),
   (3, .pldZn 1 true), (3, .ald (.rnext 1) .sc (some 0)), (3, .des true 1), (3, .fre true 1),
   (3, .pldZn 0 true), (3, .ald (.rnext 0) .sc none), (3, .des true 0), (3, .fre true 0),
   (3, .ast (.rnext 3) .sc none), (3, .ast (.rowner 3) .sc none), (3, .ret .rel)]

/-- the trace is accepted and the destructor has not started (evaluated once; the statements below refer to it) -/
theorem hbWitness_run : ∃ s, run hbWitness = some s ∧ s.dt = false := ⟨_, rfl, rfl⟩

/-- the trace is accepted, the destructor has not started, and it contains: the construction of N0 by thread 1 (13) and
its read by thread 2 (31); that read and the destruction of N0 by thread 3 (83); the construction of Z2 by thread 1 (42)
and its plain read by thread 3 (82); thread 2's store to `owner` of Z1 (56) and the destruction of Z1 by thread 3 (90) -/
example : ∃ s, run hbWitness = some s ∧ s.dt = false ∧
    hbWitness[13]? = some (1, .conN 0 5) ∧ hbWitness[31]? = some (2, .pldData 0 5) ∧ hbWitness[83]? = some (3, .des false 0) ∧
    hbWitness[42]? = some (1, .conR 2 none (some 0)) ∧ hbWitness[82]? = some (3, .pldZn 2 false) ∧
    hbWitness[56]? = some (2, .ast (.rowner 1) .sc none) ∧ hbWitness[90]? = some (3, .des true 1) :=
  let ⟨s, h, hd⟩ := hbWitness_run
  ⟨s, h, hd, rfl, rfl, rfl, rfl, rfl, rfl, rfl⟩

example : HB.HB (hbTrace .sc true hbWitness) 13 31 ∧ HB.HB (hbTrace .sc true hbWitness) 31 83 ∧
    HB.HB (hbTrace .sc true hbWitness) 42 82 ∧ HB.HB (hbTrace .sc true hbWitness) 56 90 :=
  let ⟨_, h, hd⟩ := hbWitness_run
  ⟨C07_rcu_node_publication Ords.sc_ok true h hd (by decide) rfl rfl rfl rfl,
   C07_rcu_node_reclamation Ords.sc_ok true h hd (by decide) rfl rfl rfl rfl,
   C07_rcu_record_publication Ords.sc_ok true h hd (by decide) rfl rfl rfl rfl,
   C07_rcu_record_reclamation Ords.sc_ok true h hd (by decide) rfl rfl rfl rfl⟩

/-- the executable race checker accepts the mapped witness (both views of the whole-node events) -/
example : HB.raceFree (hbTrace .sc true hbWitness) = true ∧ HB.raceFree (hbTrace .sc false hbWitness) = true :=
  ⟨by decide, by decide⟩

/-- a REJECT of the checker is a race of the declarative definition (completeness of the checker) -/
theorem C07_rcu_reject_is_race {tr : HB.Trace} (h : HB.raceFree tr = false) : HB.Race tr :=
  HB.race_of_not_raceFree h

/-- **`owner.store(nullptr)` must release.**  With a relaxed store the same accepted trace has a data race: the
destruction of N0 by handle 3 is not ordered after reader 2's read of its `data`. -/
theorem C07_rcu_stOwner_needed : ∃ s, run hbWitness = some s ∧ HB.Race (hbTrace { stOwner := .rlx } true hbWitness) :=
  let ⟨s, h, _⟩ := hbWitness_run
  ⟨s, h, C07_rcu_reject_is_race (by decide)⟩

/-- **The reclaimer's load of `owner` must acquire.** -/
theorem C07_rcu_ldOwner_needed : ∃ s, run hbWitness = some s ∧ HB.Race (hbTrace { ldOwner := .rlx } true hbWitness) :=
  let ⟨s, h, _⟩ := hbWitness_run
  ⟨s, h, C07_rcu_reject_is_race (by decide)⟩

/-- **The stores that link a node (`m_head`, `next`) must release**: otherwise reader 2's read of `data` of N0 is not
ordered after its construction. -/
theorem C07_rcu_stLink_needed : ∃ s, run hbWitness = some s ∧ HB.Race (hbTrace { stLink := .rlx } true hbWitness) :=
  let ⟨s, h, _⟩ := hbWitness_run
  ⟨s, h, C07_rcu_reject_is_race (by decide)⟩

/-- **The traversal loads (`m_head`, `next`) must acquire.** -/
theorem C07_rcu_ldLink_needed : ∃ s, run hbWitness = some s ∧ HB.Race (hbTrace { ldLink := .rlx } true hbWitness) :=
  let ⟨s, h, _⟩ := hbWitness_run
  ⟨s, h, C07_rcu_reject_is_race (by decide)⟩

example : HB.raceFree (hbTrace Ords.weakest true hbWitness) = true := by decide

/-- writer 1 and reader 2 still hold their handles; handle 3 registers and releases: it scans the zombie record Z2 and
stops at reader 2's active record Z1, whose `owner` it loads (68); reader 2 constructed Z1 at 24 -/
def hbWitness2 : List (Tid × Ev) := hbWitness.take 53 ++
  [(3, .call (.lock false)), (3, .ret (.lock false)), (3, .call .beg), (3, .alo true 3), (3, .pstZn 3 true),
   (3, .conR 3 (some 3) none), (3, .ald .zhead .rlx (some 2)), (3, .ast (.rnext 3) .rlx (some 2)),
   (3, .cas .sc (some 2) (some 3) true (some 2)), (3, .ald .head .sc none), (3, .ret .beg),
   (3, .call .rel), (3, .ald (.rnext 3) .sc (some 2)), (3, .ald (.rowner 2) .sc none), (3, .ald (.rnext 2) .sc (some 1)),
   (3, .ald (.rowner 1) .sc (some 2)), (3, .ast (.rowner 3) .sc none), (3, .ret .rel)]

/-- **The CAS on `m_zombie_head` must be acquire-release.**  With a relaxed CAS the accepted trace `hbWitness2` no
longer orders the construction of reader 2's record Z1 (its non-atomic initialisation of `owner`) before handle 3's atomic
load of that `owner`: nothing else synchronises the two threads (reader 2 has only loaded so far; the initial load of
`m_zombie_head` and the store of the new record's `next` are relaxed in the code).  Plain locations do not show this
(hence no `Race`): it is the lifetime of the atomic member that is at stake — theorem (b) above.  (For the zombie record of
an `erase` the unlink stores that follow its construction publish it as well.) -/
theorem C07_rcu_cas_needed : ∃ s, run hbWitness2 = some s ∧
    hbWitness2[24]? = some (2, .conR 1 (some 2) none) ∧ hbWitness2[68]? = some (3, .ald (.rowner 1) .sc (some 2)) ∧
    HB.HB (hbTrace .sc true hbWitness2) 24 68 ∧ ¬ HB.HB (hbTrace { cas := .rlx } true hbWitness2) 24 68 := by
  obtain ⟨s, hr, hd⟩ : ∃ s, run hbWitness2 = some s ∧ s.dt = false := ⟨_, rfl, rfl⟩
  refine ⟨s, hr, rfl, rfl, C07_rcu_record_publication Ords.sc_ok true hr hd (by decide) rfl rfl rfl rfl, ?_⟩
  · intro h
    have := HB.hb_clock h 2 3 _ _ rfl rfl 2
    revert this
    decide

end ConcVerif.Rcu
