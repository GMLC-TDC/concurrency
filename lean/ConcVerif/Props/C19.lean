import ConcVerif.Proof.TripWire
/-! # C19 — a trip line is one-way, per line, and publishes what preceded it

All statements are over `Reachable n s` (`n` = size of the indexed table): every accepted event sequence
of the model in `Model/TripWire.lean` — any number of lines, trigger objects, detectors, threads, moves,
interleavings.  Loads and stores are the `ald` / `ast` events of the real `atomic<bool>`; the model
rejects a load weaker than `acquire` and a store weaker than `release`. -/
namespace ConcVerif.TripWire

/-! ## one-way: false until the first destruction of a trigger holding the line, true for ever after -/

/-- Before the first tripping store on `l` every detector load on `l` returns `false`. -/
theorem C19_monotone_false_before {n : Nat} {s s' : St} {t : Tid} {l : LineId} {o : Ord} {v : Bool}
    (h : Reachable n s) (h0 : s.trips l = []) (hs : step s t (.ld l o v) = some s') : v = false := by
  have hi := inv_reachable h
  obtain ⟨_, _, hv, _⟩ := ld_inv hs
  subst hv
  cases hl : s.line l
  · rfl
  · exact absurd h0 ((hi.tripped l).1 hl)

/-- The history of tripping stores on `l` (hence, by the invariant, the value of `l`) changes only by a
step of a trigger destructor that entered holding `l` and has not stored yet … -/
theorem C19_monotone_only_destructor {s s' : St} {t : Tid} {e : Ev} {l : LineId}
    (hs : step s t e = some s') (hc : s'.trips l ≠ s.trips l ∨ s'.line l ≠ s.line l) :
    ∃ id, s.pc t = .rm id (some l) false := by
  rcases step_lines hs with ⟨⟨h1, _, h3⟩, _⟩ | ⟨j, htr⟩
  · rw [h1, h3] at hc; rcases hc with hc | hc <;> exact absurd rfl hc
  · by_cases hj : l = j
    · subst hj; obtain ⟨id, hp, _⟩ := htr.pc; exact ⟨id, hp⟩
    · rw [htr.line, htr.trips] at hc; simp [hj] at hc

/-- … and that pc is entered only by the destructor call of a live trigger object holding `l`
(the object's lifetime ends there: `trig id` becomes `none`). -/
theorem C19_monotone_destructor_entry {s s' : St} {t : Tid} {e : Ev} {id : Nat} {held : Option LineId}
    (hs : step s t e = some s') (hp : s'.pc t = .rm id held false) (hne : s.pc t ≠ .rm id held false) :
    e = .callRm id ∧ s.trig id = some held ∧ s'.trig id = none := by
  have h := Step.of_step hs
  generalize hq : s.pc t = p at h hne
  cases h with
  | callRm hb => cases (upd_same _ _ _).symm.trans hp; exact ⟨rfl, hb, set_same _ _ _⟩
  | fork | pwr | prd => exact absurd (hq.symm.trans hp) hne
  | _ => cases (upd_same _ _ _).symm.trans hp

/-- Once tripped, tripped for ever: a line that is `true` stays `true` along every accepted run. -/
theorem C19_monotone_sticky_state {s s' : St} {es : List (Tid × Ev)} {l : LineId}
    (hr : runFrom step s es = some s') (hl : s.line l = true) : s'.line l = true :=
  line_mono_run hr l hl

/-- Once any detector load on `l` (by any thread) returned `true`, every later load on `l` by any thread
returns `true`. -/
theorem C19_monotone {s s1 s2 s3 : St} {t u : Tid} {l : LineId} {o o' : Ord} {v : Bool}
    {es : List (Tid × Ev)} (h1 : step s t (.ld l o true) = some s1) (hr : runFrom step s1 es = some s2)
    (h2 : step s2 u (.ld l o' v) = some s3) : v = true := by
  obtain ⟨_, _, hv, _⟩ := ld_inv h1
  obtain ⟨_, _, hv', _⟩ := ld_inv h2
  have := line_mono_run hr l (line_mono_step h1 l hv.symm)
  rw [hv', this]

/-- When the destructor of a trigger that held `l` returns, `l` is `true` (the destructor cannot return
without having stored), so by `C19_monotone_sticky_state` every later load on `l` returns `true`. -/
theorem C19_monotone_after_destroy {n : Nat} {s s' s2 s3 : St} {t u : Tid} {id id' : Nat} {l : LineId}
    {d : Bool} {o : Ord} {v : Bool} {es : List (Tid × Ev)} (h : Reachable n s)
    (hp : s.pc t = .rm id (some l) d) (hs : step s t (.retRm id') = some s')
    (hr : runFrom step s' es = some s2) (h2 : step s2 u (.ld l o v) = some s3) :
    s'.line l = true ∧ v = true := by
  have hi := inv_reachable h
  have hd : d = true := by
    have hst := Step.of_step hs
    rw [hp] at hst
    cases hst with
    | retRm hh => exact hh.resolve_left nofun
  subst hd
  have hl : s'.line l = true := line_mono_step hs l (hi.done t id l hp)
  obtain ⟨_, _, hv', _⟩ := ld_inv h2
  exact ⟨hl, by rw [hv', line_mono_run hr l hl]⟩

/-! ## per line: independence -/

/-- An event that is not an atomic operation on line `j` changes nothing about line `j` (value, attached
view, history) — in particular every event on line `i ≠ j` and every non-atomic event. -/
theorem C19_independent {s s' : St} {t : Tid} {e : Ev} {j : LineId} (hs : step s t e = some s')
    (hj : e.line? ≠ some j) : s'.line j = s.line j ∧ s'.msg j = s.msg j ∧ s'.trips j = s.trips j := by
  rcases step_lines hs with ⟨⟨h1, h2, h3⟩, _⟩ | ⟨l, htr⟩
  · rw [h1, h2, h3]; exact ⟨rfl, rfl, rfl⟩
  · have hne : j ≠ l := by
      intro hjl; subst hjl; exact hj htr.ev.1
    rw [htr.line, htr.trips, htr.msgOther j hne]
    simp [hne]

/-- Atomic events on line `j` occur only inside `isTripped` of a detector bound to `j` (loads) or inside
the destructor of a trigger that held `j` (the store): operations on objects of line `i` never touch `j`. -/
theorem C19_independent_ops {s s' : St} {t : Tid} {e : Ev} {j : LineId} (hs : step s t e = some s')
    (hj : e.line? = some j) :
    (∃ d seen, s.pc t = .ck d j seen ∧ e.isWrite = false) ∨ (∃ id, s.pc t = .rm id (some j) false ∧ e.isWrite = true) := by
  have h := Step.of_step hs
  generalize hp : s.pc t = p at h
  cases h with
  | load => cases hj; exact .inl ⟨_, _, rfl, rfl⟩
  | trip | tripX => cases hj; exact .inr ⟨_, rfl, rfl⟩
  | _ => cases hj

/-! ## indexed lines: `at()` -/

/-- An out-of-range index makes the trigger constructor end with the exception — the only event the
model accepts next — and the state is exactly what it was before the call: nothing changed. -/
theorem C19_index {n : Nat} {s s1 : St} {t : Tid} {id k : Nat} (h : Reachable n s) (hk : n ≤ k)
    (hc : step s t (.callMkT id (.idx k)) = some s1) :
    (step s1 t (.retMkT id none)).isSome = true ∧
      ∀ e s2, step s1 t e = some s2 → e = .retMkT id none ∧ s2 = s := by
  refine ⟨?_, fun e s2 h2 => ?_⟩
  · have hc := Step.of_step hc
    generalize s.pc t = p at hc
    cases hc with
    | callMkT _ => rw [nIdx_reachable h, lookup_idx_ge hk]; exact Step.retMkTNone.enabled (upd_same _ _ _)
  · have := mkT_continuation h hc h2
    rwa [lookup_idx_ge hk] at this

/-- the same for a detector -/
theorem C19_index_detector {n : Nat} {s s1 : St} {t : Tid} {id k : Nat} (h : Reachable n s) (hk : n ≤ k)
    (hc : step s t (.callMkD id (.idx k)) = some s1) :
    (step s1 t (.retMkD id none)).isSome = true ∧
      ∀ e s2, step s1 t e = some s2 → e = .retMkD id none ∧ s2 = s := by
  have hc := Step.of_step hc
  generalize hp : s.pc t = p at hc
  cases hc with
  | callMkD _ =>
    rw [nIdx_reachable h, lookup_idx_ge hk]
    refine ⟨Step.retMkDNone.enabled (upd_same _ _ _), fun e s2 h2 => ?_⟩
    have h2 := Step.of_step h2
    rw [setPc_pc, upd_same] at h2
    cases h2 with
    | retMkDNone => exact ⟨rfl, setPc_setPc_self _ hp⟩

/-- An index inside the table binds the new object to exactly that entry, without any atomic operation
and without an exception. -/
theorem C19_index_in_range {n : Nat} {s s1 : St} {t : Tid} {id k : Nat} (h : Reachable n s) (hk : k < n)
    (hc : step s t (.callMkT id (.idx k)) = some s1) :
    ∀ e s2, step s1 t e = some s2 →
      e = .retMkT id (some (.idx k)) ∧ s2.trig id = some (some (.idx k)) ∧ SameLines s s2 := by
  intro e s2 h2
  have := mkT_continuation h hc h2
  rwa [show lookup n (.idx k) = some (.idx k) from if_pos hk] at this

/-! ## moves transfer the duty -/

/-- Move construction: the only way out of the call hands the source's binding to the new object, leaves
the source empty, and touches no line. -/
theorem C19_move {s s' : St} {t : Tid} {e : Ev} {new old : Nat} (hp : s.pc t = .mv new old)
    (hs : step s t e = some s') :
    ∃ b, s.trig old = some b ∧ e = .retMv new old b none ∧ s'.trig new = some b ∧
      (new ≠ old → s'.trig old = some none) ∧ SameLines s s' := by
  have h := Step.of_step hs
  rw [hp] at h
  cases h with
  | retMv hb =>
    exact ⟨_, hb, rfl, set_same _ _ _, fun hne => (set_other _ _ _ _ (Ne.symm hne)).trans (set_same _ _ _), rfl, rfl,
      rfl⟩

/-- Destroying an empty (moved-from) trigger is accepted, performs NO atomic write — no store or exchange
on any line is accepted from that destructor — and leaves every line as it was. -/
theorem C19_move_from_destroy {s s1 : St} {t : Tid} {id : Nat} (he : s.trig id = some none)
    (hc : step s t (.callRm id) = some s1) :
    SameLines s s1 ∧ (step s1 t (.retRm id)).isSome = true ∧
      ∀ e s2, step s1 t e = some s2 → e = .retRm id ∧ SameLines s s2 := by
  have hc := Step.of_step hc
  generalize s.pc t = p at hc
  cases hc with
  | callRm hb =>
    cases he.symm.trans hb
    refine ⟨⟨rfl, rfl, rfl⟩, (Step.retRm (.inl rfl)).enabled (upd_same _ _ _), fun e s2 h2 => ?_⟩
    have h2 := Step.of_step h2
    rw [setPc_pc, upd_same] at h2
    cases h2 with
    | retRm => exact ⟨rfl, rfl, rfl, rfl⟩

/-- Destroying a trigger that holds `l` (for instance the moved-to object): the destructor cannot return
before it has written, the release store of `true` to `l` is what it may do, and after that store `l`
is `true` (`C19_monotone_after_destroy` covers everything later). -/
theorem C19_move_to_destroy {s s1 : St} {t : Tid} {id : Nat} {l : LineId} (he : s.trig id = some (some l))
    (hc : step s t (.callRm id) = some s1) :
    s1.pc t = .rm id (some l) false ∧ step s1 t (.retRm id) = none ∧
      ∃ s2, step s1 t (.st l .rel true) = some s2 ∧ s2.line l = true ∧ s2.pc t = .rm id (some l) true := by
  have hc := Step.of_step hc
  generalize s.pc t = p at hc
  cases hc with
  | callRm hb =>
    cases he.symm.trans hb
    refine ⟨upd_same _ _ _, ?_, _, (Step.trip rfl).to_step (upd_same _ _ _), set_same _ _ _, upd_same _ _ _⟩
    -- the return is not enabled: it needs `held = none` or the store done
    cases h2 : step _ t (.retRm id) with
    | none => rfl
    | some s2 =>
      have h2 := Step.of_step h2
      rw [setPc_pc, upd_same] at h2
      cases h2 with
      | retRm hh => exact hh.elim nofun nofun

/-- Move assignment (defaulted): the target takes the source's binding, the source is left empty, and NO
line changes — in particular the line the target held before is not tripped by the assignment. -/
theorem C19_move_assign {s s' : St} {t : Tid} {e : Ev} {dst src : Nat} (hp : s.pc t = .as dst src)
    (hne : dst ≠ src) (hs : step s t e = some s') :
    ∃ b, s.trig src = some b ∧ e = .retAs dst src b none ∧ s'.trig dst = some b ∧ s'.trig src = some none ∧
      SameLines s s' := by
  have h := Step.of_step hs
  rw [hp] at h
  cases h with
  | retAsSelf => exact absurd rfl hne
  | retAs hb =>
    exact ⟨_, hb, rfl, set_same _ _ _, (set_other _ _ _ _ (Ne.symm hne)).trans (set_same _ _ _), rfl, rfl, rfl⟩

/-! ## publication -/

/-- The tripping store is at least a release store, and what it records is exactly what the storing
thread knew at that moment. -/
theorem C19_publish_store {s s' : St} {t : Tid} {l : LineId} {o : Ord} {v : Bool}
    (hs : step s t (.st l o v) = some s') :
    o.isRelease = true ∧ v = true ∧ s'.trips l = (t, s.know t) :: s.trips l := by
  obtain ⟨_, h1, h2, h3, _⟩ := st_inv hs
  exact ⟨h1, h2, h3⟩

/-- If thread `r`'s load on `l` returned `true` then it was at least an acquire load, some trigger
destructor has stored to `l`, and after the load `r` knows everything the thread of the store it read
(the latest one) knew at that store — in particular every plain write that thread made before
destroying the trigger. -/
theorem C19_publish {n : Nat} {s s' : St} {r : Tid} {l : LineId} {o : Ord} (h : Reachable n s)
    (hs : step s r (.ld l o true) = some s') :
    o.isAcquire = true ∧ ∃ t K rest, s.trips l = (t, K) :: rest ∧ ∀ w ∈ K, w ∈ s'.know r := by
  have hi := inv_reachable h
  obtain ⟨_, ho, hv, hk⟩ := ld_inv hs
  refine ⟨ho, ?_⟩
  have hne := (hi.tripped l).1 hv.symm
  cases ht : s.trips l with
  | nil => exact absurd ht hne
  | cons x rest =>
    obtain ⟨t, K⟩ := x
    refine ⟨t, K, rest, rfl, ?_⟩
    intro w hw
    rw [hk]
    exact List.mem_append_right _ (hi.head l t K rest ht w hw)

/-- a thread knows its own writes, and knowledge is never lost -/
theorem C19_publish_own_write {s s' : St} {t : Tid} {d v : Nat} (hs : step s t (.pwr d v) = some s') :
    (d, v) ∈ s'.know t := by
  have h := Step.of_step hs
  generalize s.pc t = p at h
  cases h with
  | pwr => show (d, v) ∈ upd s.know t _ t; rw [upd_same]; exact List.mem_cons_self

theorem C19_publish_know_mono {s s' : St} {es : List (Tid × Ev)} (hr : runFrom step s es = some s')
    (u : Tid) (w : Wr) (hw : w ∈ s.know u) : w ∈ s'.know u :=
  know_mono_run hr u w hw

/-- End to end: thread `t` writes datum `d`, later destroys a trigger holding `l` (the store), and a
thread `r` whose load on `l` reads that store (no other store on `l` in between) returns `true`:
then `r` knows the write, and a plain read of `d` by `r` that returns `v` is one the model accepts. -/
theorem C19_publish_trace {n : Nat} {s0 s1 s2 s3 s4 s5 : St} {t r : Tid} {d v : Nat} {l : LineId}
    {o o' : Ord} {tv : Bool} {es1 es2 : List (Tid × Ev)} (h : Reachable n s0)
    (hw : step s0 t (.pwr d v) = some s1) (hr1 : runFrom step s1 es1 = some s2)
    (hst : step s2 t (.st l o tv) = some s3) (hr2 : runFrom step s3 es2 = some s4)
    (hsame : s4.trips l = s3.trips l) (hld : step s4 r (.ld l o' true) = some s5) :
    o.isRelease = true ∧ o'.isAcquire = true ∧ (d, v) ∈ s5.know r := by
  have h4 : Reachable n s4 :=
    reachable_run (reachable_step (reachable_run (reachable_step h hw) hr1) hst) hr2
  obtain ⟨hrel, _, htr⟩ := C19_publish_store hst
  obtain ⟨hacq, t', K, rest, hK, hsub⟩ := C19_publish h4 hld
  rw [hsame, htr] at hK
  injection hK with hK _
  injection hK with _ hK
  subst hK
  exact ⟨hrel, hacq, hsub _ (know_mono_run hr1 t _ (C19_publish_own_write hw))⟩

/-- The model rejects a tripping store weaker than release and a detector load weaker than acquire. -/
theorem C19_publish_orders {s : St} {t : Tid} {l : LineId} {v : Bool} :
    step s t (.st l .rlx v) = none ∧ step s t (.ld l .rlx v) = none ∧ step s t (.ld l .con v) = none ∧
      step s t (.st l .acq v) = none ∧ step s t (.ld l .rel v) = none := by
  have hst : ∀ o, o.isRelease = false → step s t (.st l o v) = none := by
    intro o ho
    cases h : step s t (.st l o v) with
    | none => rfl
    | some s' => have := (st_inv h).2.1; rw [ho] at this; contradiction
  have hld : ∀ o, o.isAcquire = false → step s t (.ld l o v) = none := by
    intro o ho
    cases h : step s t (.ld l o v) with
    | none => rfl
    | some s' => have := (ld_inv h).2.1; rw [ho] at this; contradiction
  exact ⟨hst _ rfl, hld _ rfl, hld _ rfl, hst _ rfl, hld _ rfl⟩

/-! ## Non-vacuity: concrete accepted traces -/

/-- thread 0 (main) makes a trigger and a detector on explicit line 0 and a detector on indexed line 1;
thread 1 writes datum 7, moves the trigger, destroys the moved-from object, then the moved-to object;
thread 2 polls before and after. -/
def witness : List (Tid × Ev) :=
  [(0, .callMkT 0 (.line (.expl 0))), (0, .retMkT 0 (some (.expl 0))),
   (0, .callMkD 0 (.line (.expl 0))), (0, .retMkD 0 (some (.expl 0))),
   (0, .callMkD 1 (.idx 1)), (0, .retMkD 1 (some (.idx 1))),
   (1, .fork), (2, .fork),
   (2, .callCk 0), (2, .ld (.expl 0) .acq false), (2, .retCk 0 false),
   (1, .pwr 7 1),
   (1, .callMv 1 0), (1, .retMv 1 0 (some (.expl 0)) none),
   (1, .callRm 0), (1, .retRm 0),
   (1, .callRm 1), (1, .st (.expl 0) .rel true), (1, .retRm 1),
   (2, .callCk 0), (2, .ld (.expl 0) .acq true), (2, .retCk 0 true),
   (2, .prd 7 1),
   (2, .callCk 1), (2, .ld (.idx 1) .acq false), (2, .retCk 1 false)]

/-- the whole trace is accepted; at the end line `expl 0` is tripped by thread 1, line `idx 1` is not,
thread 2 knows thread 1's write, both trigger objects are gone -/
example : ∃ s, Reachable 4 s ∧ s.line (.expl 0) = true ∧ s.line (.idx 1) = false ∧
    s.trips (.expl 0) = [(1, [(7, 1)])] ∧ (7, 1) ∈ s.know 2 ∧ s.trig 0 = none ∧ s.trig 1 = none :=
  ⟨_, ⟨witness, rfl⟩, by decide, by decide, by decide, by decide, by decide, by decide⟩

/-- `C19_monotone_false_before` / `C19_monotone`: a load returning `false` before the store (prefix of
length 9) and loads returning `true` after it (prefix of length 20, then the rest) are accepted -/
example : ∃ s, Reachable 4 s ∧ s.trips (.expl 0) = [] ∧ (step s 2 (.ld (.expl 0) .acq false)).isSome = true :=
  ⟨_, ⟨witness.take 9, rfl⟩, by decide, by decide⟩

example : ∃ s s1 s2, Reachable 4 s ∧ step s 2 (.ld (.expl 0) .acq true) = some s1 ∧
    runFrom step s1 [(2, .retCk 0 true), (0, .callCk 0)] = some s2 ∧
    (step s2 0 (.ld (.expl 0) .sc true)).isSome = true :=
  ⟨_, _, _, ⟨witness.take 20, rfl⟩, rfl, rfl, by decide⟩

/-- `C19_monotone_after_destroy`: the destructor of the moved-to trigger is about to return -/
example : ∃ s, Reachable 4 s ∧ s.pc 1 = .rm 1 (some (.expl 0)) true ∧ (step s 1 (.retRm 1)).isSome = true :=
  ⟨_, ⟨witness.take 18, rfl⟩, by decide, by decide⟩

/-- `C19_monotone_only_destructor` / `C19_independent`: the store step changes line `expl 0` and nothing
of line `idx 1` -/
example : ∃ s s', Reachable 4 s ∧ step s 1 (.st (.expl 0) .rel true) = some s' ∧
    s'.line (.expl 0) ≠ s.line (.expl 0) ∧ s'.line (.idx 1) = s.line (.idx 1) :=
  ⟨_, _, ⟨witness.take 17, rfl⟩, rfl, by decide, by decide⟩

/-- `C19_index`: with a table of 4 entries index 4 is out of range — the call is accepted and the only
continuation is the exception; index 3 is in range -/
example : ∃ s s1, Reachable 4 s ∧ step s 1 (.callMkT 5 (.idx 4)) = some s1 ∧
    (step s1 1 (.retMkT 5 none)).isSome = true ∧ step s1 1 (.retMkT 5 (some (.idx 4))) = none :=
  ⟨_, _, ⟨witness.take 8, rfl⟩, rfl, by decide, by decide⟩

example : ∃ s s1, Reachable 4 s ∧ step s 1 (.callMkD 5 (.idx 9)) = some s1 ∧
    (step s1 1 (.retMkD 5 none)).isSome = true :=
  ⟨_, _, ⟨witness.take 8, rfl⟩, rfl, by decide⟩

example : ∃ s s1, Reachable 4 s ∧ step s 1 (.callMkT 5 (.idx 3)) = some s1 ∧
    (step s1 1 (.retMkT 5 (some (.idx 3)))).isSome = true :=
  ⟨_, _, ⟨witness.take 8, rfl⟩, rfl, by decide⟩

/-- `C19_move`: inside the move construction; `C19_move_from_destroy`: the moved-from trigger 0 is alive
and empty, its destructor call is accepted; `C19_move_to_destroy`: trigger 1 holds the line -/
example : ∃ s, Reachable 4 s ∧ s.pc 1 = .mv 1 0 ∧ s.trig 0 = some (some (.expl 0)) :=
  ⟨_, ⟨witness.take 13, rfl⟩, by decide, by decide⟩

example : ∃ s, Reachable 4 s ∧ s.trig 0 = some none ∧ s.trig 1 = some (some (.expl 0)) ∧
    (step s 1 (.callRm 0)).isSome = true ∧ (step s 1 (.callRm 1)).isSome = true :=
  ⟨_, ⟨witness.take 14, rfl⟩, by decide, by decide, by decide, by decide⟩

/-- `C19_move_assign`: trigger 0 on line `expl 0` is overwritten by trigger 1 on line `expl 1`; line
`expl 0` stays `false` although no object holds it any more -/
def witnessAssign : List (Tid × Ev) :=
  [(1, .callMkT 0 (.line (.expl 0))), (1, .retMkT 0 (some (.expl 0))),
   (1, .callMkT 1 (.line (.expl 1))), (1, .retMkT 1 (some (.expl 1))),
   (1, .callAs 0 1), (1, .retAs 0 1 (some (.expl 1)) none),
   (1, .callRm 1), (1, .retRm 1), (1, .callRm 0), (1, .st (.expl 1) .rel true), (1, .retRm 0)]

example : ∃ s, Reachable 0 s ∧ s.pc 1 = .as 0 1 ∧ s.trig 0 = some (some (.expl 0)) :=
  ⟨_, ⟨witnessAssign.take 5, rfl⟩, by decide, by decide⟩

example : ∃ s, Reachable 0 s ∧ s.line (.expl 0) = false ∧ s.line (.expl 1) = true ∧
    s.trig 0 = none ∧ s.trig 1 = none :=
  ⟨_, ⟨witnessAssign, rfl⟩, by decide, by decide, by decide, by decide⟩

/-- `C19_publish` / `C19_publish_trace`: the hypotheses are met by `witness` (write at position 11, store
at 17, load at 20, no store on the line in between) -/
example : ∃ s0 s1 s2 s3 s4 s5, Reachable 4 s0 ∧ step s0 1 (.pwr 7 1) = some s1 ∧
    runFrom step s1 ((witness.drop 12).take 5) = some s2 ∧ step s2 1 (.st (.expl 0) .rel true) = some s3 ∧
    runFrom step s3 ((witness.drop 18).take 2) = some s4 ∧ s4.trips (.expl 0) = s3.trips (.expl 0) ∧
    step s4 2 (.ld (.expl 0) .acq true) = some s5 ∧ (step s5 2 (.retCk 0 true)).isSome = true :=
  ⟨_, _, _, _, _, _, ⟨witness.take 11, rfl⟩, rfl, rfl, rfl, rfl, by decide, rfl, by decide⟩

end ConcVerif.TripWire
