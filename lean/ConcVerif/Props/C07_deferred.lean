import ConcVerif.Proof.HBDeferred
/-! # C07 for `deferred_guarded` — the queued closure and the pending flag, at the level of the model

For EVERY trace accepted by the `deferred_guarded` model `Deferred.step` (the same `step` the observed
traces of `deferred_guarded.hpp` are checked against), mapped to happens-before events
(`Deferred.toHB o`, with `o : FlagOrds` the memory orders of the load and the store of
`m_pendingWrites` — ARBITRARY, `relaxed` included):

whenever a thread enters the function of task `k` (`ucb k`), either it is the submitting thread on the
direct path (it holds `m` exclusively, nothing is queued for it: the closure never left the thread),
or `k` was queued: the `unlock` of the queue mutex that ended the push of `k` (position `p`, thread at
`qPush k`) happens-before the entry.  The edge is `unlock qm → lock qm` of `m_pendingList` alone.

So the orders of the flag do NOT matter for data-race freedom of the queued payload: a store / load of
`m_pendingWrites` is never the edge that publishes a closure.  What they matter for is liveness: that
the `true` stored after the push is seen by the next `do_pending_writes` (no-stranding, C06 — a theorem
about interleavings, i.e. it presupposes the seq_cst semantics the code uses).

Not part of this file: the wrapped object itself (protected by `m`, exclusive for the functions,
shared for readers) — see `Props/C07_deferred_obj.lean` (model-level) and the observed traces (`hb-deferred`). -/
namespace ConcVerif.Deferred

/-- **Queued closure, step form.**  After any accepted trace `es`, if the model accepts `ucb j` by
thread `t`: direct path, or the push of `j` happens-before the entry — for any flag orders `o`. -/
theorem C07_deferred_flag {spur : Bool} (o : FlagOrds) {es : List (Tid × Ev)} {s s' : St} {t : Tid} {j : TaskId}
    (h : run spur es = some s) (hs : step s t (.ucb j) = some s') :
    (s.batch = [] ∧ ∃ a, s.pc t = .dRun (.mod j a)) ∨
    ∃ p, Pushed spur es p j ∧ HB.HB (hbTrace o (es ++ [(t, .ucb j)])) p es.length :=
  closure_hb o h hs

/-- **Queued closure, trace form.**  In every accepted trace, for every entry `ucb k` at position `j`:
direct path, or there is an earlier position `p` that ended the push of `k` and happens-before `j`. -/
theorem C07_deferred_flag_trace {spur : Bool} (o : FlagOrds) {es : List (Tid × Ev)} {s : St} {t : Tid} {k : TaskId}
    {j : Nat} (h : run spur es = some s) (hj : es[j]? = some (t, .ucb k)) :
    (∃ s1 a, run spur (es.take j) = some s1 ∧ s1.batch = [] ∧ s1.pc t = .dRun (.mod k a)) ∨
    ∃ p, p < j ∧ Pushed spur es p k ∧ HB.HB (hbTrace o es) p j := by
  obtain ⟨s1, s2, h1, h2⟩ := runFrom_at h hj
  have hjl : j < es.length := HB.lq_lt hj
  have hlen : (es.take j).length = j := by simp [List.length_take]; omega
  rcases closure_hb o h1 h2 with ⟨hb, a, hpc⟩ | ⟨p, hp, hhb⟩
  · exact .inl ⟨s1, a, h1, hb, hpc⟩
  · right
    have hpj : p < j := by
      obtain ⟨_, _, _, _, _, h3⟩ := hp
      have := HB.lq_lt h3; omega
    have hp' : Pushed spur es p k := by
      have := hp.mono (es.drop j); rwa [List.take_append_drop] at this
    refine ⟨p, hpj, hp', ?_⟩
    have e1 : es.take (j + 1) = es.take j ++ [(t, Ev.ucb k)] := by rw [List.take_add_one, hj]; rfl
    have := hhb.mono (hbTrace o (es.drop (j + 1)))
    rw [← hbTrace_append, ← e1, List.take_append_drop, hlen] at this
    exact this

/-- thread 1 holds a shared handle; thread 2 calls `modify_detach` (task 7): the try-lock fails, the
closure is queued and the flag raised; thread 1 releases; thread 3 calls `lock_shared`, sees the flag,
takes `m`, drains the queue and runs task 7 -/
def hbWitness : List (Tid × Ev) :=
  [(1, .callSh .block), (1, .fld false), (1, .slk), (1, .got true),
   (2, .callMod 7 false), (2, .mtl false), (2, .qlk), (2, .qul), (2, .fst true), (2, .ret),
   (1, .sul),
   (3, .callSh .block), (3, .fld true), (3, .mtl true), (3, .fld true), (3, .fst false), (3, .qlk), (3, .qul),
   (3, .ucb 7), (3, .pwr 5), (3, .uce 7 0), (3, .mul), (3, .slk), (3, .got true)]

/-- the trace is accepted, position 7 ends the push of task 7, position 18 enters its function in
another thread — and 7 happens-before 18 even with BOTH flag operations relaxed -/
example : ∃ s, run false hbWitness = some s ∧ hbWitness[7]? = some (2, .qul) ∧ hbWitness[18]? = some (3, .ucb 7) ∧
    HB.HB (hbTrace { ld := .rlx, st := .rlx } hbWitness) 7 18 :=
  ⟨_, rfl, rfl, rfl,
    .trans (j := 16) (.sw (.mutex (i := 7) (j := 16) (md := .X) (md' := .X) (m := 1) (t := 2) (u := 3) (by decide) rfl rfl
      (.inl rfl))) (.po (i := 16) (j := 18) (t := 3) (by decide) rfl rfl)⟩

/-- the theorem applies to it (queued case) -/
example : ∃ p, p < 18 ∧ Pushed false hbWitness p 7 ∧ HB.HB (hbTrace { ld := .rlx, st := .rlx } hbWitness) p 18 := by
  rcases C07_deferred_flag_trace (spur := false) { ld := .rlx, st := .rlx } (s := _) (es := hbWitness) (j := 18) (t := 3)
    (k := 7) rfl rfl with ⟨s1, a, h1, hb, _⟩ | h
  · exfalso
    have : run false (hbWitness.take 18) = some s1 := h1
    have e : (run false (hbWitness.take 18)).map (fun s => s.batch) = some [7] := rfl
    rw [this] at e; simp at e; rw [hb] at e; cases e
  · exact h

/-- the whole mapped trace (wrapped object included) is race free with relaxed flag operations -/
example : HB.raceFree (hbTrace { ld := .rlx, st := .rlx } hbWitness) = true := by decide

end ConcVerif.Deferred
