import ConcVerif.Proof.Trigger
import ConcVerif.Proof.TriggerLive
/-! # C11 — TriggerVariable waits end only on their event, and the event wakes them

All statements are over `Reachable a s` (`a` = constructed active or not): every accepted event sequence
of the model in `Model/Trigger.lean`, i.e. any number of threads, any mix of the nine public methods, any
interleaving, any number of spurious wake-ups and time-outs.  No bound anywhere.

Vocabulary.  `s.hist` is the ghost history of clear / set-active / set-triggered / set-inactive steps; a
step's index is its position (the constructor is clear step 0, plus set-active step 1 when constructed
active).  `s.obs t = some ci` says: the `wait()` / `wait_for()` call thread `t` is executing read
`activated = true`, and `ci` is the index of the clear step of the activation whose set-active step wrote
that value (`ObsWf` spells out that both steps are in the history).  `.trig` / `.act` select
(`triggered`, `triggerLock`, `cv_trigger`) / (`activated`, `activeLock`, `cv_active`). -/
namespace ConcVerif.Trigger

/-! ## waits return only on their event -/

/-- From its deciding load until it releases `triggerLock`, a `wait()` / `wait_for()` that is about to return
`true` holds the mutex, `triggered` is true, and a set-triggered step lies after the clear step of the
activation it observed. -/
theorem C11_wait_decided {a : Bool} {s : St} {t : Tid} {k : WKind} (h : Reachable a s)
    (hp : s.pc t = .wUnlock k true) (hk : k.side = .trig) :
    s.lock .trig = some t ∧ s.flag .trig = true ∧
      ∀ ci, s.obs t = some ci → ObsWf s.hist ci ∧ ∃ (g : Nat) (u : Tid), ci < g ∧ s.hist[g]? = some (.setTrig u) := by
  have hi := inv_reachable h
  refine ⟨?_, ?_, ?_⟩
  · have := (hi.l.holder .trig t).1 (by simp [hp, Pc.holds, hk]); exact this
  · exact hi.t .trig t (by simp [hp, Pc.sawTrue, hk])
  · intro ci ho
    exact ⟨hi.g.obsWf t ci ho, (hi.g.res t k (Or.inl hp)).1 hk ci ho⟩

/-- `wait()` / `wait_for()` that observed an activation returns `true` only after a set-triggered step (a
`trigger()`, or the one forced by `reset()`) later than that activation's clear step.  No proviso needed. -/
theorem C11_wait {a : Bool} {s s' : St} {t : Tid} {k : Kind} {ci : Nat} (h : Reachable a s)
    (hk : k = .wait ∨ k = .waitFor) (hs : step s t (.ret k true) = some s') (ho : s.obs t = some ci) :
    ObsWf s.hist ci ∧ ∃ (g : Nat) (u : Tid), ci < g ∧ s.hist[g]? = some (.setTrig u) := by
  refine ⟨(inv_reachable h).g.obsWf t ci ho, ?_⟩
  rcases hk with rfl | rfl
  · exact (wait_true_resOk (k := .wait) h hs).1 rfl ci ho
  · exact (wait_true_resOk (k := .waitFor) h hs).1 rfl ci ho

/-- how `obs` gets its value: the unlocked fast-path load of `wait()` / `wait_for()` that reads
`activated = true` records the activation that wrote it; `activated` is true at that moment and the
activation's clear and set-active steps are in the history. -/
theorem C11_wait_observes {a : Bool} {s s' : St} {t : Tid} {k : WKind} (h : Reachable a s)
    (hp : s.pc t = .wCalled k) (hs : step s t (.ld .act .sc true) = some s') :
    s.flag .act = true ∧ s'.obs t = some s.actClear ∧ ObsWf s.hist s.actClear := by
  obtain ⟨p', s₁, hst, rfl⟩ := Step.of_step hs
  rw [hp] at hst
  cases hst with
  | wSawActive hf => exact ⟨hf, upd_same _ _ _, (inv_reachable h).g.actWf hf⟩

/-- untimed `wait()` never returns `false` -/
theorem C11_wait_true {a : Bool} {s s' : St} {t : Tid} {r : Bool} (h : Reachable a s)
    (hs : step s t (.ret .wait r) = some s') : r = true := by
  have hp := ret_wait_pc (k := .wait) hs
  cases r
  · cases (inv_reachable h).l.untimed t .wait (by rw [hp]; rfl)
  · rfl

/-- From its deciding load until it releases `activeLock`, a `waitActivation()` / `wait_forActivation()` that is
about to return (`true`) holds the mutex and `activated` is true; a set-active step is in the history. -/
theorem C11_waitActivation_decided {a : Bool} {s : St} {t : Tid} {k : WKind} (h : Reachable a s)
    (hp : s.pc t = .wUnlock k true) (hk : k.side = .act) :
    s.lock .act = some t ∧ s.flag .act = true ∧ ∃ (i : Nat) (u : Tid), s.hist[i]? = some (.setActive u) := by
  have hi := inv_reachable h
  refine ⟨?_, ?_, ?_⟩
  · have := (hi.l.holder .act t).1 (by simp [hp, Pc.holds, hk]); exact this
  · exact hi.t .act t (by simp [hp, Pc.sawTrue, hk])
  · exact (hi.g.res t k (Or.inl hp)).2 hk

/-- `waitActivation()` returns, and `wait_forActivation()` returns `true`, only after a set-active step -/
theorem C11_waitActivation {a : Bool} {s s' : St} {t : Tid} {k : Kind} (h : Reachable a s)
    (hk : k = .waitAct ∨ k = .waitForAct) (hs : step s t (.ret k true) = some s') :
    ∃ (i : Nat) (u : Tid), s.hist[i]? = some (.setActive u) := by
  rcases hk with rfl | rfl
  · exact (wait_true_resOk (k := .waitAct) h hs).2 rfl
  · exact (wait_true_resOk (k := .waitForAct) h hs).2 rfl

/-- the only way into "about to return `true` under the mutex" is a load of `true` of the awaited flag -/
theorem C11_decided_by_load {s s' : St} {t : Tid} {e : Ev} {k : WKind} (hs : step s t e = some s')
    (hp : s'.pc t = .wUnlock k true) :
    e = .ld k.side .sc true ∧ s.flag k.side = true ∧
      (s.pc t = .wTimedOut k ∨ s.pc t = .wLate k ∨ ∃ f, s.pc t = .wHold k f) := by
  obtain ⟨p', s₁, h, rfl⟩ := Step.of_step hs
  rw [setPc_pc, upd_same] at hp; subst hp
  generalize s.pc t = p at h ⊢
  cases h with
  | wSawTrue hm hf => subst hm; exact ⟨rfl, hf, .inr (.inr ⟨_, rfl⟩)⟩
  | wTimedOut hm hv => subst hm; exact ⟨rfl, hv.symm, .inl rfl⟩
  | wLate hm hv => subst hm; exact ⟨rfl, hv.symm, .inr (.inl rfl)⟩

/-! ## the timed forms return `false` only if the event had not happened when they gave up -/

/-- A timed wait that is about to return `false` is a timed form, holds the matching mutex and the awaited
flag is false — from its deciding load until it releases the mutex. -/
theorem C11_timed_false {a : Bool} {s : St} {t : Tid} {k : WKind} (h : Reachable a s)
    (hp : s.pc t = .wUnlock k false) :
    k.timed = true ∧ s.lock k.side = some t ∧ s.flag k.side = false := by
  have hi := inv_reachable h
  refine ⟨hi.l.untimed t k (by simp [hp, Pc.needsTimed]), ?_, hi.l.checked k.side t (by simp [hp, Pc.sawFalse])⟩
  exact (hi.l.holder k.side t).1 (by simp [hp, Pc.holds])

/-- a `false` result is produced only by the deciding load after a time-out (real, or a late wake-up reported
as one): the flag is re-read under the mutex and it is false … -/
theorem C11_timed_false_decided {s s' : St} {t : Tid} {e : Ev} {k : WKind} (hs : step s t e = some s')
    (hp : s'.pc t = .wUnlock k false) :
    e = .ld k.side .sc false ∧ s.flag k.side = false ∧ (s.pc t = .wTimedOut k ∨ s.pc t = .wLate k) := by
  obtain ⟨p', s₁, h, rfl⟩ := Step.of_step hs
  rw [setPc_pc, upd_same] at hp; subst hp
  generalize s.pc t = p at h ⊢
  cases h with
  | wTimedOut hm hv => subst hm; exact ⟨rfl, hv.symm, .inl rfl⟩
  | wLate hm hv => subst hm; exact ⟨rfl, hv.symm, .inr rfl⟩

/-- … and it is carried unchanged through the release of the mutex to the return -/
theorem C11_timed_false_ret {s s' : St} {t : Tid} {e : Ev} {k : WKind} (hs : step s t e = some s')
    (hp : s'.pc t = .wRet k false) : e = .mul k.side ∧ s.pc t = .wUnlock k false := by
  obtain ⟨p', s₁, h, rfl⟩ := Step.of_step hs
  rw [setPc_pc, upd_same] at hp; subst hp
  generalize s.pc t = p at h ⊢
  cases h with
  | wUnlock hm _ => subst hm; exact ⟨rfl, rfl⟩

/-- a waiter that timed out while still in the wait set holds the mutex and the awaited flag is false (the
shim re-acquires the mutex in the time-out step itself; the real race "notified, but the wait reports a
time-out" is the separate `late` wake-up, after which the flag may well be true — `C11_late_decides`) -/
theorem C11_timeout_sees_false {a : Bool} {s : St} {t : Tid} {k : WKind} (h : Reachable a s)
    (hp : s.pc t = .wTimedOut k) : s.lock k.side = some t ∧ s.flag k.side = false := by
  have hi := inv_reachable h
  exact ⟨(hi.l.holder k.side t).1 (by simp [hp, Pc.holds]), hi.l.checked k.side t (by simp [hp, Pc.sawFalse])⟩

/-- after a late wake-up (notified, reported as a time-out) the result is whatever the deciding load of the
flag under the mutex returns: a notified waiter whose event is still in force returns `true` -/
theorem C11_late_decides {a : Bool} {s s' : St} {t : Tid} {e : Ev} {k : WKind} (h : Reachable a s)
    (hp : s.pc t = .wLate k) (hs : step s t e = some s') :
    k.timed = true ∧ s.lock k.side = some t ∧ e = .ld k.side .sc (s.flag k.side) ∧
      s' = s.setPc t (.wUnlock k (s.flag k.side)) := by
  have hi := inv_reachable h
  refine ⟨hi.l.untimed t k (by simp [hp, Pc.needsTimed]), (hi.l.holder k.side t).1 (by simp [hp, Pc.holds]), ?_⟩
  obtain ⟨p', s₁, hst, rfl⟩ := Step.of_step hs
  rw [hp] at hst
  cases hst with
  | wLate hm hv => subst hm hv; exact ⟨rfl, rfl⟩

/-! ## a successful trigger / activate releases the waiters (L1: no lost wake-up) -/

/-- No lost wake-up, both condition variables: while the flag is true nobody is in the wait set, except
during the instant in which the thread that stored `true` — which holds the mutex and is therefore never
blocked — is between its store and its `notify_all`. -/
theorem C11_no_lost_wakeup {a : Bool} {s : St} (h : Reachable a s) (m : Side) (hf : s.flag m = true)
    (hq : ∀ t, (s.pc t).notifying m = false) : s.ws m = [] := by
  have hi := inv_reachable h
  apply Classical.byContradiction
  intro hne
  rcases hi.l.lost m hne with hx | ⟨u, hu⟩
  · simp [hf] at hx
  · simp [hq u] at hu

/-- the pending notifier of `C11_no_lost_wakeup` holds the mutex -/
theorem C11_notifier_holds {a : Bool} {s : St} (h : Reachable a s) {m : Side} {t : Tid}
    (hn : (s.pc t).notifying m = true) : s.lock m = some t :=
  ((inv_reachable h).l.holder m t).1 (notifying_holds hn)

/-- After a set-triggered step (successful `trigger()`, or the one inside `reset()`), as long as no clear step
follows it — the property's proviso "not re-activated while they are still blocked" — `triggered` stays
true and, once the triggerer's `notify_all` is done, `cv_trigger`'s wait set is empty: every thread that was
blocked has been released (and by `C11_wait_bounded` returns within a bounded number of own steps). -/
theorem C11_trigger_wakes {a : Bool} {s : St} (h : Reachable a s) {h1 h2 : List HEv} {u : Tid}
    (hh : s.hist = h1 ++ HEv.setTrig u :: h2) (hno : ∀ v, HEv.clear v ∉ h2) :
    s.flag .trig = true ∧ ((∀ t, (s.pc t).notifying .trig = false) → s.ws .trig = []) := by
  have hi := inv_reachable h
  have hf : s.flag .trig = true := by rw [hi.g.trigEq, hh]; exact trigOf_after h1 h2 u hno
  exact ⟨hf, C11_no_lost_wakeup h .trig hf⟩

/-- After a set-active step (successful `activate()`), as long as no set-inactive step (`reset()`) follows it,
`activated` stays true and, once the activator's `notify_all` is done, `cv_active`'s wait set is empty. -/
theorem C11_activate_wakes {a : Bool} {s : St} (h : Reachable a s) {h1 h2 : List HEv} {u : Tid}
    (hh : s.hist = h1 ++ HEv.setActive u :: h2) (hno : ∀ v, HEv.setInactive v ∉ h2) :
    s.flag .act = true ∧ ((∀ t, (s.pc t).notifying .act = false) → s.ws .act = []) := by
  have hi := inv_reachable h
  have hf : s.flag .act = true := by rw [hi.g.actEq, hh]; exact actOf_after h1 h2 u hno
  exact ⟨hf, C11_no_lost_wakeup h .act hf⟩

/-- a successful `trigger()` (one that returns `true`) has performed a set-triggered step: the only way to
"about to return true" is through the store and the notify under `triggerLock` -/
theorem C11_trigger_true {s s' : St} {t : Tid} {e : Ev} (hs : step s t e = some s')
    (hp : s'.pc t = .tRet true) : e = .mul .trig ∧ s.pc t = .tHold .top true true := by
  obtain ⟨p', s₁, h, rfl⟩ := Step.of_step hs
  rw [setPc_pc, upd_same] at hp; subst hp
  generalize s.pc t = p at h ⊢
  cases h with
  | tUnlock => exact ⟨rfl, rfl⟩

/-! ## trigger() on an inactive variable has no effect and returns false -/

/-- `trigger()` that finds the variable inactive can only load `activated = false`, which changes nothing but
its own pc (no store, no notify, no mutex) … -/
theorem C11_inactive_trigger {s s' : St} {t : Tid} {e : Ev} (hp : s.pc t = .tCalled .top)
    (hf : s.flag .act = false) (hs : step s t e = some s') :
    e = .ld .act .sc false ∧ s' = s.setPc t (.tRet false) := by
  obtain ⟨p', s₁, h, rfl⟩ := Step.of_step hs
  rw [hp] at h
  cases h with
  | tSawActive hf' => rw [hf] at hf'; cases hf'
  | tSawInactive => exact ⟨rfl, rfl⟩

/-- … and then can only return `false`, again changing nothing else. -/
theorem C11_inactive_trigger_ret {s s' : St} {t : Tid} {e : Ev} {r : Bool} (hp : s.pc t = .tRet r)
    (hs : step s t e = some s') : e = .ret .trigger r ∧ s' = s.setPc t .idle := by
  obtain ⟨p', s₁, h, rfl⟩ := Step.of_step hs
  rw [hp] at h
  cases h with
  | tRet => exact ⟨rfl, rfl⟩

/-- Conversely `trigger()` returns `false` only after having read `activated = false` (and nothing else). -/
theorem C11_trigger_false {s s' : St} {t : Tid} {e : Ev} (hs : step s t e = some s')
    (hp : s'.pc t = .tRet false) :
    e = .ld .act .sc false ∧ s.flag .act = false ∧ s.pc t = .tCalled .top ∧ s' = s.setPc t (.tRet false) := by
  obtain ⟨p', s₁, h, rfl⟩ := Step.of_step hs
  rw [setPc_pc, upd_same] at hp; subst hp
  generalize s.pc t = p at h ⊢
  cases h with
  | tSawInactive hf => exact ⟨rfl, hf, rfl, rfl⟩

/-! ## after reset() the variable is inactive -/

/-- `reset()` releases `activeLock` (its last action before returning) only in states where `activated` is
false, and it holds the mutex until then. -/
theorem C11_reset {a : Bool} {s : St} {t : Tid} {b : Bool} (h : Reachable a s) (hp : s.pc t = .rUnlock b) :
    s.lock .act = some t ∧ s.flag .act = false := by
  have hi := inv_reachable h
  exact ⟨(hi.l.holder .act t).1 (by simp [hp, Pc.holds]), hi.l.checked .act t (by simp [hp, Pc.sawFalse])⟩

/-- After a set-inactive step, absent a later set-active step, `activated` is false; and `triggered` is true
("reset forces a trigger before deactivating") unless an `activate()` call is in progress between its clear
step and its set-active step — which is then about to perform that later set-active. -/
theorem C11_reset_hist {a : Bool} {s : St} (h : Reachable a s) {h1 h2 : List HEv} {u : Tid}
    (hh : s.hist = h1 ++ HEv.setInactive u :: h2) (hno : ∀ v, HEv.setActive v ∉ h2) :
    s.flag .act = false ∧ (s.flag .trig = true ∨ ∃ w, (s.pc w).pending = true) := by
  have hi := inv_reachable h
  have hf : s.flag .act = false := by rw [hi.g.actEq, hh]; exact actOf_after_reset h1 h2 u hno
  exact ⟨hf, hi.g.resetDone ⟨u, by rw [hh]; simp⟩ hf⟩

/-- `reset()` deactivates only after it has read `triggered = true` under `activeLock`: at its set-inactive step
`triggered` is true or has just been cleared by an `activate()` still in progress … -/
theorem C11_reset_forces_trigger {a : Bool} {s : St} {t : Tid} (h : Reachable a s) (hp : s.pc t = .rStore) :
    s.flag .trig = true ∨ ∃ w, (s.pc w).pending = true :=
  (inv_reachable h).g.resetInv t hp

/-- … and when it read `true`, a set-triggered step lay after the latest clear step. -/
theorem C11_reset_saw_trigger {a : Bool} {s s' : St} {t : Tid} {o : Ord} (h : Reachable a s)
    (hp : s.pc t = .rLoop) (hs : step s t (.ld .trig o true) = some s') :
    s'.pc t = .rStore ∧ ∃ (g : Nat) (u : Tid), s.lastClear < g ∧ s.hist[g]? = some (.setTrig u) := by
  obtain ⟨p', s₁, hst, rfl⟩ := Step.of_step hs
  rw [hp] at hst
  cases hst with
  | rSawTriggered hf => exact ⟨upd_same _ _ _, (inv_reachable h).g.trigHist hf⟩

/-! ## the liveness half as safety facts (L2 – L4; L1 is `C11_no_lost_wakeup`) -/

/-- a spurious wake-up is not progress anybody may rely on -/
def Ev.progress : Ev → Bool
  | .cwk _ .spurious => false
  | _ => true

theorem next_progress (s : St) (t : Tid) (p : Pc) : (next s t p).progress = true := by
  cases p with
  | aHold st nt | tHold _ st nt => cases st <;> cases nt <;> rfl
  | wSleep k => by_cases h : t ∈ s.ws k.side <;> simp [next, h, Ev.progress]
  | _ => rfl


/-- (L2) the holder of either mutex always has an enabled step: it is never blocked (nobody takes a second
mutex or waits while holding one; the cv wait releases it). -/
theorem C11_holder_enabled {a : Bool} {s : St} (h : Reachable a s) {m : Side} {t : Tid}
    (hm : s.lock m = some t) : ∃ e, e.progress = true ∧ (step s t e).isSome = true := by
  have hi := inv_reachable h
  have hh := (hi.l.holder m t).2 hm
  refine ⟨_, next_progress s t _, next_enabled rfl (fun hid => ?_) (fun m' => (hi.l.holder m' t).1) (fun m' hw => ?_)
    (fun k hk => ?_)⟩
  · rw [hid] at hh; cases hh
  · rw [wants_not_holds hw] at hh; cases hh
  · rw [hk] at hh; cases hh

/-- pcs of a wait on side `m` (the unlocked fast-path check of `wait` / `wait_for` included) -/
def Pc.inWait (m : Side) : Pc → Bool
  | .wCalled k | .wLock k | .wHold k _ | .wSleep k | .wTimedOut k | .wLate k | .wUnlock k _ | .wRet k _ =>
      decide (k.side = m)
  | _ => false

/-- remaining own steps of a waiter once its flag is true -/
def Pc.waitRem : Pc → Nat
  | .wCalled _ => 6
  | .wLock _ => 5
  | .wSleep _ => 5
  | .wHold _ _ => 4
  | .wTimedOut _ => 4
  | .wLate _ => 4
  | .wUnlock _ _ => 3
  | .wRet _ _ => 2
  | _ => 0

/-- (L3) while the awaited flag is true every own step of a thread inside a wait on that side strictly
decreases a bounded measure: it returns after at most 6 more own steps and never re-enters the cv wait. -/
theorem C11_wait_bounded {a : Bool} {s s' : St} {t : Tid} {e : Ev} {m : Side} (h : Reachable a s)
    (hf : s.flag m = true) (hw : (s.pc t).inWait m = true) (hs : step s t e = some s') :
    (s'.pc t).waitRem < (s.pc t).waitRem := by
  have hchk := (inv_reachable h).l.checked m t
  obtain ⟨p', s₁, hst, rfl⟩ := Step.of_step hs
  rw [setPc_pc, upd_same]
  generalize s.pc t = p at hst hw hchk ⊢
  -- the two edges that do not decrease the measure need the flag to be (known) false
  cases hst with
  | wSawFalse hm hf' => rw [hm, of_decide_eq_true hw, hf] at hf'; cases hf'
  | wSleep => rw [hchk hw] at hf; cases hf
  | wSawActive | wSawInactive | wLock | wSawTrue | wNotified | wSpurious | wTimeout | wLateWake | wTimedOut | wLate
  | wUnlock | wRet => simp [Pc.waitRem]
  | _ => cases hw

/-- (L4) deadlock-freedom, per thread.  A thread inside a call is, in every reachable state, in one of three
situations: it can take a (non-spurious) step itself; or it needs a mutex held by another thread which can
take a step (L2); or it sleeps in an *untimed* wait whose event has not happened (flag false) — the only
place where a thread depends on the client. -/
theorem C11_thread_progress {a : Bool} {s : St} {t : Tid} (h : Reachable a s) (hne : s.pc t ≠ .idle) :
    (∃ e, e.progress = true ∧ (step s t e).isSome = true) ∨
    (∃ m u, s.lock m = some u ∧ u ≠ t ∧ ∃ e, e.progress = true ∧ (step s u e).isSome = true) ∨
    (∃ k, s.pc t = .wSleep k ∧ k.timed = false ∧ t ∈ s.ws k.side ∧ s.flag k.side = false) := by
  have hi := inv_reachable h
  have own := fun m => (hi.l.holder m t).1
  cases hw : (s.pc t).wants with
  | none =>
    exact .inl ⟨_, next_progress s t _, next_enabled rfl hne own (fun m hm => by rw [hw] at hm; cases hm)
      (fun k hk => by rw [hk] at hw; cases hw)⟩
  | some m =>
    cases hl : s.lock m with
    | some u =>
      -- the mutex it waits for is held by another thread, which can move (L2)
      refine .inr (.inl ⟨m, u, hl, fun hut => ?_, C11_holder_enabled h hl⟩)
      have := (hi.l.holder m t).2 (hut ▸ hl)
      rw [wants_not_holds hw] at this; cases this
    | none =>
      -- the mutex is free: `t` takes it, unless it is an untimed sleeper still in the wait set
      by_cases hsl : ∃ k, s.pc t = .wSleep k ∧ t ∈ s.ws k.side ∧ k.timed = false
      · obtain ⟨k, hp, hin, htm⟩ := hsl
        have hmk : k.side = m := by rw [hp] at hw; exact Option.some.inj hw
        refine .inr (.inr ⟨k, hp, htm, hin, ?_⟩)
        -- by L1 a notifier at work would hold the mutex
        rcases hi.l.lost k.side (List.ne_nil_of_mem hin) with hx | ⟨u, hu⟩
        · exact hx
        · have := C11_notifier_holds h hu; rw [hmk, hl] at this; cases this
      · refine .inl ⟨_, next_progress s t _, next_enabled rfl hne own (fun m' hm' => ?_) (fun k hk hin => ?_)⟩
        · rw [hw] at hm'; cases hm'; exact hl
        · cases htm : k.timed
          · exact absurd ⟨k, hk, hin, htm⟩ hsl
          · rfl

/-! ## the proviso is necessary (documentation, not a finding)

Two overlapping `activate()` calls (threads 1 and 2 both read `activated = false`), thread 1 completes the
activation, thread 3 calls `wait()` and blocks, thread 4's `trigger()` succeeds and notifies — and then
thread 2's late clear step undoes it before thread 3 has re-acquired the mutex: thread 3 re-checks, finds
`triggered = false` and blocks again, with nobody left to trigger.  The trace is accepted by the model (it is
what the real code does under this schedule). -/
def provisoTrace : List (Tid × Ev) :=
  [(1, .call .activate), (1, .ld .act .sc false), (2, .call .activate), (2, .ld .act .sc false),
   (1, .mlk .trig), (1, .st .trig false), (1, .mul .trig), (1, .mlk .act), (1, .st .act true), (1, .cna .act),
   (1, .mul .act), (1, .ret .activate true),
   (3, .call .wait), (3, .ld .act .sc true), (3, .mlk .trig), (3, .ld .trig .sc false), (3, .ld .trig .sc false),
   (3, .cwt .trig),
   (4, .call .trigger), (4, .ld .act .sc true), (4, .mlk .trig), (4, .st .trig true), (4, .cna .trig),
   (4, .mul .trig), (4, .ret .trigger true),
   (2, .mlk .trig), (2, .st .trig false), (2, .mul .trig),
   (3, .cwk .trig .notified), (3, .ld .trig .sc false), (3, .cwt .trig),
   (2, .mlk .act), (2, .st .act true), (2, .cna .act), (2, .mul .act), (2, .ret .activate true)]

/-- without the proviso the wake-up clause is false: after a successful `trigger()` (set-triggered step 3)
that followed the activation thread 3 observed (clear step 1), thread 3 is back in `cv_trigger`'s wait set
with `triggered = false` and every other thread has returned. -/
theorem C11_proviso_needed : ∃ s, Reachable false s ∧
    s.hist = [.clear 0, .clear 1, .setActive 1, .setTrig 4, .clear 2, .setActive 2] ∧
    s.pc 3 = .wSleep .wait ∧ s.obs 3 = some 1 ∧ s.ws .trig = [3] ∧ s.flag .trig = false ∧
    s.pc 1 = .idle ∧ s.pc 2 = .idle ∧ s.pc 4 = .idle ∧ s.lock .trig = none ∧ s.lock .act = none :=
  ⟨_, ⟨provisoTrace, rfl⟩, by decide, by decide, by decide, by decide, by decide, by decide, by decide, by decide,
    by decide, by decide⟩

/-! ## non-vacuity: concrete accepted traces reaching the hypotheses of the theorems above -/

/-- constructed active; thread 1 waits and really sleeps, thread 2 triggers, thread 1 wakes and decides -/
def waitTrace : List (Tid × Ev) :=
  [(1, .call .wait), (1, .ld .act .sc true), (1, .mlk .trig), (1, .ld .trig .sc false), (1, .ld .trig .sc false),
   (1, .cwt .trig),
   (2, .call .trigger), (2, .ld .act .sc true), (2, .mlk .trig), (2, .st .trig true), (2, .cna .trig), (2, .mul .trig),
   (2, .ret .trigger true),
   (1, .cwk .trig .notified), (1, .ld .trig .sc true), (1, .mul .trig)]

/-- `C11_wait_observes`: the fast-path load sees the constructor's activation -/
example : ∃ s, Reachable true s ∧ s.pc 1 = .wCalled .wait ∧ (step s 1 (.ld .act .sc true)).isSome = true :=
  ⟨_, ⟨waitTrace.take 1, rfl⟩, by decide, by decide⟩
/-- `C11_thread_progress`, third case: an untimed sleeper whose event has not happened -/
example : ∃ s, Reachable true s ∧ s.pc 1 = .wSleep .wait ∧ s.ws .trig = [1] ∧ s.flag .trig = false :=
  ⟨_, ⟨waitTrace.take 6, rfl⟩, by decide, by decide, by decide⟩
/-- the window of `C11_no_lost_wakeup`: stored, not yet notified, the waiter still in the wait set -/
example : ∃ s, Reachable true s ∧ s.flag .trig = true ∧ s.ws .trig = [1] ∧ (s.pc 2).notifying .trig = true ∧
    s.lock .trig = some 2 :=
  ⟨_, ⟨waitTrace.take 10, rfl⟩, by decide, by decide, by decide, by decide⟩
/-- `C11_trigger_wakes` / `C11_trigger_true` / `C11_wait_bounded`: after the successful trigger (set-triggered
step 2, no clear after it) the sleeper is out of the wait set and only needs the mutex -/
example : ∃ s, Reachable true s ∧ s.hist = [.clear 0, .setActive 0] ++ HEv.setTrig 2 :: [] ∧ s.ws .trig = [] ∧
    s.pc 1 = .wSleep .wait ∧ s.pc 2 = .tRet true ∧ (step s 1 (.cwk .trig .notified)).isSome = true :=
  ⟨_, ⟨waitTrace.take 12, rfl⟩, by decide, by decide, by decide, by decide, by decide⟩
/-- `C11_wait_decided` -/
example : ∃ s, Reachable true s ∧ s.pc 1 = .wUnlock .wait true ∧ s.obs 1 = some 0 ∧ s.lock .trig = some 1 :=
  ⟨_, ⟨waitTrace.take 15, rfl⟩, by decide, by decide, by decide⟩
/-- `C11_wait`, `C11_wait_true` -/
example : ∃ s, Reachable true s ∧ s.obs 1 = some 0 ∧ (step s 1 (.ret .wait true)).isSome = true ∧
    s.hist[2]? = some (.setTrig 2) :=
  ⟨_, ⟨waitTrace, rfl⟩, by decide, by decide, by decide⟩

/-- constructed inactive; thread 1 waits for the activation and sleeps, thread 2 activates -/
def actTrace : List (Tid × Ev) :=
  [(1, .call .waitAct), (1, .mlk .act), (1, .ld .act .sc false), (1, .ld .act .sc false), (1, .cwt .act),
   (2, .call .activate), (2, .ld .act .sc false), (2, .mlk .trig), (2, .st .trig false), (2, .mul .trig),
   (2, .mlk .act), (2, .st .act true), (2, .cna .act), (2, .mul .act), (2, .ret .activate true),
   (1, .cwk .act .notified), (1, .ld .act .sc true), (1, .mul .act)]

/-- `C11_activate_wakes` -/
example : ∃ s, Reachable false s ∧ s.hist = [.clear 0, .clear 2] ++ HEv.setActive 2 :: [] ∧ s.ws .act = [] ∧
    s.pc 1 = .wSleep .waitAct :=
  ⟨_, ⟨actTrace.take 14, rfl⟩, by decide, by decide, by decide⟩
/-- `C11_waitActivation_decided` -/
example : ∃ s, Reachable false s ∧ s.pc 1 = .wUnlock .waitAct true ∧ s.flag .act = true :=
  ⟨_, ⟨actTrace.take 17, rfl⟩, by decide, by decide⟩
/-- `C11_waitActivation` -/
example : ∃ s, Reachable false s ∧ (step s 1 (.ret .waitAct true)).isSome = true :=
  ⟨_, ⟨actTrace, rfl⟩, by decide⟩

/-- constructed active, nobody triggers: `wait_for` times out and returns false -/
def timedTrace : List (Tid × Ev) :=
  [(1, .call .waitFor), (1, .ld .act .sc true), (1, .mlk .trig), (1, .ld .trig .sc false), (1, .ld .trig .sc false),
   (1, .cwt .trig), (1, .cwk .trig .timeout), (1, .ld .trig .sc false), (1, .mul .trig)]

/-- `C11_timeout_sees_false` -/
example : ∃ s, Reachable true s ∧ s.pc 1 = .wTimedOut .waitFor :=
  ⟨_, ⟨timedTrace.take 7, rfl⟩, by decide⟩
/-- `C11_timed_false`, `C11_timed_false_decided` -/
example : ∃ s, Reachable true s ∧ s.pc 1 = .wUnlock .waitFor false :=
  ⟨_, ⟨timedTrace.take 8, rfl⟩, by decide⟩
/-- `C11_timed_false_ret` -/
example : ∃ s, Reachable true s ∧ s.pc 1 = .wRet .waitFor false ∧ (step s 1 (.ret .waitFor false)).isSome = true :=
  ⟨_, ⟨timedTrace, rfl⟩, by decide, by decide⟩

/-- constructed active; `wait_for` sleeps, `trigger()` succeeds, the waiter wakes *late* (notified, but the wait
reports a time-out) and its deciding load still sees the event -/
def lateTrace : List (Tid × Ev) :=
  [(1, .call .waitFor), (1, .ld .act .sc true), (1, .mlk .trig), (1, .ld .trig .sc false), (1, .ld .trig .sc false),
   (1, .cwt .trig),
   (2, .call .trigger), (2, .ld .act .sc true), (2, .mlk .trig), (2, .st .trig true), (2, .cna .trig), (2, .mul .trig),
   (2, .ret .trigger true),
   (1, .cwk .trig .late), (1, .ld .trig .sc true), (1, .mul .trig)]

/-- `C11_late_decides` -/
example : ∃ s, Reachable true s ∧ s.pc 1 = .wLate .waitFor ∧ s.flag .trig = true ∧
    (step s 1 (.ld .trig .sc true)).isSome = true :=
  ⟨_, ⟨lateTrace.take 14, rfl⟩, by decide, by decide, by decide⟩
example : ∃ s, Reachable true s ∧ (step s 1 (.ret .waitFor true)).isSome = true :=
  ⟨_, ⟨lateTrace, rfl⟩, by decide⟩

/-- `C11_inactive_trigger`, `C11_trigger_false` -/
example : ∃ s, Reachable false s ∧ s.pc 1 = .tCalled .top ∧ s.flag .act = false ∧
    (step s 1 (.ld .act .sc false)).isSome = true :=
  ⟨_, ⟨[(1, .call .trigger)], rfl⟩, by decide, by decide, by decide⟩

/-- constructed active and untriggered: `reset()` goes round its loop once (nested `trigger()`), then deactivates -/
def resetTrace : List (Tid × Ev) :=
  [(1, .call .reset), (1, .mlk .act), (1, .ld .act .sc true), (1, .ld .trig .acq false), (1, .mul .act),
   (1, .ld .act .sc true), (1, .mlk .trig), (1, .st .trig true), (1, .cna .trig), (1, .mul .trig),
   (1, .mlk .act), (1, .ld .trig .acq true), (1, .st .act false), (1, .mul .act), (1, .ret .reset true)]

/-- `C11_reset_saw_trigger` -/
example : ∃ s, Reachable true s ∧ s.pc 1 = .rLoop ∧ (step s 1 (.ld .trig .acq true)).isSome = true :=
  ⟨_, ⟨resetTrace.take 11, rfl⟩, by decide, by decide⟩
/-- `C11_reset_forces_trigger` -/
example : ∃ s, Reachable true s ∧ s.pc 1 = .rStore :=
  ⟨_, ⟨resetTrace.take 12, rfl⟩, by decide⟩
/-- `C11_reset`, `C11_holder_enabled` -/
example : ∃ s, Reachable true s ∧ s.pc 1 = .rUnlock true ∧ s.lock .act = some 1 :=
  ⟨_, ⟨resetTrace.take 13, rfl⟩, by decide, by decide⟩
/-- `C11_reset_hist` -/
example : ∃ s, Reachable true s ∧ s.hist = [.clear 0, .setActive 0, .setTrig 1] ++ HEv.setInactive 1 :: [] ∧
    s.flag .act = false ∧ s.flag .trig = true :=
  ⟨_, ⟨resetTrace, rfl⟩, by decide, by decide, by decide⟩

/-! ## Liveness under the proviso: while the variable stays armed and fired every waiter returns — for every scheduler

`stepP` (Proof/TriggerLive.lean) is `step` without the clear step of `activate()` and the set-inactive step of
`reset()`: the executions in which "the variable is not re-activated (nor reset) while they are still
blocked".  From a reachable state with `activated = triggered = true`:
* `C11_armed_progress` (deadlock-freedom): if some thread is inside a call and no thread stands right
  before one of the two excluded steps, some thread has an enabled non-`call` step;
* `C11_armed_terminates` (no livelock, Base/Live.lean): such an execution that makes no further `call`
  cannot be infinite — the summed rank of the threads strictly decreases with every step, spurious
  wake-ups and time-outs included; `C11_armed_bounded_run` is the quantitative form.
Hence every maximal proviso-respecting execution with finitely many calls ends with every thread returned
(`C11_armed_stuck_all_returned`).  No fairness is assumed.  What is NOT covered, and is not true of the code:
termination without the proviso (`C11_proviso_needed`; and `reset()`'s loop spins for as long as an
`activate()` that has cleared `triggered` is kept from setting `activated`). -/

/-- deadlock-freedom while armed and fired: if some thread is inside a call, some thread can take a
non-`call` step that respects the proviso -/
theorem C11_armed_progress {a : Bool} {s : St} (h : Reachable a s) (hfa : s.flag .act = true)
    (hft : s.flag .trig = true) (hno : ∀ u, s.pc u ≠ .aClear ∧ s.pc u ≠ .rStore)
    {t : Tid} (ht : s.pc t ≠ .idle) : ∃ u e, isCall e = false ∧ (stepP s u e).isSome = true := by
  have same : ∀ u e, stepP s u e = step s u e := by
    intro u e; unfold stepP; split
    · rename_i hx; exact absurd hx (hno u).1
    · rename_i hx; exact absurd hx (hno u).2
    · rfl
  have noncall : ∀ u e, s.pc u ≠ .idle → (step s u e).isSome = true → isCall e = false := by
    intro u e hu he
    cases hc : isCall e with
    | false => rfl
    | true => exact absurd (call_only_idle hc he) hu
  rcases C11_thread_progress h ht with ⟨e, _, he⟩ | ⟨m, u, hl, _, e, _, he⟩ | ⟨k, _, _, _, hf⟩
  · exact ⟨t, e, noncall t e ht he, by rw [same]; exact he⟩
  · have hne : s.pc u ≠ .idle := by
      intro hid
      have := ((inv_reachable h).l.holder m u).2 hl
      simp [hid, Pc.holds] at this
    exact ⟨u, e, noncall u e hne he, by rw [same]; exact he⟩
  · cases hk : k.side <;> simp [hk, hfa, hft] at hf

/-- no livelock while armed and fired: a proviso-respecting execution whose state at step `N` is reachable
with both flags true and which makes no `call` from `N` on (threads drawn from any finite list `ts`) cannot
be infinite -/
theorem C11_armed_terminates {a : Bool} (x : Live.Exec stepP) (N : Nat)
    (hr : Reachable a (x.σ N)) (hfa : (x.σ N).flag .act = true) (hft : (x.σ N).flag .trig = true)
    (ts : List Tid) (hnd : ts.Nodup) (hts : ∀ n, N ≤ n → x.who n ∈ ts)
    (hnc : ∀ n, N ≤ n → isCall (x.ev n) = false) : False :=
  Live.no_infinite_run ranked ts hnd x N ⟨inv_reachable hr, hfa, hft⟩ hts hnc

/-- quantitative form: from a reachable armed-and-fired state, a proviso-respecting trace with `c` calls has
at most `(total rank) + 7·c` steps -/
theorem C11_armed_bounded_run {a : Bool} {s s' : St} (hr : Reachable a s) (hfa : s.flag .act = true)
    (hft : s.flag .trig = true) (ts : List Tid) (hnd : ts.Nodup) {es : List (Tid × Ev)}
    (hts : ∀ y ∈ es, y.1 ∈ ts) (hrun : runFrom stepP s es = some s') :
    es.length + Live.total μ ts s' ≤ Live.total μ ts s + 7 * Live.calls isCall es :=
  Live.bounded_run ranked ts hnd ⟨inv_reachable hr, hfa, hft⟩ hts hrun

/-- a reachable armed-and-fired state in which no non-`call` step is enabled (and nobody stands before a
re-arming step) has every thread returned -/
theorem C11_armed_stuck_all_returned {a : Bool} {s : St} (h : Reachable a s) (hfa : s.flag .act = true)
    (hft : s.flag .trig = true) (hno : ∀ u, s.pc u ≠ .aClear ∧ s.pc u ≠ .rStore)
    (hstuck : ∀ u e, isCall e = false → (stepP s u e).isSome = false) (t : Tid) : s.pc t = .idle := by
  apply Classical.byContradiction
  intro ht
  obtain ⟨u, e, hc, he⟩ := C11_armed_progress h hfa hft hno ht
  rw [hstuck u e hc] at he
  contradiction

/-- non-vacuity: right after the successful `trigger()` of `waitTrace` the state is armed and fired, nobody
stands before a re-arming step, thread 1 still sleeps, and the proviso-respecting step that wakes it is enabled -/
example : ∃ s, Reachable true s ∧ s.flag .act = true ∧ s.flag .trig = true ∧ s.pc 1 = .wSleep .wait ∧
    s.pc 2 = .tRet true ∧ (stepP s 1 (.cwk .trig .notified)).isSome = true ∧ μ s 1 = 5 :=
  ⟨_, ⟨waitTrace.take 12, rfl⟩, by decide, by decide, by decide, by decide, by decide, by decide⟩

end ConcVerif.Trigger
