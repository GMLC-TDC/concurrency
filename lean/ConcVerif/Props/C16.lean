import ConcVerif.Proof.DDLive
/-! # C16 — DelayedDestructor destroys late, once, and never under its own lock

Theorems over every reachable state of the model `ConcVerif.DD` (any number of threads, objects, calls,
interleavings, time-outs, re-entrant callbacks / destructors; `cb` = a callback is installed, `ns` objects shared by
`nt` script threads at the start). -/
namespace ConcVerif.DD
open ConcVerif

/-- **C16_once (at most once).** No object's destructor starts twice: the log of destructor starts has no duplicates. -/
theorem C16_once {cb ns nt} {s : St} (h : Reachable cb ns nt s) : s.destroyed.Nodup :=
  (List.nodup_append.mp (inv_reachable h).life.nodup).2.1

/-- **C16_once (at most once), per step.** A destructor start is accepted only for an object that has not been destroyed,
and appends it to the log. -/
theorem C16_once_step {cb ns nt} {s s' : St} {t : Tid} {k : ObjId} (h : Reachable cb ns nt s)
    (hs : step s t (.pdt k) = some s') : k ∉ s.destroyed ∧ s'.destroyed = k :: s.destroyed := by
  obtain ⟨rest, _, hk, hd, _⟩ := pdt_inv hs
  refine ⟨fun hm => ?_, hd⟩
  exact (List.nodup_append.mp (inv_reachable h).life.nodup).2.2 k hk k hm rfl

/-- **C16_not_while_owned.** A destructor starts only when nobody references the object: no external `shared_ptr`,
no entry of the vector, no `ecall` vector of any running destroyObjects call. -/
theorem C16_not_while_owned {cb ns nt} {s s' : St} {t : Tid} {k : ObjId} (h : Reachable cb ns nt s)
    (hs : step s t (.pdt k) = some s') : s.ext k = 0 ∧ k ∉ s.vec ∧ ∀ u, (u, k) ∉ s.ecs := by
  obtain ⟨rest, _, hk, _, _⟩ := pdt_inv hs
  have h0 : refs s k = 0 := ((inv_reachable h).life.zero k).mpr (Or.inr (Or.inl hk))
  simp only [refs] at h0
  refine ⟨by omega, fun hm => ?_, fun u hm => ?_⟩
  · have := List.count_pos_iff.mpr hm; omega
  · have : (s.ecs.map Prod.snd).count k > 0 := List.count_pos_iff.mpr (List.mem_map.mpr ⟨(u, k), hm, rfl⟩)
    omega

/-- the container's destructor returns only after its vector member has released everything -/
theorem C16_dtor_returns_empty {cb ns nt} {s s' : St} {t : Tid} (h : Reachable cb ns nt s)
    (hs : step s t .retDtor = some s') : s.vdead = true ∧ s.vec = [] := by
  have hI := inv_reachable h
  obtain ⟨fs, hfs, hS⟩ := Step.inv hs
  cases hS with
  | user _ h => cases h
  | xRet =>
    have hp := hI.dt.pf t Frame.xRet (by rw [hfs]; exact List.mem_cons_self)
    have hv := hp.2.1 rfl
    exact ⟨hv, (hI.dt.g1 hv).1⟩

/-- once the vector member is gone it stays empty: nothing can be added behind the destructor's back -/
theorem C16_dtor_done_stays_empty {cb ns nt} {s : St} (h : Reachable cb ns nt s) (hv : s.vdead = true) :
    s.vec = [] := ((inv_reachable h).dt.g1 hv).1

/-- **C16_once (exactly once at the end).** When the container's destructor has destroyed the vector, every thread
is back at script level, and the external owners of `k` are gone, then `k`'s destructor has run — exactly once
(`C16_once`).  This covers both orders: owners gone before the container dies (reaped by the destructor's
destroyObjects calls or released by the vector) and owners that outlive the container (destroyed at their last drop). -/
theorem C16_once_final {cb ns nt} {s : St} (h : Reachable cb ns nt s) (hv : s.vdead = true)
    (hidle : ∀ t, s.stk t = []) {k : ObjId} (hk : k ∈ s.created) (hext : s.ext k = 0) :
    k ∈ s.destroyed ∧ s.destroyed.count k = 1 := by
  have hI := inv_reachable h
  have hvec : s.vec = [] := (hI.dt.g1 hv).1
  have hecs : (s.ecs.map Prod.snd).count k = 0 := by
    apply List.count_eq_zero.mpr
    intro hm
    obtain ⟨⟨u, k'⟩, hm2, rfl⟩ := List.mem_map.mp hm
    exact own_idle hI.own (hidle u) k' hm2
  have h0 : refs s k = 0 := by simp [refs, hext, hvec, hecs]
  have hd : k ∈ s.destroyed := by
    rcases (hI.life.zero k).mp h0 with hc | hp | hd
    · exact absurd hk hc
    · obtain ⟨u, hu⟩ := hI.pend k hp
      rw [hidle u] at hu; cases hu
    · exact hd
  exact ⟨hd, count_one_of_nodup (C16_once h) hd⟩

/-- no object is ever forgotten: an object without any reference has been destroyed, or its destructor is the very
next thing some thread does (a `dying` frame on that thread's stack) -/
theorem C16_no_leak {cb ns nt} {s : St} (h : Reachable cb ns nt s) {k : ObjId} (hk : k ∈ s.created)
    (h0 : refs s k = 0) : k ∈ s.destroyed ∨ ∃ t, Frame.dying k ∈ s.stk t := by
  have hI := inv_reachable h
  rcases (hI.life.zero k).mp h0 with hc | hp | hd
  · exact absurd hk hc
  · obtain ⟨u, hu⟩ := hI.pend k hp
    exact Or.inr ⟨u, mem_dyingOf hu⟩
  · exact Or.inl hd

/-- **C16_outside_lock.** At every payload-destructor event (`pdt`, `pde`) and every callback event (`ucb`, `uce`,
`uth`) the executing thread does not hold `destructionLock`. -/
theorem C16_outside_lock {cb ns nt} {s s' : St} {t : Tid} {e : Ev} (h : Reachable cb ns nt s)
    (hs : step s t e = some s') (he : isCbDt e = true) : s.lock ≠ some t := by
  intro hl
  have := (inv_reachable h).lockI t hl
  rw [cbdt_top hs he] at this; cases this

/-- ... and during the whole callback / payload destructor: while user code of thread `t` runs inside a callback or
inside `~X`, `t` does not hold the lock -/
theorem C16_user_code_unlocked {cb ns nt} {s : St} {t : Tid} (h : Reachable cb ns nt s)
    (hu : userLevel (s.stk t) = true) : s.lock ≠ some t := by
  intro hl
  have hh := (inv_reachable h).lockI t hl
  cases hfs : s.stk t with
  | nil => simp [hfs, holds] at hh
  | cons f rest => cases f <;> simp [hfs, holds, holdsF, userLevel] at hh hu

/-- the lock is held only inside the library's critical sections: a thread whose top frame is not one of them (in
particular one that is about to acquire: `addCalled`, `sizeCalled`, `dCalled`, `dRelock`, `gCalled`, …) does not hold
it — a re-entrant call can never wait for its own thread -/
theorem C16_no_self_deadlock {cb ns nt} {s : St} {t : Tid} (h : Reachable cb ns nt s)
    (hn : holds (s.stk t) = false) : s.lock ≠ some t := by
  intro hl
  have := (inv_reachable h).lockI t hl
  rw [hn] at this; cases this

/-- whoever holds the lock can release it (its next step is enabled): a blocked re-entrant `add` / `size` waits only
for another thread that is able to move -/
theorem C16_holder_enabled {cb ns nt} {s : St} {u : Tid} (h : Reachable cb ns nt s) (hl : s.lock = some u) :
    (step s u .mul).isSome = true :=
  holder_mul hl ((inv_reachable h).lockI u hl)

/-- re-entrant calls are accepted from inside a callback or a payload destructor (before the container's destructor
has started), blocking acquisitions proceed as soon as the lock is free, timed ones never block -/
theorem C16_reentrant_enabled {s : St} {t : Tid} (hu : userLevel (s.stk t) = true) (hd : s.dead = none)
    (hv : s.vdead = false) :
    (step s t .callSize).isSome = true ∧ (step s t .callDestroy).isSome = true ∧
    (∀ ms, (step s t (.callDestroyD ms)).isSome = true) := by
  have hm : s.mayCall t = true := by simp [St.mayCall, hu, hd, hv]
  cases hfs : s.stk t with
  | nil => simp [step, hfs, stepUser, hm]
  | cons f rest => cases f <;> simp [hfs, userLevel] at hu <;> simp [step, hfs, stepUser, hm]

theorem C16_acquire_enabled {s : St} {t : Tid} {rest : List Frame} :
    (s.stk t = .sizeCalled :: rest → s.lock = none → (step s t .mlk).isSome = true) ∧
    (s.stk t = .dCalled :: rest → (step s t (.mtf false [])).isSome = true ∧
      (s.lock = none → (step s t (.mtf true [])).isSome = true)) ∧
    (∀ k mv, s.stk t = .addCalled k mv :: rest → s.lock = none → s.ext k > 0 → (step s t .mlk).isSome = true) := by
  refine ⟨fun h hl => by simp [step, h, hl], fun h => ⟨by simp [step, h], fun hl => by simp [step, h, hl]⟩,
    fun k mv h hl he => by simp [step, h, hl, he]⟩

/-- **C16_callback_once.** With a callback installed and no throw: while a destroyObjects call destroys its `ecall`
vector (`dClear … false`), every object still in it had its callback exactly once in this call (`cbs` = the callbacks
this call completed, in order) — so each reaped object's callback ran exactly once before its destruction. -/
theorem C16_callback_once {ns nt} {s : St} {t : Tid} {sz : Nat} {ec cbs : List ObjId}
    (h : Reachable true ns nt s) (hf : Frame.dClear sz ec cbs false ∈ s.stk t) {k : ObjId} (hk : k ∈ ec) :
    cbs.count k = 1 := by
  have hw := (inv_reachable h).wf t _ hf
  obtain ⟨hsuf, hnd⟩ := hw rfl (reachable_hasCb h)
  exact count_one_of_nodup hnd (suffix_mem hsuf hk)

/-- **C16_callback_once (the object being destroyed).** With a callback installed and no throw: when an object's
last reference was the `ecall` vector of a destroyObjects call (its `dying` frame — destructor about to start — sits
directly on that call's clearing frame), the call has completed that object's callback exactly once. -/
theorem C16_callback_once_dying {ns nt} {s : St} {t : Tid} {k : ObjId} {sz : Nat} {ec cbs : List ObjId}
    {rest : List Frame} (h : Reachable true ns nt s)
    (hfs : s.stk t = .dying k :: .dClear sz ec cbs false :: rest) : cbs.count k = 1 := by
  have hI := inv_reachable h
  have hcb := reachable_hasCb h
  have ha := hI.adjI t
  rw [hfs] at ha
  have hsuf := ha.1 rfl hcb
  have hw := hI.wf t (.dClear sz ec cbs false) (by rw [hfs]; simp)
  obtain ⟨_, hnd⟩ := hw rfl hcb
  exact count_one_of_nodup hnd (suffix_mem hsuf List.mem_cons_self)

/-- the callbacks of one call run over its `ecall` vector front to back, one per entry, no entry twice; when the last
one returns, the completed callbacks are exactly the `ecall` vector -/
theorem C16_callback_order {cb ns nt} {s : St} {t : Tid} (h : Reachable cb ns nt s) :
    (∀ sz ec cbs todo, Frame.dCb sz ec cbs todo ∈ s.stk t → ec = cbs ++ todo ∧ ec.Nodup) ∧
    (∀ sz ec cbs k todo, Frame.dInCb sz ec cbs k todo ∈ s.stk t → ec = cbs ++ k :: todo ∧ ec.Nodup) := by
  have hw := (inv_reachable h).wf t
  exact ⟨fun sz ec cbs todo hf => by simpa [wfF] using hw _ hf,
         fun sz ec cbs k todo hf => by simpa [wfF] using hw _ hf⟩

/-- callbacks come before destruction: no object of a call's `ecall` vector is destroyed (or even pending) while the
call still holds it — in particular not before or during the callbacks -/
theorem C16_callback_before_destruction {cb ns nt} {s : St} {t : Tid} {f : Frame} (h : Reachable cb ns nt s)
    (hf : f ∈ s.stk t) {k : ObjId} (hk : k ∈ ecOf f) : k ∉ s.destroyed ∧ k ∉ s.pend := by
  have hI := inv_reachable h
  have hpos := refs_pos_of_mem (own_mem hI.own hf hk)
  constructor
  · intro hd; have := (hI.life.zero k).mpr (Or.inr (Or.inr hd)); omega
  · intro hp; have := (hI.life.zero k).mpr (Or.inr (Or.inl hp)); omega

/-- **C16_accounting.** Concurrent add / size / destroyObjects never lose or duplicate an object: with multiplicity,
every `push_back` is still in the vector, or was moved out by a destroyObjects selection, or was released by the
vector member's destructor. -/
theorem C16_accounting {cb ns nt} {s : St} (h : Reachable cb ns nt s) (k : ObjId) :
    s.added.count k = s.vec.count k + s.reaped.count k + s.vrel.count k :=
  (inv_reachable h).acct k

/-- an object leaves the vector through destroyObjects only when the vector is its only owner
(`use_count() == 1`: no external copy, no second vector entry, no `ecall` entry) -/
theorem C16_reap_only_unowned {s s' : St} {t : Tid} {skip : List ObjId} {rest : List Frame}
    (hfs : s.stk t = .dCalled :: rest) (hs : step s t (.mtf true skip) = some s') {k : ObjId}
    (hk : k ∈ s'.reaped) : k ∈ s.reaped ∨ (s.ext k = 0 ∧ s.vec.count k = 1 ∧ ∀ u, (u, k) ∉ s.ecs) := by
  simp only [step, hfs, if_true] at hs
  split at hs
  · cases hs
    unfold select at hk; dsimp only at hk
    split at hk
    · exact Or.inl hk
    · simp only [setStk_reaped, List.mem_append, List.mem_filter, Bool.and_eq_true] at hk
      rcases hk with ⟨hv, hsel, _⟩ | hk
      · right
        have hc : s.vec.count k ≥ 1 := List.count_pos_iff.mpr hv
        simp only [selectable, refs, beq_iff_eq] at hsel
        refine ⟨by omega, by omega, fun u hm => ?_⟩
        have : (s.ecs.map Prod.snd).count k > 0 := List.count_pos_iff.mpr (List.mem_map.mpr ⟨(u, k), hm, rfl⟩)
        omega
      · exact Or.inl hk
  · cases hs

/-- `size()` returns the length the vector has at the release of its critical section, which its thread holds -/
theorem C16_size_value {s s' : St} {t : Tid} {rest : List Frame} (hfs : s.stk t = .sizeLocked :: rest)
    (hs : step s t .mul = some s') : s.lock = some t ∧ s'.stk t = .sizeRet s.vec.length :: rest := by
  simp only [step, hfs] at hs
  split at hs
  · cases hs; exact ⟨by assumption, by simp⟩
  · cases hs

theorem C16_size_returned {s s' : St} {t : Tid} {n : Nat} (hs : step s t (.retSize n) = some s') :
    ∃ rest, s.stk t = .sizeRet n :: rest := by
  obtain ⟨fs, hfs, hS⟩ := Step.inv hs
  cases hS with
  | user _ h => cases h
  | sizeRet => exact ⟨_, hfs⟩

/-- **C16_accounting (returned sizes).** For a destroyObjects() call made by user code (`rest` = the caller's frames):
a time-out of the first `try_lock_for` returns the sentinel `size_t(-1)` and touches nothing. -/
theorem C16_destroy_timeout_sentinel {s s' : St} {t : Tid} {skip : List ObjId} {rest : List Frame}
    (hfs : s.stk t = .dCalled :: rest) (hu : userLevel rest = true) (hs : step s t (.mtf false skip) = some s') :
    s'.stk t = .dRet none :: rest ∧ s'.vec = s.vec ∧ s'.lock = s.lock := by
  simp [step, hfs, dDone_user _ _ _ hu] at hs
  subst hs; simp

/-- … a successful first acquisition finds nothing to select, or records, under the lock, the length of the vector after
the erase (the `sz` of the `dUnlock1` frame) -/
theorem C16_destroy_records_size {s s' : St} {t : Tid} {skip : List ObjId} {rest : List Frame}
    (hfs : s.stk t = .dCalled :: rest) (hs : step s t (.mtf true skip) = some s') :
    s.lock = none ∧ s'.lock = some t ∧
      ((s'.stk t = .dUnlock0 :: rest ∧ s'.vec = s.vec) ∨ ∃ ec, s'.stk t = .dUnlock1 s'.vec.length ec :: rest) := by
  simp only [step, hfs, if_true] at hs
  split at hs
  · cases hs
    refine ⟨by assumption, select_lock _ _ _ _, ?_⟩
    unfold select; dsimp only; split
    · left; simp
    · right; exact ⟨_, by simp only [setStk_stk_same, setStk_vec]; rfl⟩
  · cases hs

/-- … the call returns the vector's length at the release of its last critical section -/
theorem C16_destroy_returns_length {s s' : St} {t : Tid} {rest : List Frame}
    (hfs : s.stk t = .dUnlock0 :: rest ∨ s.stk t = .dUnlock2 :: rest) (hu : userLevel rest = true)
    (hs : step s t .mul = some s') : s.lock = some t ∧ s'.stk t = .dRet (some s.vec.length) :: rest := by
  rcases hfs with hfs | hfs
  all_goals
    simp only [step, hfs] at hs
    split at hs
    · cases hs; exact ⟨by assumption, by simp [dDone_user _ _ _ hu, unlock]⟩
    · cases hs

/-- … or, when the second `try_lock_for` times out, the recorded `sz` (after a throwing callback: `C20_dd_returns_size`) -/
theorem C16_destroy_second_timeout {s s' : St} {t : Tid} {sz : Nat} {skip : List ObjId} {rest : List Frame}
    (hfs : s.stk t = .dRelock sz :: rest) (hu : userLevel rest = true) (hs : step s t (.mtf false skip) = some s') :
    s'.stk t = .dRet (some sz) :: rest := by
  simp [step, hfs, dDone_user _ _ _ hu] at hs
  subst hs; simp

theorem C16_destroy_returned {s s' : St} {t : Tid} {r : Option Nat} (hs : step s t (.retDestroy r) = some s') :
    ∃ rest, s.stk t = .dRet r :: rest := by
  obtain ⟨fs, hfs, hS⟩ := Step.inv hs
  cases hS with
  | user _ h => cases h
  | dRet => exact ⟨_, hfs⟩

/-! ## Non-vacuity: concrete reachable states (callback installed, one script thread, two objects) -/

/-- thread 1 creates objects 1 and 2, hands both over, destroyObjects reaps both: callbacks, then destructors -/
def witnessTrace : List (Tid × Ev) :=
  [(1, .new 1), (1, .new 2), (1, .callAdd 1 true), (1, .mlk), (1, .mul), (1, .retAdd true),
   (1, .callAdd 2 true), (1, .mlk), (1, .mul), (1, .retAdd true),
   (1, .callDestroy), (1, .mtf true []), (1, .mul), (1, .ucb 1), (1, .uce 1), (1, .ucb 2), (1, .uce 2),
   (1, .pdt 1), (1, .pde 1), (1, .pdt 2), (1, .pde 2), (1, .mtf true []), (1, .mul), (1, .retDestroy (some 0)),
   (0, .callDtor), (0, .retDtor)]

/-- after the last callback: object 1 is dying (its destructor is next), object 2 is still in `ecall`, both callbacks
have run once; the lock is free (`C16_callback_once`, `C16_outside_lock`, `C16_no_leak`) -/
example : ∃ s, Reachable true 0 1 s ∧ s.stk 1 = [.dying 1, .dClear 0 [2] [1, 2] false] ∧ s.lock = none ∧
    s.pend = [1] ∧ s.ecs = [(1, 2)] ∧ s.vec = [] ∧ (step s 1 (.pdt 1)).isSome = true :=
  ⟨_, ⟨witnessTrace.take 17, rfl⟩, by decide, by decide, by decide, by decide, by decide, by decide⟩

/-- under the lock, right after the selection: both objects moved from the vector to `ecall` (`C16_reap_only_unowned`,
`C16_destroy_records_size`, `C16_accounting`) -/
example : ∃ s, Reachable true 0 1 s ∧ s.stk 1 = [.dUnlock1 0 [1, 2]] ∧ s.lock = some 1 ∧ s.reaped = [1, 2] ∧
    s.added = [2, 1] ∧ s.vec = [] :=
  ⟨_, ⟨witnessTrace.take 12, rfl⟩, by decide, by decide, by decide, by decide, by decide⟩

/-- the whole run: both objects destroyed exactly once, the container's destructor has returned, everybody idle
(`C16_once`, `C16_once_final`, `C16_dtor_returns_empty`) -/
example : ∃ s, Reachable true 0 1 s ∧ s.destroyed = [2, 1] ∧ s.vdead = true ∧ s.stk 0 = [] ∧ s.stk 1 = [] ∧
    s.created = [2, 1] ∧ s.ext 1 = 0 ∧ s.ext 2 = 0 :=
  ⟨_, ⟨witnessTrace, rfl⟩, by decide, by decide, by decide, by decide, by decide, by decide, by decide⟩

/-- inside a callback the thread may re-enter (`C16_reentrant_enabled`): a nested size() is accepted and its
acquisition is enabled -/
example : ∃ s, Reachable true 0 1 s ∧ userLevel (s.stk 1) = true ∧ s.stk 1 ≠ [] ∧
    (step s 1 .callSize).isSome = true :=
  ⟨_, ⟨witnessTrace.take 14, rfl⟩, by decide, by decide, by decide⟩

/-! ## Liveness: re-entrant calls never deadlock and every call returns — for every scheduler

Environment events (`isEnv`, Proof/DDLive.lean) are the decisions of user code: `new` / `dup` / `drop` and the five
calls, at script level, inside a callback or inside a payload destructor.  Every other event is a step of the
library: lock, unlock, `try_lock_for` outcomes (a time-out ends the call), the start and the end of a callback,
the start and the end of a payload destructor, sleeps, yields, returns.
* `C16_terminates` (no livelock): an execution that makes no environment event from some point on cannot be infinite,
  whatever the scheduler does: every library step lowers `5·|vec| + Σ_t srank (stk t)` (each stored element pays
  for its selection, its callback and its destruction; the retry loops of `destroyObjects(delay)` and of the
  container's destructor pay for their remaining rounds).
* `C16_thread_cases`, `C16_progress`, `C16_stuck_all_returned` (no deadlock, also for calls made from inside a
  callback or a payload destructor): every thread inside a call has an enabled library step, or waits in
  `addObjectsToBeDestroyed` / `size` for the lock held by ANOTHER thread, which can release it.  Needs the stack
  grammar (`Shape`), `HoldsL` and `DyP` (Proof/DDProg.lean).
  The only exception is a client error: `addObjectsToBeDestroyed(k)` in flight while no external reference to `k`
  exists (the model counts external references per object, not per owner).
Not covered: starvation of one caller by infinitely many calls of others under an unfair mutex. -/

theorem C16_terminates (x : Live.Exec step) (N : Nat) (ts : List Tid) (hnd : ts.Nodup)
    (hts : ∀ n, N ≤ n → x.who n ∈ ts) (hnc : ∀ n, N ≤ n → isEnv (x.ev n) = false) : False :=
  Live.no_infinite_runG rankedG ts hnd x N trivial hts hnc

/-- every library step lowers the potential `5·|vec| + srank (stk t)` seen from the stepping thread and leaves the
stacks of the other threads alone -/
theorem C16_step_lowers_potential {s s' : St} {t : Tid} {e : Ev} (h : step s t e = some s') (he : isEnv e = false) :
    pot s' t < pot s t ∧ ∀ u, u ≠ t → s'.stk u = s.stk u :=
  ⟨step_dec h he, fun _ hu => step_stk_other h hu⟩

/-- every thread of a reachable state: outside every call, or a library step is enabled, or it waits in a blocking
acquisition for the lock held by another thread, or the client error `Unowned` -/
theorem C16_thread_cases {cb ns nt} {s : St} (h : Reachable cb ns nt s) (t : Tid) :
    s.stk t = [] ∨ LibEnabled s t ∨ (Waiting s t ∧ ∃ u, s.lock = some u ∧ u ≠ t) ∨ Unowned s t :=
  thread_cases (progInv_reachable h) t

/-- user code running inside a callback or a payload destructor is never blocked by the library: the frame can end
(`uce` / `pde`), and the nested calls it may make are accepted (`C16_reentrant_enabled`) -/
theorem C16_user_code_can_return {s : St} {t : Tid} {rest : List Frame} :
    (∀ sz ec cbs k todo, s.stk t = .dInCb sz ec cbs k todo :: rest → (step s t (.uce k)).isSome = true) ∧
    (∀ k, s.stk t = .inDt k :: rest → (step s t (.pde k)).isSome = true) := by
  refine ⟨fun sz ec cbs k todo h => ?_, fun k h => by simp [step, h]⟩
  simp only [step, h, if_true]
  split <;> rfl

/-- deadlock-freedom: if some thread is inside a call, some thread has an enabled library step (the thread itself,
or the holder of the lock it waits for) — unless the thread is the client error `Unowned` -/
theorem C16_progress {cb ns nt} {s : St} (h : Reachable cb ns nt s) {t : Tid} (ht : s.stk t ≠ []) :
    (∃ u, LibEnabled s u) ∨ Unowned s t := by
  have hP := progInv_reachable h
  rcases thread_cases hP t with h1 | h1 | ⟨_, u, hu, _⟩ | h1
  · exact absurd h1 ht
  · exact Or.inl ⟨t, h1⟩
  · exact Or.inl ⟨u, holder_lib hP hu⟩
  · exact Or.inr h1

/-- a reachable state without enabled library step: every thread has returned from every call (nested ones
included), except client errors `Unowned` -/
theorem C16_stuck_all_returned {cb ns nt} {s : St} (h : Reachable cb ns nt s) (hstuck : ∀ u, ¬ LibEnabled s u)
    (t : Tid) : s.stk t = [] ∨ Unowned s t := by
  by_cases ht : s.stk t = []
  · exact Or.inl ht
  · rcases C16_progress h ht with ⟨u, hu⟩ | h1
    · exact absurd hu (hstuck u)
    · exact Or.inr h1

/-- the object of a `dying` frame is pending and no two threads are about to destroy the same object -/
theorem C16_dying_unique {cb ns nt} {s : St} (h : Reachable cb ns nt s) {t u : Tid} {k : ObjId} {r1 r2 : List Frame}
    (ht : s.stk t = .dying k :: r1) (hu : s.stk u = .dying k :: r2) : k ∈ s.pend ∧ t = u :=
  ⟨(progInv_reachable h).dyP.pend t k r1 ht, (progInv_reachable h).dyP.uniq t u k r1 r2 ht hu⟩

/-- non-vacuity: in the witness run, inside the callback of object 1 (nested frame on the stack) the potential seen
from thread 1 is positive and the thread has an enabled library step; after the whole run (second example) both
threads are back at script level and the potential is 0 -/
example : ∃ s, Reachable true 0 1 s ∧ userLevel (s.stk 1) = true ∧ s.stk 1 ≠ [] ∧ 0 < pot s 1 ∧ LibEnabled s 1 :=
  ⟨_, ⟨witnessTrace.take 14, rfl⟩, by decide, by decide, by decide, ⟨.uce 1, rfl, by decide⟩⟩

example : ∃ s, Reachable true 0 1 s ∧ s.stk 0 = [] ∧ s.stk 1 = [] ∧ pot s 0 = 0 ∧ pot s 1 = 0 :=
  ⟨_, ⟨witnessTrace, rfl⟩, by decide, by decide, by decide, by decide⟩

end ConcVerif.DD
