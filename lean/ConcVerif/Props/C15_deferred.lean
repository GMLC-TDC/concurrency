import ConcVerif.Proof.DeferredR
import ConcVerif.Props.C02_deferred
/-! # C15 (deferred_guarded part) — `load()` reads one atomic register

`deferred_guarded`'s only whole-object operation is `load()` (copy under the shared lock); reads
through a shared handle are covered by the same statements (`holdsS`).  The writes of the register
are the applications of the submitted tasks.  `runL` (`Proof/DeferredR.lean`) is the model's own run
extended by the ghost log `l` of completed applications `(task, value it left)`; it accepts exactly
the traces `run` accepts (`runL_fst`, `runL_of_run`), so all quantifiers are over every accepted
trace (any threads, programs, interleavings, throws).  The lock-family half is `Props/C15.lean`. -/
namespace ConcVerif.Deferred

/-- A load never returns a partially written value: the value read under the shared lock is the
model's `val`, nobody holds `m` exclusively and NO task function is running at that moment (so no
modification is in progress), and `val` is the value left by the last COMPLETED application — the log
then lists exactly the applied tasks. -/
theorem C15_deferred_load_atomic {spur : Bool} {es : List (Tid × Ev)} {s s' : St} {l : VLog} {t : Tid} {v : Int}
    (h : runL spur es = some (s, l)) (hS : (s.pc t).holdsS = true) (hs : step s t (.prd v) = some s') :
    v = s.val ∧ (∀ u, (s.pc u).running = none) ∧ s.mx = none ∧ v = lastVal l ∧ l.map Prod.fst = s.applied := by
  obtain ⟨hR, hr⟩ := invR_runL h
  have hv := (C02_deferred_read_under_lock hr hs).1
  have hq : ∀ u, (s.pc u).running = none := fun u => (C02_deferred_rw_excl hr hS u).1
  have ha := hR.a2 hq
  exact ⟨hv, hq, (C02_deferred_rw_excl hr hS t).2.2, by rw [hv, ha.2], ha.1.symm⟩

/-- the pcs at which `load()` reads are strictly inside the call: after `callLoad`, before `ret`/`exc` -/
theorem C15_deferred_load_inside_call {s s' : St} {t : Tid} {e : Ev} (hs : step s t e = some s') :
    (e = .callLoad → s.pc t = .idle false ∧ s'.pc t = .sFlag .load) ∧
    (∀ thr, s.pc t = .ldRet thr → (e = .ret ∨ e = .exc) ∧ s'.pc t = .idle false) := by
  constructor
  · intro he; subst he
    generalize hp : s.pc t = p
    cases Step.of_step hp hs with
    | callLoad => exact ⟨rfl, upd_same _ _ _⟩
  · intro thr hp
    cases Step.of_step hp hs with
    | retL => exact ⟨.inl rfl, upd_same _ _ _⟩
    | excL => exact ⟨.inr rfl, upd_same _ _ _⟩

/-- Linearizability of loads against the applied modifications.  Take any accepted trace, cut at an
earlier point `es0` (e.g. the call of the load), at the read `(t, prd v)` made under the shared lock,
and at a later point (e.g. its return).  The value returned is the value after the prefix `l1` of the
final log — the completed applications at the read — and this prefix contains every application
completed (and every task applied) before the earlier point and only applications made before the
later one: the linearisation point (the read) lies between call and return, and the value is one that
the register really had (the one left by the last task of `l1`, or the initial 0). -/
theorem C15_deferred_load_linearizable {spur : Bool} {es0 es1 es2 : List (Tid × Ev)} {s0 s1 s2 : St}
    {l0 l1 l2 : VLog} {t : Tid} {v : Int}
    (h0 : runL spur es0 = some (s0, l0)) (h1 : runL spur (es0 ++ es1) = some (s1, l1))
    (hS : (s1.pc t).holdsS = true)
    (h2 : runL spur (es0 ++ es1 ++ (t, .prd v) :: es2) = some (s2, l2)) :
    v = lastVal l1 ∧ l1.map Prod.fst = s1.applied ∧ l0 <+: l1 ∧ l1 <+: l2 ∧
      s0.applied <+: s1.applied ∧ s1.applied <+: s2.applied := by
  unfold runL at h0 h1 h2
  have h01 : runFrom stepL (s0, l0) es1 = some (s1, l1) := by
    rw [runFrom_append, h0] at h1; simpa using h1
  have h12 : runFrom stepL (s1, l1) ((t, .prd v) :: es2) = some (s2, l2) := by
    rw [runFrom_append, h1] at h2; simpa using h2
  have hm01 := runFromL_mono h01
  have hm12 := runFromL_mono h12
  rw [runFrom_cons] at h12
  cases hs : step s1 t (.prd v) with
  | none => simp [stepL, hs] at h12
  | some s1' =>
    have hat := C15_deferred_load_atomic (spur := spur) (es := es0 ++ es1) h1 hS hs
    exact ⟨hat.2.2.2.1, hat.2.2.2.2, hm01.1, hm12.1, hm01.2, hm12.2⟩

/-- Successive reads (by one thread or by several) see non-decreasing prefixes: the log at a later
read extends the log at an earlier one, so a later load never returns an older state of the register. -/
theorem C15_deferred_load_monotone {spur : Bool} {es1 es2 : List (Tid × Ev)} {s1 s2 : St} {l1 l2 : VLog}
    (h1 : runL spur es1 = some (s1, l1)) (h2 : runL spur (es1 ++ es2) = some (s2, l2)) :
    l1 <+: l2 ∧ s1.applied <+: s2.applied := by
  unfold runL at h1 h2
  rw [runFrom_append, h1] at h2
  exact runFromL_mono (by simpa using h2)

/-- the ghost extension is conservative: same accepted traces, same states -/
theorem C15_deferred_log_conservative {spur : Bool} {es : List (Tid × Ev)} :
    (∀ s l, runL spur es = some (s, l) → run spur es = some s) ∧
    (∀ s, run spur es = some s → ∃ l, runL spur es = some (s, l)) :=
  ⟨fun _ _ h => runL_fst h, fun _ h => runL_of_run h⟩

/-! Non-vacuity: task 1 applied directly (0 → 1); thread 2 calls `load()`; meanwhile task 2 is applied
(1 → 5) before the shared acquisition; the load reads 5 = the value left by task 2, with the log
`[(1,1),(2,5)]`; task 3 (throws after writing 16) comes later: final log `[(1,1),(2,5),(3,16)]`. -/
example : ∃ s l, runL false [(1, .callMod 1 false), (1, .mtl true), (1, .fld false), (1, .ucb 1), (1, .prd 0),
      (1, .pwr 1), (1, .uce 1 1), (1, .mul), (1, .ret),
      (2, .callLoad), (2, .fld false),
      (1, .callMod 2 true), (1, .mtl true), (1, .fld false), (1, .ucb 2), (1, .prd 1), (1, .pwr 5), (1, .uce 2 5),
      (1, .mul), (1, .ret),
      (2, .slk), (2, .prd 5), (2, .sul), (2, .ret),
      (1, .callMod 3 false), (1, .mtl true), (1, .fld false), (1, .ucb 3), (1, .prd 5), (1, .pwr 16), (1, .uth 3),
      (1, .mul), (1, .exc)] = some (s, l) ∧ l = [(1, 1), (2, 5), (3, 16)] ∧ s.applied = [1, 2, 3] ∧ s.val = 16 :=
  ⟨_, _, rfl, rfl, rfl, rfl⟩

example : ∃ s l, runL false [(1, .callMod 1 false), (1, .mtl true), (1, .fld false), (1, .ucb 1), (1, .prd 0),
      (1, .pwr 1), (1, .uce 1 1), (1, .mul), (1, .ret),
      (2, .callLoad), (2, .fld false), (2, .slk)] = some (s, l) ∧ (s.pc 2).holdsS = true ∧
      (step s 2 (.prd 1)).isSome = true ∧ lastVal l = 1 ∧ step s 2 (.prd 0) = none :=
  ⟨_, _, rfl, rfl, rfl, rfl, rfl⟩

end ConcVerif.Deferred
