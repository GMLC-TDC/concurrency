import ConcVerif.Props.C01
/-! # C02 — readers and writers never overlap; readers can share

Same model (`Model/LockFam.lean`).  `cap = true` models `shared_mutex` / `shared_timed_mutex`,
`cap = false` models `mutex` / `timed_mutex` (the `shared_locker` fallback).  The deferred_guarded
half of C02 is in `Props/C02_deferred.lean`. -/
namespace ConcVerif.LockFam

/-- A thread holding a shared handle (or inside `read`) never coexists with an exclusive holder. -/
theorem C02_rw_excl {en cap : Bool} {s : St} (h : Reachable en cap s) {t u : Tid} (hs : s.held t = .S) :
    s.held u ≠ .X := by
  intro hx
  by_cases hut : t = u
  · subst hut; rw [hs] at hx; cases hx
  · have := C01_excl h hx hut; rw [hs] at this; cases this

/-- … no modification is accepted while any thread holds the mutex in shared mode … -/
theorem C02_no_write_under_reader {en cap : Bool} {s : St} (h : Reachable en cap s) (he : s.enabled = true)
    {t u : Tid} (hs : s.held t = .S) (v : Int) : step s u (.wr v) = none := by
  cases hr : step s u (.wr v) with
  | none => rfl
  | some s' => exact absurd (C01_write_exclusive h he hr) (C02_rw_excl h hs)

/-- … and no exclusive acquisition (handle or modifying operation) can start while a shared handle is
alive: the mutex refuses it. -/
theorem C02_no_writer_starts {en cap : Bool} {s : St} (h : Reachable en cap s) {t u : Tid} (hs : s.held t = .S) :
    s.acquire u .X = none := by
  have hg := (inv_reachable h).g
  have hin := (hg.sharedHeld t).2 hs
  have : s.shared ≠ [] := by intro h0; rw [h0] at hin; simp at hin
  simp [St.acquire, this]

/-- A reader is never blocked merely by other readers: with a shared-capable mutex a blocking
`lock_shared` is enabled whenever no thread holds the mutex exclusively. -/
theorem C02_reader_not_blocked_by_readers {en cap : Bool} {s : St} (h : Reachable en cap s)
    (he : s.enabled = true) (hc : s.capable = true) (hx : s.excl = none) {t : Tid} {how : How}
    (hp : (s.loc t).pc = .acq .S how) : (step s t (.lk .S how true)).isSome = true := by
  have := sess_lock_enabled (inv_reachable h) hp he hx
  rw [hc] at this; exact this Side.noConfusion

/-- Two readers really can hold shared handles at the same time (constructive witness). -/
theorem C02_readers_share : ∃ s, Reachable true true s ∧ s.held 1 = .S ∧ s.held 2 = .S ∧
    (s.loc 1).pc = .sess ∧ (s.loc 2).pc = .sess :=
  ⟨_, ⟨[(1, .callSess), (1, .acq .S .block), (1, .lk .S .block true), (1, .got .a true),
        (2, .callSess), (2, .acq .S .try_), (2, .lk .S .try_ true), (2, .got .a true),
        (1, .rd 0), (2, .rd 0)], rfl⟩, by decide, by decide, by decide, by decide⟩

/-- With a plain mutex the shared API degrades to exclusive access: nobody ever holds a shared
mode, so C01's mutual exclusion applies to "readers" too. -/
theorem C02_plain_degrades {en : Bool} {s : St} (h : Reachable en false s) (t : Tid) : s.held t ≠ .S := by
  intro hs
  have hg := (inv_reachable h).g
  have hin := (hg.sharedHeld t).2 hs
  have := hg.capS (by intro h0; rw [h0] at hin; simp at hin)
  rw [(reachable_config h).2] at this; cases this

/-- and on a plain mutex a `lock_shared` is accepted only as an exclusive acquisition -/
example : (run true false [(1, .callSess), (1, .acq .S .block), (1, .lk .S .block true)]).isSome = false ∧
    (run true false [(1, .callSess), (1, .acq .S .block), (1, .lk .X .block true)]).isSome = true := by
  decide

end ConcVerif.LockFam
