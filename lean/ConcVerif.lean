import ConcVerif.Base.HB
import ConcVerif.Base.Live
import ConcVerif.Base.TS
import ConcVerif.Model.Barrier
import ConcVerif.Model.Cow
import ConcVerif.Model.DD
import ConcVerif.Model.DObj
import ConcVerif.Model.Deferred
import ConcVerif.Model.LR
import ConcVerif.Model.Latch
import ConcVerif.Model.LockFam
import ConcVerif.Model.Rcu
import ConcVerif.Model.SOH
import ConcVerif.Model.Trigger
import ConcVerif.Model.TripWire
import ConcVerif.Proof.Barrier
import ConcVerif.Proof.BarrierCalls
import ConcVerif.Proof.BarrierLive
import ConcVerif.Proof.Cow
import ConcVerif.Proof.CowFrame
import ConcVerif.Proof.CowInv
import ConcVerif.Proof.CowLR
import ConcVerif.Proof.CowRel
import ConcVerif.Proof.CowStep
import ConcVerif.Proof.DD
import ConcVerif.Proof.DDDtor
import ConcVerif.Proof.DDInv
import ConcVerif.Proof.DDLife
import ConcVerif.Proof.DDLive
import ConcVerif.Proof.DDOwn
import ConcVerif.Proof.DDProg
import ConcVerif.Proof.DDSil
import ConcVerif.Proof.DDStep
import ConcVerif.Proof.DObj
import ConcVerif.Proof.DObjConc
import ConcVerif.Proof.DObjLive
import ConcVerif.Proof.Deferred
import ConcVerif.Proof.DeferredC
import ConcVerif.Proof.DeferredLive
import ConcVerif.Proof.DeferredN
import ConcVerif.Proof.DeferredO
import ConcVerif.Proof.DeferredR
import ConcVerif.Proof.HB
import ConcVerif.Proof.HBBarrier
import ConcVerif.Proof.HBComplete
import ConcVerif.Proof.HBCow
import ConcVerif.Proof.HBCowMain
import ConcVerif.Proof.HBCowProj
import ConcVerif.Proof.HBDD
import ConcVerif.Proof.HBDDMap
import ConcVerif.Proof.HBDDStep
import ConcVerif.Proof.HBDObj
import ConcVerif.Proof.HBDObjPub
import ConcVerif.Proof.HBDeferred
import ConcVerif.Proof.HBDeferredObj
import ConcVerif.Proof.HBEmbed
import ConcVerif.Proof.HBKn
import ConcVerif.Proof.HBLR
import ConcVerif.Proof.HBLRCls
import ConcVerif.Proof.HBLRInv
import ConcVerif.Proof.HBLRMain
import ConcVerif.Proof.HBLRStep
import ConcVerif.Proof.HBLatch
import ConcVerif.Proof.HBLock
import ConcVerif.Proof.HBLockFam
import ConcVerif.Proof.HBPub
import ConcVerif.Proof.HBRcu
import ConcVerif.Proof.HBRcuPub
import ConcVerif.Proof.HBRcuRReclaim
import ConcVerif.Proof.HBRcuReclaim
import ConcVerif.Proof.HBRcuSafe
import ConcVerif.Proof.HBRcuStep
import ConcVerif.Proof.HBSOH
import ConcVerif.Proof.HBTrigger
import ConcVerif.Proof.HBTripWire
import ConcVerif.Proof.HBUtil
import ConcVerif.Proof.LR
import ConcVerif.Proof.LRLive
import ConcVerif.Proof.LRObs
import ConcVerif.Proof.LRRel
import ConcVerif.Proof.LRStep
import ConcVerif.Proof.LRVal
import ConcVerif.Proof.Latch
import ConcVerif.Proof.LatchCalls
import ConcVerif.Proof.LatchLive
import ConcVerif.Proof.LockFam
import ConcVerif.Proof.LockFamCounts
import ConcVerif.Proof.LockFamLive
import ConcVerif.Proof.LockFamReg
import ConcVerif.Proof.LockFamStep
import ConcVerif.Proof.Rcu
import ConcVerif.Proof.RcuA
import ConcVerif.Proof.RcuAll
import ConcVerif.Proof.RcuB
import ConcVerif.Proof.RcuC
import ConcVerif.Proof.RcuD
import ConcVerif.Proof.RcuE
import ConcVerif.Proof.RcuF
import ConcVerif.Proof.RcuFail
import ConcVerif.Proof.RcuHist
import ConcVerif.Proof.RcuList
import ConcVerif.Proof.RcuSer
import ConcVerif.Proof.RcuSimp
import ConcVerif.Proof.RcuStep
import ConcVerif.Proof.RcuTrav
import ConcVerif.Proof.RcuVal
import ConcVerif.Proof.SOH
import ConcVerif.Proof.SOHLive
import ConcVerif.Proof.SOHSpec
import ConcVerif.Proof.Trigger
import ConcVerif.Proof.TriggerLive
import ConcVerif.Proof.TriggerStep
import ConcVerif.Proof.TripWire
import ConcVerif.Props.C01
import ConcVerif.Props.C02
import ConcVerif.Props.C02_deferred
import ConcVerif.Props.C03
import ConcVerif.Props.C04
import ConcVerif.Props.C05
import ConcVerif.Props.C06
import ConcVerif.Props.C07
import ConcVerif.Props.C07_cow
import ConcVerif.Props.C07_dd
import ConcVerif.Props.C07_deferred
import ConcVerif.Props.C07_deferred_obj
import ConcVerif.Props.C07_dobj
import ConcVerif.Props.C07_lr
import ConcVerif.Props.C07_rcu
import ConcVerif.Props.C07_soh
import ConcVerif.Props.C07_trigger
import ConcVerif.Props.C07_tripwire
import ConcVerif.Props.C08
import ConcVerif.Props.C08_deferred
import ConcVerif.Props.C09
import ConcVerif.Props.C10
import ConcVerif.Props.C11
import ConcVerif.Props.C12
import ConcVerif.Props.C13
import ConcVerif.Props.C14_cow
import ConcVerif.Props.C14_lr
import ConcVerif.Props.C14_rcu
import ConcVerif.Props.C15
import ConcVerif.Props.C15_deferred
import ConcVerif.Props.C16
import ConcVerif.Props.C17
import ConcVerif.Props.C18
import ConcVerif.Props.C19
import ConcVerif.Props.C20_cow
import ConcVerif.Props.C20_dd
import ConcVerif.Props.C20_deferred
import ConcVerif.Props.C20_lock
import ConcVerif.Props.C20_lr
import ConcVerif.Props.C20_soh
